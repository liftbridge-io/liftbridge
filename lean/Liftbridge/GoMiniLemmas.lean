/-
One equation per constructor of the embedding (each holds by `rfl`), collected in the simp set `gomini`. A proof
about a translated function either runs the whole body with `simp [gomini, …]` (enough when the run branches on
symbolic values only near its end), or cuts the run with the lemmas of GoMiniRun.lean and evaluates the closed
pieces by `rfl`. The general `simp` set is deliberately not used on the interpreter: unfolding it wholesale does
not terminate in reasonable time.
-/
import Liftbridge.GoMini
import Liftbridge.GoMiniAttr

namespace Liftbridge.GoMini

attribute [gomini] R.bind_ok R.bind_panic R.bind_stuck R.pure_eq

/- The rules below have right-hand sides `x >>= fun r => …`. Left as `>>=`, simp's congruence would simplify the continuation
under its binder, i.e. run the rest of the body on an unknown state, before `x` is known. Unfolded to `match x with | .ok a => f a | …`
the discriminant is simplified first and the continuation is only ever visited on the value it receives. -/
attribute [gomini] bind R.bind

mutual
theorem Val.beq_self : ∀ v : Val, Val.beq v v = true
  | .int a => by simp [Val.beq]
  | .bool a => by simp [Val.beq]
  | .str a => by simp [Val.beq]
  | .nil => by simp [Val.beq]
  | .list xs => by simp [Val.beq, Val.beqList_self xs]
  | .struct fs => by simp [Val.beq, Val.beqFields_self fs]
  | .tup xs => by simp [Val.beq, Val.beqList_self xs]
theorem Val.beqList_self : ∀ xs : List Val, Val.beqList xs xs = true
  | [] => by simp [Val.beqList]
  | x :: xs => by simp [Val.beqList, Val.beq_self x, Val.beqList_self xs]
theorem Val.beqFields_self : ∀ fs : List (String × Val), Val.beqFields fs fs = true
  | [] => by simp [Val.beqFields]
  | (k, x) :: xs => by simp [Val.beqFields, Val.beq_self x, Val.beqFields_self xs]
end
attribute [gomini] Val.beq_self

mutual
theorem Val.eq_of_beq : ∀ a b : Val, Val.beq a b = true → a = b
  | .int a, .int b, h => by simp [Val.beq] at h; rw [h]
  | .bool a, .bool b, h => by simp [Val.beq] at h; rw [h]
  | .str a, .str b, h => by simp [Val.beq] at h; rw [h]
  | .nil, .nil, _ => rfl
  | .list xs, .list ys, h => by simp [Val.beq] at h; rw [Val.eq_of_beqList xs ys h]
  | .struct fs, .struct gs, h => by simp [Val.beq] at h; rw [Val.eq_of_beqFields fs gs h]
  | .tup xs, .tup ys, h => by simp [Val.beq] at h; rw [Val.eq_of_beqList xs ys h]
  | .int _, .bool _, h | .int _, .str _, h | .int _, .nil, h | .int _, .list _, h | .int _, .struct _, h | .int _, .tup _, h => by simp [Val.beq] at h
  | .bool _, .int _, h | .bool _, .str _, h | .bool _, .nil, h | .bool _, .list _, h | .bool _, .struct _, h | .bool _, .tup _, h => by simp [Val.beq] at h
  | .str _, .int _, h | .str _, .bool _, h | .str _, .nil, h | .str _, .list _, h | .str _, .struct _, h | .str _, .tup _, h => by simp [Val.beq] at h
  | .nil, .int _, h | .nil, .bool _, h | .nil, .str _, h | .nil, .list _, h | .nil, .struct _, h | .nil, .tup _, h => by simp [Val.beq] at h
  | .list _, .int _, h | .list _, .bool _, h | .list _, .str _, h | .list _, .nil, h | .list _, .struct _, h | .list _, .tup _, h => by simp [Val.beq] at h
  | .struct _, .int _, h | .struct _, .bool _, h | .struct _, .str _, h | .struct _, .nil, h | .struct _, .list _, h | .struct _, .tup _, h => by simp [Val.beq] at h
  | .tup _, .int _, h | .tup _, .bool _, h | .tup _, .str _, h | .tup _, .nil, h | .tup _, .list _, h | .tup _, .struct _, h => by simp [Val.beq] at h
theorem Val.eq_of_beqList : ∀ xs ys : List Val, Val.beqList xs ys = true → xs = ys
  | [], [], _ => rfl
  | x :: xs, y :: ys, h => by
    simp [Val.beqList] at h
    rw [Val.eq_of_beq x y h.1, Val.eq_of_beqList xs ys h.2]
  | [], _ :: _, h => by simp [Val.beqList] at h
  | _ :: _, [], h => by simp [Val.beqList] at h
theorem Val.eq_of_beqFields : ∀ fs gs : List (String × Val), Val.beqFields fs gs = true → fs = gs
  | [], [], _ => rfl
  | (k, x) :: xs, (l, y) :: ys, h => by
    simp [Val.beqFields] at h
    rw [h.1.1, Val.eq_of_beq x y h.1.2, Val.eq_of_beqFields xs ys h.2]
  | [], _ :: _, h => by simp [Val.beqFields] at h
  | _ :: _, [], h => by simp [Val.beqFields] at h
end

section
variable (p : Prog) (x : Ext) (cb : List Stmt → St → R (Flow × St))

@[gomini] theorem evalE_int (n : Nat) (i : Int) (st : St) : evalE p x cb (n+1) (.int i) st = .ok (.int i, st) := rfl
@[gomini] theorem evalE_bool (n : Nat) (b : Bool) (st : St) : evalE p x cb (n+1) (.bool b) st = .ok (.bool b, st) := rfl
@[gomini] theorem evalE_str (n : Nat) (s : String) (st : St) : evalE p x cb (n+1) (.str s) st = .ok (.str s, st) := rfl
@[gomini] theorem evalE_nil (n : Nat) (st : St) : evalE p x cb (n+1) .nil st = .ok (.nil, st) := rfl
@[gomini] theorem evalE_var (n : Nat) (v : String) (st : St) :
    evalE p x cb (n+1) (.var v) st = (match st.env v with | some w => .ok (w, st) | none => .stuck ("unbound " ++ v)) := rfl
@[gomini] theorem evalE_sel (n : Nat) (e : Expr) (f : String) (st : St) :
    evalE p x cb (n+1) (.sel e f) st = (evalE p x cb n e st >>= fun r => getField f r.1 >>= fun v => pure (v, r.2)) := rfl
@[gomini] theorem evalE_len (n : Nat) (e : Expr) (st : St) :
    evalE p x cb (n+1) (.len e) st = (evalE p x cb n e st >>= fun r =>
      match lenOf r.1 with
      | some k => pure (.int k, r.2)
      | none => .stuck "len") := rfl
@[gomini] theorem lenOf_list (xs : List Val) : lenOf (.list xs) = some (Int.ofNat xs.length) := rfl
@[gomini] theorem lenOf_nil : lenOf .nil = some 0 := rfl
@[gomini] theorem lenOf_struct (fs : List (String × Val)) : lenOf (.struct fs) = some (Int.ofNat fs.length) := rfl
@[gomini] theorem evalE_idx (n : Nat) (e i : Expr) (st : St) :
    evalE p x cb (n+1) (.idx e i) st = (evalE p x cb n e st >>= fun r => evalE p x cb n i r.2 >>= fun r2 =>
      match r.1, r2.1 with
      | .struct fs, .str k => .ok ((lookup k fs).getD .nil, r2.2)
      | _, _ =>
      match asList r.1, r2.1 with
      | some xs, .int k =>
        if k < 0 then .panic else match xs[k.toNat]? with
          | some y => .ok (y, r2.2)
          | none => .panic
      | _, _ => .stuck "index") := rfl
@[gomini] theorem evalE_bin (n : Nat) (op : String) (a b : Expr) (st : St) :
    evalE p x cb (n+1) (.bin op a b) st = (evalE p x cb n a st >>= fun r1 => evalE p x cb n b r1.2 >>= fun r2 =>
      binVal op r1.1 r2.1 >>= fun r => pure (r, r2.2)) := rfl
@[gomini] theorem evalE_and (n : Nat) (a b : Expr) (st : St) :
    evalE p x cb (n+1) (.and a b) st = (evalE p x cb n a st >>= fun r1 =>
      match r1.1 with
      | .bool false => pure (.bool false, r1.2)
      | .bool true => evalE p x cb n b r1.2 >>= fun r2 =>
        match r2.1 with
        | .bool c => pure (.bool c, r2.2)
        | _ => .stuck "&& on non-bool"
      | _ => .stuck "&& on non-bool") := rfl
@[gomini] theorem evalE_or (n : Nat) (a b : Expr) (st : St) :
    evalE p x cb (n+1) (.or a b) st = (evalE p x cb n a st >>= fun r1 =>
      match r1.1 with
      | .bool true => pure (.bool true, r1.2)
      | .bool false => evalE p x cb n b r1.2 >>= fun r2 =>
        match r2.1 with
        | .bool c => pure (.bool c, r2.2)
        | _ => .stuck "|| on non-bool"
      | _ => .stuck "|| on non-bool") := rfl
@[gomini] theorem evalE_un (n : Nat) (op : String) (e : Expr) (st : St) :
    evalE p x cb (n+1) (.un op e) st = (evalE p x cb n e st >>= fun r =>
      match op, r.1 with
      | "!", .bool b => pure (.bool (!b), r.2)
      | "-", .int i => pure (.int (-i), r.2)
      | "&", w => pure (w, r.2)
      | "*", w => pure (w, r.2)
      | _, _ => .stuck ("unary " ++ op)) := rfl
@[gomini] theorem evalE_slice_from (n : Nat) (e lo : Expr) (st : St) :
    evalE p x cb (n+1) (.slice e (some lo) none) st = (evalE p x cb n e st >>= fun r =>
      match asList r.1 with
      | none => .stuck "slice of non-list"
      | some xs => evalE p x cb n lo r.2 >>= fun r2 =>
        match r2.1 with
        | .int l => if 0 ≤ l ∧ l ≤ (xs.length : Int) ∧ (xs.length : Int) ≤ xs.length then pure (.list ((xs.take (xs.length : Int).toNat).drop l.toNat), r2.2) else .panic
        | _ => .stuck "slice bound") := rfl
@[gomini] theorem evalE_slice_to (n : Nat) (e hi : Expr) (st : St) :
    evalE p x cb (n+1) (.slice e none (some hi)) st = (evalE p x cb n e st >>= fun r =>
      match asList r.1 with
      | none => .stuck "slice of non-list"
      | some xs => evalE p x cb n hi r.2 >>= fun r2 =>
        match r2.1 with
        | .int h => if (0 : Int) ≤ 0 ∧ 0 ≤ h ∧ h ≤ (xs.length : Int) then pure (.list ((xs.take h.toNat).drop (0 : Int).toNat), r2.2) else .panic
        | _ => .stuck "slice bound") := rfl
@[gomini] theorem evalE_slice_both (n : Nat) (e lo hi : Expr) (st : St) :
    evalE p x cb (n+1) (.slice e (some lo) (some hi)) st = (evalE p x cb n e st >>= fun r =>
      match asList r.1 with
      | none => .stuck "slice of non-list"
      | some xs => evalE p x cb n lo r.2 >>= fun r1 =>
        match r1.1 with
        | .int l => evalE p x cb n hi r1.2 >>= fun r2 =>
          match r2.1 with
          | .int h => if 0 ≤ l ∧ l ≤ h ∧ h ≤ (xs.length : Int) then pure (.list ((xs.take h.toNat).drop l.toNat), r2.2) else .panic
          | _ => .stuck "slice bound"
        | _ => .stuck "slice bound") := rfl
@[gomini] theorem evalE_lit (n : Nat) (fs : List (String × Expr)) (st : St) :
    evalE p x cb (n+1) (.lit fs) st = (evalFields (evalE p x cb n) fs st >>= fun r => pure (.struct r.1, r.2)) := rfl
@[gomini] theorem evalE_listLit (n : Nat) (es : List Expr) (st : St) :
    evalE p x cb (n+1) (.listLit es) st = (evalArgs (evalE p x cb n) es st >>= fun r => pure (.list r.1, r.2)) := rfl
@[gomini] theorem evalE_call (n : Nat) (f : String) (args : List Expr) (st : St) :
    evalE p x cb (n+1) (.call f args) st = (evalArgs (evalE p x cb n) args st >>= fun r => evalE.callFn p x cb f r.1 r.2) := rfl
@[gomini] theorem evalE_callSpread (n : Nat) (f : String) (args : List Expr) (st : St) :
    evalE p x cb (n+1) (.callSpread f args) st = (evalArgs (evalE p x cb n) args st >>= fun r =>
      match spliceLast r.1 with
      | some vs => evalE.callFn p x cb f vs r.2
      | none => .stuck "spread of non-list") := rfl

@[gomini] theorem evalE_mcall (n : Nat) (recv : Expr) (m : String) (args : List Expr) (st : St) :
    evalE p x cb (n+1) (.mcall recv m args) st = (evalE p x cb n recv st >>= fun r0 =>
      evalArgs (evalE p x cb n) args r0.2 >>= fun r1 =>
      match evalE.lookup' m p with
      | some fn =>
        match fn.recv, bindParams fn.params r1.1 with
        | some rn, some env =>
          cb fn.body { env := envOf ((rn, r0.1) :: env), eff := r1.2.eff } >>= fun r2 =>
            pure (flowResult r2.1,
              match recv, r2.2.env rn with
              | .var y, some rv' => ({ r1.2 with eff := r2.2.eff } : St).set y rv'
              | .sel (.var y) f, some rv' =>
                if Val.beq r0.1 rv' then { r1.2 with eff := r2.2.eff } else
                (match ({ r1.2 with eff := r2.2.eff } : St).env y with
                 | some (.struct fs) => ({ r1.2 with eff := r2.2.eff } : St).set y (.struct (update f rv' fs))
                 | _ => { r1.2 with eff := r2.2.eff })
              | _, _ => { r1.2 with eff := r2.2.eff })
        | _, _ => .stuck ("arity " ++ m)
      | none =>
        match r0.1, r1.1 with
        | .struct fs, [] => match lookup m fs with
          | some v => pure (v, r1.2)
          | none => match x m [r0.1] r1.2.eff with
            | some v => pure (v, r1.2.log m [])
            | none => pure (.nil, r1.2.log m [])
        | .nil, _ => .panic
        | _, _ => match x m (r0.1 :: r1.1) r1.2.eff with
          | some v => pure (v, r1.2.log m r1.1)
          | none => pure (.nil, r1.2.log m r1.1)) := rfl
@[gomini] theorem evalE_search (n : Nat) (ne : Expr) (i : String) (pred : Expr) (st : St) :
    evalE p x cb (n+1) (.search ne i pred) st = (evalE p x cb n ne st >>= fun r =>
      match r.1 with
      | .int k =>
        if k < 0 then .stuck "sort.Search with negative n" else
          search k.toNat (fun h => match evalE p x cb n pred (r.2.set i (.int h)) with
            | .ok (.bool b, _) => .ok b
            | .ok _ => .stuck "search predicate not bool"
            | .panic => .panic
            | .stuck w => .stuck w) >>= fun j => pure (.int j, r.2)
      | _ => .stuck "sort.Search n") := rfl
theorem callFn_def (f : String) (vs : List Val) (st1 : St) :
    evalE.callFn p x cb f vs st1 = (match builtin f vs with
    | some r => r >>= fun v => pure (v, st1)
    | none =>
      match evalE.lookup' f p with
      | some fn =>
        match fn.recv, bindParams fn.params vs with
        | none, some env => cb fn.body { env := envOf env, eff := st1.eff } >>= fun r =>
            pure (flowResult r.1, { st1 with eff := r.2.eff })
        | _, _ => .stuck ("arity " ++ f)
      | none => match x f vs st1.eff with
        | some v => pure (v, st1.log f vs)
        | none => pure (.nil, st1.log f vs)) := rfl
attribute [gomini] callFn_def

@[gomini] theorem evalArgs_nil (ev : Expr → St → R (Val × St)) (st : St) : evalArgs ev [] st = .ok ([], st) := rfl
@[gomini] theorem evalArgs_cons (ev : Expr → St → R (Val × St)) (e : Expr) (rest : List Expr) (st : St) :
    evalArgs ev (e :: rest) st = (ev e st >>= fun r => evalArgs ev rest r.2 >>= fun r2 => pure (r.1 :: r2.1, r2.2)) := rfl
@[gomini] theorem evalFields_nil (ev : Expr → St → R (Val × St)) (st : St) : evalFields ev [] st = .ok ([], st) := rfl
@[gomini] theorem evalFields_cons (ev : Expr → St → R (Val × St)) (f : String) (e : Expr) (rest : List (String × Expr)) (st : St) :
    evalFields ev ((f, e) :: rest) st = (ev e st >>= fun r => evalFields ev rest r.2 >>= fun r2 => pure ((f, r.1) :: r2.1, r2.2)) := rfl

@[gomini] theorem runBlock_nil (ex : Stmt → St → R (Flow × St)) (st : St) : runBlock ex [] st = .ok (.next, st) := rfl
@[gomini] theorem runBlock_cons (ex : Stmt → St → R (Flow × St)) (s : Stmt) (rest : List Stmt) (st : St) :
    runBlock ex (s :: rest) st = (match ex s st with
      | .ok (.next, st') => runBlock ex rest st'
      | other => other) := rfl

@[gomini] theorem runRange_nil (blk : St → R (Flow × St)) (k v : Option String) (i : Nat) (st : St) :
    runRange blk k v i [] st = .ok (.next, st) := rfl
@[gomini] theorem runRange_cons (blk : St → R (Flow × St)) (k v : Option String) (i : Nat) (y : Val) (ys : List Val) (st : St) :
    runRange blk k v i (y :: ys) st =
      (match blk (match v with | some vn => (match k with | some kn => st.set kn (.int i) | none => st).set vn y
                               | none => (match k with | some kn => st.set kn (.int i) | none => st)) with
      | .ok (.next, st') => runRange blk k v (i + 1) ys st'
      | .ok (.cont, st') => runRange blk k v (i + 1) ys st'
      | .ok (.brk, st') => .ok (.next, st')
      | other => other) := rfl
end

/-! ### statements -/
section
variable (p : Prog) (x : Ext)

@[gomini] theorem exec_skip (n : Nat) (w : String) (st : St) : exec p x (n+1) (.skip w) st = .ok (.next, st) := rfl
@[gomini] theorem exec_brk (n : Nat) (st : St) : exec p x (n+1) .brk st = .ok (.brk, st) := rfl
@[gomini] theorem exec_cont (n : Nat) (st : St) : exec p x (n+1) .cont st = .ok (.cont, st) := rfl
@[gomini] theorem exec_expr (n : Nat) (e : Expr) (st : St) :
    exec p x (n+1) (.expr e) st = (evalE p x (runBlock (exec p x n)) n e st >>= fun r => pure (.next, r.2)) := rfl
@[gomini] theorem exec_ret (n : Nat) (es : List Expr) (st : St) :
    exec p x (n+1) (.ret es) st = (evalArgs (evalE p x (runBlock (exec p x n)) n) es st >>= fun r => pure (.ret r.1, r.2)) := rfl
@[gomini] theorem exec_assign (n : Nat) (lhs rhs : List Expr) (st : St) :
    exec p x (n+1) (.assign lhs rhs) st = (evalArgs (evalE p x (runBlock (exec p x n)) n) rhs st >>= fun r =>
      assignAll (evalE p x (runBlock (exec p x n)) n) lhs
        (match lhs, r.1 with
          | _ :: _ :: _, [.tup ws] => ws
          | _, _ => r.1) r.2 >>= fun st2 => pure (.next, st2)) := rfl
@[gomini] theorem exec_opAssign (n : Nat) (op : String) (lhs rhs : Expr) (st : St) :
    exec p x (n+1) (.opAssign op lhs rhs) st = (evalE p x (runBlock (exec p x n)) n lhs st >>= fun r1 =>
      evalE p x (runBlock (exec p x n)) n rhs r1.2 >>= fun r2 => binVal op r1.1 r2.1 >>= fun r =>
      assignTo (evalE p x (runBlock (exec p x n)) n) lhs r r2.2 >>= fun st3 => pure (.next, st3)) := rfl
@[gomini] theorem exec_ite (n : Nat) (init : List Stmt) (c : Expr) (t e : List Stmt) (st : St) :
    exec p x (n+1) (.ite init c t e) st = (runBlock (exec p x n) init st >>= fun r0 =>
      match r0.1 with
      | .next => evalE p x (runBlock (exec p x n)) n c r0.2 >>= fun r1 => truthy r1.1 >>= fun b =>
          if b then runBlock (exec p x n) t r1.2 else runBlock (exec p x n) e r1.2
      | _ => .stuck "control flow in if-init") := rfl
@[gomini] theorem exec_forRange (n : Nat) (k v : Option String) (e : Expr) (body : List Stmt) (st : St) :
    exec p x (n+1) (.forRange k v e body) st = (evalE p x (runBlock (exec p x n)) n e st >>= fun r =>
      match r.1 with
      | .struct fs => runRangeMap (runBlock (exec p x n) body) k v fs r.2
      | _ =>
      match asList r.1 with
      | some xs => runRange (runBlock (exec p x n) body) k v 0 xs r.2
      | none => .stuck "range over non-list") := rfl
@[gomini] theorem exec_forC (n : Nat) (init : List Stmt) (c : Option Expr) (post body : List Stmt) (st : St) :
    exec p x (n+1) (.forC init c post body) st = (runBlock (exec p x n) init st >>= fun r0 =>
      match r0.1 with
      | .next =>
        runFor (fun s => match c with
            | none => .ok (true, s)
            | some ce => evalE p x (runBlock (exec p x n)) n ce s >>= fun r => truthy r.1 >>= fun b => pure (b, r.2))
          (runBlock (exec p x n) body) (runBlock (exec p x n) post) n r0.2
      | _ => .stuck "control flow in for-init") := rfl
end

theorem runBlock_cons_ok {ex : Stmt → St → R (Flow × St)} {s : Stmt} {st st' : St} (rest : List Stmt)
    (h : ex s st = .ok (.next, st')) : runBlock ex (s :: rest) st = runBlock ex rest st' := by
  simp [runBlock, h]

/-- the condition closure of a three-clause `for` with a condition, named so that loop lemmas can be stated
about `runFor (forCond …) …` (`rw [exec_forC_some]`, or `runBlock_forC_at`) -/
def forCond (p : Prog) (x : Ext) (n : Nat) (ce : Expr) : St → R (Bool × St) :=
  fun s => evalE p x (runBlock (exec p x n)) n ce s >>= fun r => truthy r.1 >>= fun b => pure (b, r.2)

theorem exec_forC_some (p : Prog) (x : Ext) (n : Nat) (init : List Stmt) (ce : Expr) (post body : List Stmt) (st : St) :
    exec p x (n+1) (.forC init (some ce) post body) st = (runBlock (exec p x n) init st >>= fun r0 =>
      match r0.1 with
      | .next => runFor (forCond p x n ce) (runBlock (exec p x n) body) (runBlock (exec p x n) post) n r0.2
      | _ => .stuck "control flow in for-init") := by
  rw [exec_forC]; rfl

/-- not in the `gomini` set: bounded loops unroll it explicitly (`attribute [local gomini] runFor_succ`), unbounded ones are
handled by loop lemmas about `runFor (forCond …) …` -/
theorem runFor_succ (evc : St → R (Bool × St)) (blk post : St → R (Flow × St)) (k : Nat) (st : St) :
    runFor evc blk post (k+1) st = (match evc st with
    | .ok (false, st1) => .ok (.next, st1)
    | .ok (true, st1) =>
      match blk st1 with
      | .ok (.next, st2) | .ok (.cont, st2) =>
        (match post st2 with
        | .ok (_, st3) => runFor evc blk post k st3
        | other => other)
      | .ok (.brk, st2) => .ok (.next, st2)
      | other => other
    | .panic => .panic
    | .stuck w => .stuck w) := rfl

/-! ### state and environment -/
@[gomini] theorem St.set_env (st : St) (a : String) (v : Val) (y : String) :
    (st.set a v).env y = if y = a then some v else st.env y := rfl
@[gomini] theorem St.set_eff (st : St) (a : String) (v : Val) : (st.set a v).eff = st.eff := rfl
@[gomini] theorem St.log_env (st : St) (f : String) (args : List Val) : (st.log f args).env = st.env := rfl
@[gomini] theorem St.log_eff (st : St) (f : String) (args : List Val) : (st.log f args).eff = st.eff ++ [(f, args)] := rfl
@[gomini] theorem envOf_apply (bs : List (String × Val)) (y : String) : envOf bs y = lookup y bs := rfl
@[gomini] theorem lookup_nil (y : String) : lookup y [] = none := rfl
@[gomini] theorem lookup_cons (y a : String) (v : Val) (rest : List (String × Val)) :
    lookup y ((a, v) :: rest) = if y = a then some v else lookup y rest := rfl
@[gomini] theorem update_nil (y : String) (v : Val) : update y v [] = [(y, v)] := rfl
@[gomini] theorem update_cons (y a : String) (v w : Val) (rest : List (String × Val)) :
    update y v ((a, w) :: rest) = if y = a then (a, v) :: rest else (a, w) :: update y v rest := rfl
@[gomini] theorem lookup_update_same (k : String) (v : Val) : ∀ fs : List (String × Val), lookup k (update k v fs) = some v
  | [] => by simp [update, lookup]
  | (a, w) :: rest => by
    by_cases h : k = a
    · subst h; simp [update, lookup]
    · simp [update, lookup, h, lookup_update_same k v rest]
theorem update_update (k : String) (v1 v2 : Val) : ∀ fs : List (String × Val), update k v2 (update k v1 fs) = update k v2 fs
  | [] => by simp [update]
  | (a, w) :: rest => by by_cases h : k = a <;> simp [update, h, update_update k v1 v2 rest]
theorem lookup_update_ne (k k' : String) (v : Val) (h : k' ≠ k) : ∀ fs : List (String × Val), lookup k' (update k v fs) = lookup k' fs
  | [] => by simp [update, lookup, h]
  | (a, w) :: rest => by
    by_cases h1 : k = a
    · subst h1; simp [update, lookup, h]
    · by_cases h2 : k' = a
      · subst h2; simp [update, lookup, h1]
      · simp [update, lookup, h1, h2, lookup_update_ne k k' v h rest]
/-- a record built from a list of keys holds exactly those keys -/
theorem lookup_map_key (h : String → Val) (f : String) (l : List String) :
    lookup f (l.map fun g => (g, h g)) = if f ∈ l then some (h f) else none := by
  induction l with
  | nil => rfl
  | cons a tl ih => by_cases hfa : f = a <;> simp [lookup, hfa, ih]
@[gomini] theorem lookup'_nil (f : String) : evalE.lookup' f [] = none := rfl
@[gomini] theorem lookup'_cons (f g : String) (fn : Func) (rest : Prog) :
    evalE.lookup' f ((g, fn) :: rest) = if f = g then some fn else evalE.lookup' f rest := rfl
@[gomini] theorem bindParams_nil : bindParams [] [] = some [] := rfl
@[gomini] theorem bindParams_cons (a : String) (ps : List String) (v : Val) (vs : List Val) :
    bindParams (a :: ps) (v :: vs) = (bindParams ps vs).map fun r => (a, v) :: r := rfl
@[gomini] theorem assignAll_nil (ev : Expr → St → R (Val × St)) (st : St) : assignAll ev [] [] st = .ok st := rfl
@[gomini] theorem assignAll_cons (ev : Expr → St → R (Val × St)) (l : Expr) (ls : List Expr) (v : Val) (vs : List Val) (st : St) :
    assignAll ev (l :: ls) (v :: vs) st = (assignTo ev l v st >>= fun st1 => assignAll ev ls vs st1) := rfl
@[gomini] theorem assignTo_var (ev : Expr → St → R (Val × St)) (a : String) (v : Val) (st : St) :
    assignTo ev (.var a) v st = if a = "_" then .ok st else .ok (st.set a v) := rfl
@[gomini] theorem assignTo_sel_var (ev : Expr → St → R (Val × St)) (a f : String) (v : Val) (st : St) :
    assignTo ev (.sel (.var a) f) v st = (match st.env a with
      | some r => setField f v r >>= fun r' => pure (st.set a r')
      | none => .stuck ("unbound " ++ a)) := rfl
@[gomini] theorem assignTo_sel_sel_var (ev : Expr → St → R (Val × St)) (a g f : String) (v : Val) (st : St) :
    assignTo ev (.sel (.sel (.var a) g) f) v st = (match st.env a with
      | some r => getField g r >>= fun inner => setField f v inner >>= fun inner' => setField g inner' r >>= fun r' => pure (st.set a r')
      | none => .stuck ("unbound " ++ a)) := rfl
@[gomini] theorem assignTo_sel4_var (ev : Expr → St → R (Val × St)) (a g3 g2 g f : String) (v : Val) (st : St) :
    assignTo ev (.sel (.sel (.sel (.sel (.var a) g3) g2) g) f) v st = (match st.env a with
      | some r => setPath [g3, g2, g, f] v r >>= fun r' => pure (st.set a r')
      | none => .stuck ("unbound " ++ a)) := rfl
@[gomini] theorem assignTo_sel3_var (ev : Expr → St → R (Val × St)) (a g2 g f : String) (v : Val) (st : St) :
    assignTo ev (.sel (.sel (.sel (.var a) g2) g) f) v st = (match st.env a with
      | some r => setPath [g2, g, f] v r >>= fun r' => pure (st.set a r')
      | none => .stuck ("unbound " ++ a)) := rfl
@[gomini] theorem assignTo_idx_var (ev : Expr → St → R (Val × St)) (a : String) (i : Expr) (v : Val) (st : St) :
    assignTo ev (.idx (.var a) i) v st = (ev i st >>= fun r =>
      match r.2.env a, r.1 with
      | some (.list xs), .int k =>
        if 0 ≤ k ∧ k.toNat < xs.length then pure (r.2.set a (.list (xs.set k.toNat v))) else .panic
      | _, _ => .stuck "index assignment") := rfl
@[gomini] theorem assignTo_idx_sel_var (ev : Expr → St → R (Val × St)) (a f : String) (i : Expr) (v : Val) (st : St) :
    assignTo ev (.idx (.sel (.var a) f) i) v st = (ev i st >>= fun r =>
      match r.2.env a with
      | some rr => getField f rr >>= fun inner =>
        match inner, r.1 with
        | .struct fs, .str k => setField f (.struct (update k v fs)) rr >>= fun r' => pure (r.2.set a r')
        | .list xs, .int k =>
          if 0 ≤ k ∧ k.toNat < xs.length then setField f (.list (xs.set k.toNat v)) rr >>= fun r' => pure (r.2.set a r')
          else .panic
        | .nil, .str _ => .panic
        | _, _ => .stuck "index assignment"
      | none => .stuck ("unbound " ++ a)) := rfl
@[gomini] theorem assignTo_idx_sel_sel_var (ev : Expr → St → R (Val × St)) (a g f : String) (i : Expr) (v : Val) (st : St) :
    assignTo ev (.idx (.sel (.sel (.var a) g) f) i) v st = (ev i st >>= fun r =>
      match r.2.env a with
      | some rr => getField g rr >>= fun mid => getField f mid >>= fun inner =>
        match inner, r.1 with
        | .struct fs, .str k => setPath [g, f] (.struct (update k v fs)) rr >>= fun r' => pure (r.2.set a r')
        | .nil, .str _ => .panic
        | _, _ => .stuck "index assignment"
      | none => .stuck ("unbound " ++ a)) := rfl
@[gomini] theorem getField_struct (f : String) (fs : List (String × Val)) :
    getField f (.struct fs) = (match lookup f fs with | some v => .ok v | none => .stuck ("no field " ++ f)) := rfl
@[gomini] theorem getField_nil (f : String) : getField f .nil = .panic := rfl
@[gomini] theorem setField_struct (f : String) (v : Val) (fs : List (String × Val)) :
    setField f v (.struct fs) = .ok (.struct (update f v fs)) := rfl
@[gomini] theorem asList_list (xs : List Val) : asList (.list xs) = some xs := rfl
@[gomini] theorem asList_nil : asList .nil = some [] := rfl
@[gomini] theorem truthy_bool (b : Bool) : truthy (.bool b) = .ok b := rfl
@[gomini] theorem flowResult_ret1 (v : Val) : flowResult (.ret [v]) = v := rfl
@[gomini] theorem flowResult_ret2 (a b : Val) (rest : List Val) : flowResult (.ret (a :: b :: rest)) = .tup (a :: b :: rest) := rfl
@[gomini] theorem flowResult_ret0 : flowResult (.ret []) = .tup [] := rfl
@[gomini] theorem flowResult_next : flowResult .next = .tup [] := rfl
@[gomini] theorem binVal_int (op : String) (a b : Int) : binVal op (.int a) (.int b) = binInt op a b := rfl

@[gomini] theorem binVal_nil_nil (op : String) : binVal op .nil .nil =
    if op = "==" then .ok (.bool true) else if op = "!=" then .ok (.bool false) else .stuck ("nil op " ++ op) := by
  simp [binVal, isNil]
@[gomini] theorem binVal_struct_nil (op : String) (fs : List (String × Val)) : binVal op (.struct fs) .nil =
    if op = "==" then .ok (.bool false) else if op = "!=" then .ok (.bool true) else .stuck ("nil op " ++ op) := by
  simp [binVal, isNil]
@[gomini] theorem binVal_list_nil (op : String) (xs : List Val) : binVal op (.list xs) .nil =
    if op = "==" then .ok (.bool false) else if op = "!=" then .ok (.bool true) else .stuck ("nil op " ++ op) := by
  simp [binVal, isNil]
@[gomini] theorem binVal_str_nil (op : String) (t : String) : binVal op (.str t) .nil =
    if op = "==" then .ok (.bool false) else if op = "!=" then .ok (.bool true) else .stuck ("nil op " ++ op) := by
  simp [binVal, isNil]
@[gomini] theorem binVal_nil_str (op : String) (t : String) : binVal op .nil (.str t) =
    if op = "==" then .ok (.bool false) else if op = "!=" then .ok (.bool true) else .stuck ("nil op " ++ op) := by
  simp [binVal, isNil]
@[gomini] theorem binVal_str_str (op : String) (a b : String) : binVal op (.str a) (.str b) =
    if op = "==" then .ok (.bool (decide (a = b))) else if op = "!=" then .ok (.bool (decide (a ≠ b)))
    else if op = "+" then .ok (.str (a ++ b)) else if op = "<" then .ok (.bool (decide (a < b)))
    else .stuck ("string op " ++ op) := rfl
@[gomini] theorem noExt_apply (f : String) (vs : List Val) (eff : List (String × List Val)) : noExt f vs eff = none := rfl

@[gomini] theorem runRangeMap_nil (blk : St → R (Flow × St)) (k v : Option String) (st : St) :
    runRangeMap blk k v [] st = .ok (.next, st) := rfl
@[gomini] theorem runRangeMap_cons (blk : St → R (Flow × St)) (k v : Option String) (key : String) (y : Val)
    (ys : List (String × Val)) (st : St) :
    runRangeMap blk k v ((key, y) :: ys) st =
      (match blk (match v with | some vn => (match k with | some kn => st.set kn (.str key) | none => st).set vn y
                               | none => (match k with | some kn => st.set kn (.str key) | none => st)) with
      | .ok (.next, st') => runRangeMap blk k v ys st'
      | .ok (.cont, st') => runRangeMap blk k v ys st'
      | .ok (.brk, st') => .ok (.next, st')
      | other => other) := rfl
@[gomini] theorem eraseKey_nil (k : String) : eraseKey k [] = [] := rfl
@[gomini] theorem eraseKey_cons (k a : String) (v : Val) (rest : List (String × Val)) :
    eraseKey k ((a, v) :: rest) = if a = k then eraseKey k rest else (a, v) :: eraseKey k rest := rfl

/-! ### builtins on the argument forms translated code calls them with

Each is an instance of `builtin`, and so are the look-ups `evalE.lookup' "f" prog = …` at the heads of the units. They are proved
by unfolding the table (`simp [builtin]`, `simp [prog, gomini]`), not by `rfl`: `simp` decides an equation between string literals
with a simproc, evaluating it costs 10 to 15 times as much, and `builtin` compares a name with some forty. In a proof about a
run `builtin` itself is not named: these instances answer. -/

@[gomini] theorem builtin_append (base : Val) (more : List Val) : builtin "append" (base :: more) =
    match asList base with
    | some xs => some (.ok (.list (xs ++ more)))
    | none => some (.stuck "append to non-list") := rfl
@[gomini] theorem builtin_make (n : Int) (rest : List Val) : builtin "make" (.int n :: rest) =
    if n < 0 then some .panic else some (.ok (.list (List.replicate n.toNat .nil))) := by simp [builtin]
@[gomini] theorem builtin_mapLookup2 (fs : List (String × Val)) (k : String) : builtin "mapLookup2" [.struct fs, .str k] =
    match lookup k fs with
    | some v => some (.ok (.tup [v, .bool true]))
    | none => some (.ok (.tup [.nil, .bool false])) := rfl
@[gomini] theorem builtin_mapDelete (fs : List (String × Val)) (k : String) :
    builtin "mapDelete" [.struct fs, .str k] = some (.ok (.struct (eraseKey k fs))) := by simp [builtin]
@[gomini] theorem builtin_copyInto (xs ys : List Val) (a b : Int) : builtin "copyInto" [.list xs, .int a, .int b, .list ys] =
    if 0 ≤ a ∧ a ≤ b ∧ b ≤ xs.length then
      some (.ok (.list (xs.take a.toNat ++ ys.take (min (b - a).toNat ys.length) ++ xs.drop (a.toNat + min (b - a).toNat ys.length))))
    else some .panic := by simp [builtin]
@[gomini] theorem builtin_string (v : Val) : builtin "string" [v] = some (.ok v) := by simp [builtin]
@[gomini] theorem builtin_panic (args : List Val) : builtin "panic" args = some .panic := by simp [builtin]
@[gomini] theorem builtin_fmt_Errorf (s : String) (rest : List Val) :
    builtin "fmt.Errorf" (.str s :: rest) = some (.ok (.str ("error: " ++ s))) := by simp [builtin]
@[gomini] theorem builtin_errors_New (s : String) (rest : List Val) :
    builtin "errors.New" (.str s :: rest) = some (.ok (.str ("error: " ++ s))) := by simp [builtin]
@[gomini] theorem builtin_errors_Wrap (e : Val) (rest : List Val) : builtin "errors.Wrap" (e :: rest) = some (.ok e) := by simp [builtin]
@[gomini] theorem builtin_fmt_Sprintf (s : String) (rest : List Val) : builtin "fmt.Sprintf" (.str s :: rest) = some (.ok (.str s)) := by simp [builtin]
@[gomini] theorem builtin_int (i : Int) : builtin "int" [.int i] = some (.ok (.int (wrapS 64 i))) := by simp [builtin, convert]
@[gomini] theorem builtin_int32 (i : Int) : builtin "int32" [.int i] = some (.ok (.int (wrapS 32 i))) := by simp [builtin, convert]
@[gomini] theorem builtin_int64 (i : Int) : builtin "int64" [.int i] = some (.ok (.int (wrapS 64 i))) := by simp [builtin, convert]
@[gomini] theorem builtin_uint32 (i : Int) : builtin "uint32" [.int i] = some (.ok (.int (wrapU 32 i))) := by simp [builtin, convert]
@[gomini] theorem builtin_uint64 (i : Int) : builtin "uint64" [.int i] = some (.ok (.int (wrapU 64 i))) := by simp [builtin, convert]
@[gomini] theorem builtin_byte (i : Int) : builtin "byte" [.int i] = some (.ok (.int (wrapU 8 i))) := by simp [builtin, convert]

/-- `int64(i)` of a natural number below 2^63 does not wrap -/
theorem wrapS64_nat (i : Nat) (h : i < 2 ^ 63) : wrapS 64 (i : Int) = i := by
  unfold wrapS
  have h1 : ((i : Int) % (2 ^ 64 : Int)) = i := by
    apply Int.emod_eq_of_lt <;> omega
  simp only [h1]
  split <;> omega

/-! Not builtins: the call is answered by the `Ext` table, or only recorded in the effect trace. (A name that a single unit
calls has its lemma at the head of that unit.) -/
@[gomini] theorem builtin_status_Error (c m : Val) : builtin "status.Error" [c, m] = none := by cases c <;> simp [builtin]
@[gomini] theorem builtin_status_New (c m : Val) : builtin "status.New" [c, m] = none := by cases c <;> simp [builtin]
@[gomini] theorem builtin_findSegment (segs v : Val) : builtin "findSegment" [segs, v] = none := by cases segs <;> simp [builtin]
@[gomini] theorem builtin_chan_trySend (ch : String) : builtin "chan.trySend" [.str ch] = none := by simp [builtin]
@[gomini] theorem builtin_timestamp : builtin "timestamp" [] = none := by simp [builtin]

end Liftbridge.GoMini
