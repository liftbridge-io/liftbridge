/-
Running translated code up to a chosen statement.

A run whose control flow is decided by literals is a closed computation: `rfl` evaluates it, and where the state it
ends in is left open (an implicit argument), unification fills it in. What `rfl` cannot do is branch on a comparison of
symbolic values, or run a loop over a symbolic list. The lemmas here cut a run at such a statement: the statements in front
of it run by `rfl` (`rw [runBlock_ite_at k rfl rfl rfl rfl]`); a test is left standing as a `Bool` for `simp` or `rw`; a
loop is left standing as the `runFor …` / `runRange …` its loop lemma speaks of, and the state that lemma describes is made
explicit again, as far as the rest of the body reads it, with `St.Binds.setAll`; what follows is closed again, or is cut
once more.

A loop lemma says that SOME state is reached, and an equation cannot mention a state that is only known to exist. So the goal
is put in the form "the run ends, and `C` holds of how" (`Ends`, reached from an end result by `Ends.view`, from the statement
of a `_body` lemma by `Ends.body`): the cut lemmas rewrite inside its first argument as they do in an equation, and
`refine Ends.andThen (loop_lemma … _ … (by rfl) …) fun st' ⟨…⟩ => ?_` puts the loop lemma in under the binder, the state the loop
is entered in being found by unification with the goal (hence `_`, and `by rfl` for the lemma's hypotheses about it). The end is
`⟨_, _, rfl, …⟩`, or the `simp` call that runs the last stretch (`Ends.ok` is a `gomini` rule) and goes on into the view.

Naming: a lemma `f_body` (in Props/Go*.lean, Proofs/Go*.lean) says what the body of the translated function `f` yields from
the state a call enters it with, for fuel `n + k` (`n` a variable, `k` what the body needs: a caller at fuel `30` or `m + 21`
uses it as it is, `?n + k` unifies with either) and any incoming effect trace, so that a proof about a caller of `f` rewrites with it.
-/
import Liftbridge.GoMiniLemmas

namespace Liftbridge.GoMini

theorem St.set_known {st : St} {x : String} {v : Val} (h : st.env x = some v) : st.set x v = st := by
  obtain ⟨env, eff⟩ := st
  simp only [St.set, St.mk.injEq, and_true]
  funext y
  by_cases hy : y = x
  · simp [hy, ← h]
  · simp [hy]

def St.setAll (st : St) : List (String × Val) → St
  | [] => st
  | (x, v) :: bs => (st.set x v).setAll bs

/-- proved by `⟨h₁, …, hₙ, trivial⟩` from hypotheses, by `⟨rfl, …, rfl, trivial⟩` for an explicit state -/
def St.Binds (st : St) : List (String × Val) → Prop
  | [] => True
  | (x, v) :: bs => st.env x = some v ∧ st.Binds bs

/-- Used right to left: a run from a state that is
known only through hypotheses `st.env x = some v` is a closed computation, and `rfl` proves what it yields, once the
variables the code reads are bound explicitly. -/
theorem St.Binds.setAll {st : St} : ∀ {bs : List (String × Val)}, st.Binds bs → st.setAll bs = st
  | [], _ => rfl
  | (x, v) :: _, h => by rw [St.setAll, St.set_known h.1]; exact h.2.setAll

/-- for a state that a loop lemma describes -/
theorem St.eq_of_eff {st : St} {eff : List (String × List Val)} (h : st.eff = eff) : st = { env := st.env, eff := eff } := by
  cases st; cases h; rfl

def Out.of (r : Option String) : R (Flow × St) → R Out
  | .ok (fl, st) => .ok { rets := match fl with | .ret vs => vs | _ => [],
                          recv := match r with | some rn => st.env rn | none => none,
                          eff := st.eff }
  | .panic => .panic
  | .stuck w => .stuck w

/-- `rw [runG_eq rfl rfl]`: the look-up and the binding of the parameters are computations -/
theorem runG_eq {prog : Prog} {ext : Ext} {fuel : Nat} {f : String} {recv : Option Val} {args : List Val}
    {globals : List (String × Val)} {r : Option String} {ps : List String} {body : List Stmt} {env : List (String × Val)}
    (hl : evalE.lookup' f prog = some ⟨r, ps, body⟩) (hb : bindParams ps args = some env) :
    runG prog ext fuel f recv args globals =
      Out.of r (runBlock (exec prog ext fuel) body
        { env := envOf ((match (generalizing := false) r, recv with | some rn, some rv => (rn, rv) :: env | _, _ => env) ++ globals),
          eff := [] }) := by
  simp only [runG, hl, hb]
  generalize runBlock (exec prog ext fuel) body _ = res
  rcases res with ⟨fl, st⟩ | _ | _ <;> rfl

theorem runG_method {prog : Prog} {ext : Ext} {fuel : Nat} {f rn : String} {rv : Val} {args : List Val}
    {globals : List (String × Val)} {fn : Func} {env : List (String × Val)} {fl : Flow} {st : St}
    (hf : evalE.lookup' f prog = some fn) (hr : fn.recv = some rn) (hp : bindParams fn.params args = some env)
    (hrun : runBlock (exec prog ext fuel) fn.body { env := envOf ((rn, rv) :: env ++ globals), eff := [] } = .ok (fl, st)) :
    runG prog ext fuel f (some rv) args globals =
      .ok { rets := match (generalizing := false) fl with | .ret vs => vs | _ => [], recv := st.env rn, eff := st.eff } := by
  obtain ⟨_, ps, body⟩ := fn
  cases hr
  rw [runG_eq hf hp, hrun]
  rfl

def andThen (r : R (Flow × St)) (k : St → R (Flow × St)) : R (Flow × St) :=
  match r with
  | .ok (.next, st') => k st'
  | other => other

theorem andThen_ok (st : St) (k : St → R (Flow × St)) : andThen (.ok (.next, st)) k = k st := rfl

/-- `rw [andThen_of h]` puts in the result `h` of a loop -/
theorem andThen_of {r : R (Flow × St)} {st' : St} {k : St → R (Flow × St)} (h : r = .ok (.next, st')) : andThen r k = k st' := by
  subst h; rfl

/-- `rw [andThen_block rfl]` runs a first part that is a closed computation -/
theorem andThen_block {ex : Stmt → St → R (Flow × St)} {blk : List Stmt} {st st' : St} {k : St → R (Flow × St)}
    (h : runBlock ex blk st = .ok (.next, st')) : andThen (runBlock ex blk st) k = k st' :=
  andThen_of h

theorem runBlock_cons_andThen (ex : Stmt → St → R (Flow × St)) (s : Stmt) (rest : List Stmt) (st : St) :
    runBlock ex (s :: rest) st = andThen (ex s st) (runBlock ex rest) := rfl

theorem runBlock_single (ex : Stmt → St → R (Flow × St)) (s : Stmt) (st : St) : runBlock ex [s] st = ex s st := by
  rw [runBlock_cons]
  cases ex s st with
  | ok r => obtain ⟨fl, st'⟩ := r; cases fl <;> rfl
  | panic => rfl
  | stuck w => rfl

theorem runBlock_split {ex : Stmt → St → R (Flow × St)} (k : Nat) (body : List Stmt) (st : St) :
    runBlock ex body st = andThen (runBlock ex (body.take k) st) (runBlock ex (body.drop k)) := by
  induction k generalizing body st with
  | zero => rfl
  | succ k ih =>
    cases body with
    | nil => rfl
    | cons s body =>
      rw [List.take_succ_cons, List.drop_succ_cons, runBlock_cons_andThen, runBlock_cons_andThen]
      rcases ex s st with ⟨fl, s1⟩ | _ | _
      · cases fl <;> first | exact ih _ _ | rfl
      · rfl
      · rfl

/-- `h` by `rfl`, which also finds `st'` -/
theorem runBlock_take (k : Nat) {ex : Stmt → St → R (Flow × St)} {body : List Stmt} {st st' : St}
    (h : runBlock ex (body.take k) st = .ok (.next, st')) : runBlock ex body st = runBlock ex (body.drop k) st' := by
  rw [runBlock_split k body st, h, andThen_ok]

/-- `runBlock_take` with the effect trace of the state reached written out, for an environment that reads the trace at every
call: a trace left as the chain of state updates that produced it is walked again at each reading. -/
theorem runBlock_take_eff (k : Nat) {ex : Stmt → St → R (Flow × St)} {body : List Stmt} {st st' : St} {eff : List (String × List Val)}
    (h : runBlock ex (body.take k) st = .ok (.next, st'))
    (he : st'.eff = eff := by simp only [St.set_eff, St.log_eff, List.nil_append, List.cons_append]; rfl) :
    runBlock ex body st = runBlock ex (body.drop k) { env := st'.env, eff := eff } := by
  rw [runBlock_take k h, St.eq_of_eff he]

theorem exec_ite_eq {p : Prog} {x : Ext} {n : Nat} {init : List Stmt} {c : Expr} {t e : List Stmt} {st st0 st1 : St} {b : Bool}
    (hi : runBlock (exec p x n) init st = .ok (.next, st0))
    (hc : evalE p x (runBlock (exec p x n)) n c st0 = .ok (.bool b, st1)) :
    exec p x (n+1) (.ite init c t e) st = runBlock (exec p x n) (if b then t else e) st1 := by
  rw [exec_ite, hi]
  simp only [R.bind_ok, hc, truthy_bool]
  cases b <;> rfl

theorem forCond_known {p : Prog} {x : Ext} {n : Nat} {c : Expr} {st st1 : St} {b : Bool}
    (h : evalE p x (runBlock (exec p x n)) n c st = .ok (.bool b, st1)) : forCond p x n c st = .ok (b, st1) := by
  simp only [forCond, h, R.bind_ok, truthy_bool, R.pure_eq]

section
variable {p : Prog} {x : Ext} {cb : List Stmt → St → R (Flow × St)} {n : Nat} {a b : Expr} {st : St} {u v : Bool}

theorem evalE_or_known (ha : evalE p x cb n a st = .ok (.bool u, st)) (hb : evalE p x cb n b st = .ok (.bool v, st)) :
    evalE p x cb (n + 1) (.or a b) st = .ok (.bool (u || v), st) := by
  rw [evalE_or, ha]
  cases u
  · simp only [R.bind_ok, hb]; rfl
  · rfl

theorem evalE_and_known (ha : evalE p x cb n a st = .ok (.bool u, st)) (hb : evalE p x cb n b st = .ok (.bool v, st)) :
    evalE p x cb (n + 1) (.and a b) st = .ok (.bool (u && v), st) := by
  rw [evalE_and, ha]
  cases u
  · rfl
  · simp only [R.bind_ok, hb]; rfl
end

section
variable {evc : St → R (Bool × St)} {blk post : St → R (Flow × St)} {k : Nat} {st st1 st2 st3 : St} {fl : Flow}

theorem runFor_exit (hc : evc st = .ok (false, st1)) : runFor evc blk post (k + 1) st = .ok (.next, st1) := by
  rw [runFor_succ, hc]

theorem runFor_break (hc : evc st = .ok (true, st1)) (hb : blk st1 = .ok (.brk, st2)) :
    runFor evc blk post (k + 1) st = .ok (.next, st2) := by
  rw [runFor_succ, hc]; simp only [hb]

theorem runFor_step (hc : evc st = .ok (true, st1)) (hb : blk st1 = .ok (.next, st2)) (hp : post st2 = .ok (fl, st3)) :
    runFor evc blk post (k + 1) st = runFor evc blk post k st3 := by
  rw [runFor_succ, hc]; simp only [hb, hp]
end

/-- Cut at the `if` that is statement `k` of the block: the statements before it, its initialiser and its condition are
evaluated (all four hypotheses by `rfl`); the value `b` of the condition is left standing, e.g. as `decide (a < c)` for
symbolic `a`, `c`. -/
theorem runBlock_ite_at (k : Nat) {p : Prog} {x : Ext} {n : Nat} {body rest init : List Stmt} {c : Expr} {t e : List Stmt}
    {st st0 st1 st2 : St} {b : Bool}
    (hpre : runBlock (exec p x (n+1)) (body.take k) st = .ok (.next, st0))
    (hs : body.drop k = .ite init c t e :: rest)
    (hi : runBlock (exec p x n) init st0 = .ok (.next, st1))
    (hc : evalE p x (runBlock (exec p x n)) n c st1 = .ok (.bool b, st2)) :
    runBlock (exec p x (n+1)) body st =
      andThen (runBlock (exec p x n) (if b then t else e) st2) (runBlock (exec p x (n+1)) rest) := by
  rw [runBlock_take k hpre, hs, runBlock_cons_andThen, exec_ite_eq hi hc]

/-- Cut at the three-clause `for` that is statement `k` of the block: the statements before it and its initialiser run
(by `rfl`), the loop is left standing as `runFor (forCond …) …` for a loop lemma (`refine Ends.andThen …`, or `rw [andThen_of h]`). A lemma that names
condition, post statement and body through definitions matches when `ce`, `post`, `lbody` are passed by name, or when the
definitions are unfolded in its conclusion. -/
theorem runBlock_forC_at (k : Nat) {p : Prog} {x : Ext} {n : Nat} {body rest init post lbody : List Stmt} {ce : Expr}
    {st st0 st1 : St}
    (hpre : runBlock (exec p x (n+1)) (body.take k) st = .ok (.next, st0))
    (hs : body.drop k = .forC init (some ce) post lbody :: rest)
    (hi : runBlock (exec p x n) init st0 = .ok (.next, st1)) :
    runBlock (exec p x (n+1)) body st =
      andThen (runFor (forCond p x n ce) (runBlock (exec p x n) lbody) (runBlock (exec p x n) post) n st1)
        (runBlock (exec p x (n+1)) rest) := by
  rw [runBlock_take k hpre, hs, runBlock_cons_andThen, exec_forC_some, hi]
  rfl

/-- Cut at the `range` loop over a list that is statement `k` of the block: the statements before it run and the ranged-over
expression is evaluated (by `rfl`), the loop is left standing as `runRange …` for a loop lemma. -/
theorem runBlock_forRange_at (k : Nat) {p : Prog} {x : Ext} {n : Nat} {body rest lbody : List Stmt} {kv vv : Option String} {e : Expr}
    {xs : List Val} {st st0 st1 : St}
    (hpre : runBlock (exec p x (n+1)) (body.take k) st = .ok (.next, st0))
    (hs : body.drop k = .forRange kv vv e lbody :: rest)
    (he : evalE p x (runBlock (exec p x n)) n e st0 = .ok (.list xs, st1)) :
    runBlock (exec p x (n+1)) body st =
      andThen (runRange (runBlock (exec p x n) lbody) kv vv 0 xs st1) (runBlock (exec p x (n+1)) rest) := by
  rw [runBlock_take k hpre, hs, runBlock_cons_andThen, exec_forRange, he]
  rfl

/-- the same for a `range` loop over a map -/
theorem runBlock_forRangeMap_at (k : Nat) {p : Prog} {x : Ext} {n : Nat} {body rest lbody : List Stmt} {kv vv : Option String} {e : Expr}
    {fs : List (String × Val)} {st st0 st1 : St}
    (hpre : runBlock (exec p x (n+1)) (body.take k) st = .ok (.next, st0))
    (hs : body.drop k = .forRange kv vv e lbody :: rest)
    (he : evalE p x (runBlock (exec p x n)) n e st0 = .ok (.struct fs, st1)) :
    runBlock (exec p x (n+1)) body st =
      andThen (runRangeMap (runBlock (exec p x n) lbody) kv vv fs st1) (runBlock (exec p x (n+1)) rest) := by
  rw [runBlock_take k hpre, hs, runBlock_cons_andThen, exec_forRange, he]
  rfl

def Ends (r : R (Flow × St)) (C : Flow → St → Prop) : Prop := ∃ fl st, r = .ok (fl, st) ∧ C fl st

@[gomini] theorem Ends.ok (fl : Flow) (st : St) (C : Flow → St → Prop) : Ends (.ok (fl, st)) C ↔ C fl st :=
  ⟨fun ⟨_, _, e, h⟩ => by cases e; exact h, fun h => ⟨fl, st, rfl, h⟩⟩

section
variable {r loop : R (Flow × St)} {k k₁ k₂ : St → R (Flow × St)} {C : Flow → St → Prop} {Q : St → Prop}

theorem Ends.view {β : Type} {view : R Out → β} {rn : Option String} {rhs : β}
    (h : Ends r fun fl st => view (Out.of rn (.ok (fl, st))) = rhs) : view (Out.of rn r) = rhs := by
  obtain ⟨fl, st, rfl, h⟩ := h; exact h

theorem Ends.body {fl : Flow} (h : Ends r fun fl' st => fl' = fl ∧ Q st) : ∃ st', r = .ok (fl, st') ∧ Q st' := by
  obtain ⟨_, st, e, rfl, h⟩ := h; exact ⟨st, e, h⟩

theorem Ends.andThen (h : ∃ st', loop = .ok (.next, st') ∧ Q st') (hk : ∀ st', Q st' → Ends (k st') C) :
    Ends (GoMini.andThen loop k) C := by
  obtain ⟨st', rfl, hq⟩ := h; exact hk st' hq

/-- for a loop that is the last piece of a statement cut out with `runBlock_at` -/
theorem Ends.andThen₂ (h : ∃ st', loop = .ok (.next, st') ∧ Q st') (hk : ∀ st', Q st' → Ends (GoMini.andThen (k₁ st') k₂) C) :
    Ends (GoMini.andThen (GoMini.andThen loop k₁) k₂) C := by
  obtain ⟨st', rfl, hq⟩ := h; exact hk st' hq

/-- `runBlock_forC_at` for a loop whose initialiser is not a closed computation but has a lemma of its own -/
theorem Ends.forC_init_at (k : Nat) {p : Prog} {x : Ext} {n : Nat} {body rest init post lbody : List Stmt} {ce : Expr} {st st0 : St}
    (hpre : runBlock (exec p x (n+1)) (body.take k) st = .ok (.next, st0))
    (hs : body.drop k = .forC init (some ce) post lbody :: rest)
    (hi : ∃ st1, runBlock (exec p x n) init st0 = .ok (.next, st1) ∧ Q st1)
    (hk : ∀ st1, Q st1 → Ends (GoMini.andThen (runFor (forCond p x n ce) (runBlock (exec p x n) lbody) (runBlock (exec p x n) post) n st1)
      (runBlock (exec p x (n+1)) rest)) C) : Ends (runBlock (exec p x (n+1)) body st) C := by
  obtain ⟨st1, hi, hq⟩ := hi
  rw [runBlock_forC_at k hpre hs hi]
  exact hk st1 hq
end

/-- `runBlock` under a name the `gomini` rules do not mention: `simp` stops in front of it -/
def runRest (ex : Stmt → St → R (Flow × St)) (rest : List Stmt) (st : St) : R (Flow × St) := runBlock ex rest st

/-- Cut at statement `k` of the block, whatever it is: the statements before it run by `rfl`, statement `k` is handed to
`simp [andThen_ok, …]` by itself, the rest of the block waits behind `runRest` (`rw [runRest]` to go on, or `rfl`). -/
theorem runBlock_at (k : Nat) {ex : Stmt → St → R (Flow × St)} {body rest : List Stmt} {s : Stmt} {st st0 : St}
    (hpre : runBlock ex (body.take k) st = .ok (.next, st0)) (hs : body.drop k = s :: rest) :
    runBlock ex body st = andThen (ex s st0) (runRest ex rest) := by
  rw [runBlock_take k hpre, hs, runBlock_cons_andThen]; rfl

/-- The translator writes `switch a { case c₁: b₁ … default: d }` as `if a == c₁ {b₁} else if a == c₂ {b₂} … else d`. The chain is
read back as a list of cases, each label with the integer it stands for, and a default: run on an integer `a`, it compares
integers, not the names of the labels. -/
def switchOn (a : Expr) : List (Expr × Int × List Stmt) → List Stmt → List Stmt
  | [], d => d
  | (c, _, b) :: cs, d => [.ite [] (.bin "==" a c) b (switchOn a cs d)]

def switchCases : List Int → List Stmt → List (Expr × Int × List Stmt)
  | v :: vs, [.ite _ (.bin _ _ c) b e] => (c, v, b) :: switchCases vs e
  | _, _ => []
def switchDefault : List Int → List Stmt → List Stmt
  | _ :: vs, [.ite _ _ _ e] => switchDefault vs e
  | _, d => d

def switchRun (p : Prog) (x : Ext) (k : Int) (st : St) : List (Expr × Int × List Stmt) → List Stmt → Nat → R (Flow × St)
  | [], d, n => runBlock (exec p x n) d st
  | _ :: _, _, 0 => .stuck "fuel"
  | (_, v, b) :: cs, d, n + 1 => if k = v then runBlock (exec p x n) b st else switchRun p x k st cs d n

theorem runBlock_switchOn {p : Prog} {x : Ext} {a : Expr} {k : Int} {st : St} {d : List Stmt}
    (ha : ∀ cb m, evalE p x cb (m + 2) a st = .ok (.int k, st)) :
    ∀ (cs : List (Expr × Int × List Stmt)), (∀ c ∈ cs, ∀ cb m, evalE p x cb (m + 2) c.1 st = .ok (.int c.2.1, st)) →
      ∀ n, runBlock (exec p x (n + cs.length + 3)) (switchOn a cs d) st = switchRun p x k st cs d (n + cs.length + 3)
  | [], _, _ => rfl
  | (c, v, b) :: cs, hcs, n => by
    have hcond : evalE p x (runBlock (exec p x (n + cs.length + 3))) (n + cs.length + 3) (.bin "==" a c) st
        = .ok (.bool (decide (k = v)), st) := by
      rw [evalE_bin, ha, R.bind_ok, hcs _ (List.mem_cons_self ..)]; rfl
    show runBlock (exec p x ((n + cs.length + 3) + 1)) [_] st =
      if k = v then runBlock (exec p x (n + cs.length + 3)) b st else switchRun p x k st cs d (n + cs.length + 3)
    rw [runBlock_single, exec_ite_eq rfl hcond]
    by_cases h : k = v
    · simp [h]
    · simp [h, runBlock_switchOn ha cs (fun c hc => hcs c (List.mem_cons_of_mem _ hc)) n]

theorem switchRun_default {p : Prog} {x : Ext} {k : Int} {st : St} {d : List Stmt} :
    ∀ (cs : List (Expr × Int × List Stmt)), k ∉ cs.map (·.2.1) → ∀ n, switchRun p x k st cs d (n + cs.length) = runBlock (exec p x n) d st
  | [], _, _ => rfl
  | (_, v, b) :: cs, h, n => by
    show (if k = v then _ else switchRun p x k st cs d (n + cs.length)) = _
    rw [if_neg (fun e : k = v => h (e ▸ List.mem_cons_self ..)), switchRun_default cs (fun hc => h (List.mem_cons_of_mem _ hc))]

end Liftbridge.GoMini
