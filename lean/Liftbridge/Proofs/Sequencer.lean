/- Helper lemmas for Props/C16Seq.lean: the sequencer on a log with concurrency control is the
per-message publish of Proofs/Occ.lean, whatever the batching settings. -/
import Liftbridge.Model.Sequencer
import Liftbridge.Proofs.Occ
namespace Liftbridge.Proofs.Seq
open Liftbridge Liftbridge.Log Liftbridge.Log.CLog Liftbridge.Proofs.Log Liftbridge.Proofs
open Liftbridge.Sequencer

/-- What the publisher hears for the outcome of a single-message `Append`. -/
def answerOf : Res Int → Answer
  | .ok o => .ack o
  | .err e => if e = "incorrect-offset" then .nack e else .silent
  | .panic => .silent

def isAck : Answer → Bool
  | .ack _ => true
  | _ => false

theorem isAck_answerOf (r : Res Int) : isAck (answerOf r) = r.isOk := by
  cases r with
  | ok o => rfl
  | err e => simp only [answerOf]; split <;> rfl
  | panic => rfl

/-- The forced batch size (extracted fact `occBatchOne`). -/
theorem batchLimit_occ (bm : Nat) : batchLimit true bm = 1 := by
  simp [batchLimit, Gen.Partition.occBatchOne]

theorem legal_occ_single {bm : Nat} {b : List Msg} (h : legalBatch true bm b = true) :
    ∃ m, b = [m] := by
  simp only [legalBatch, batchLimit_occ, Bool.and_eq_true, decide_eq_true_eq] at h
  match b, h with
  | [m], _ => exact ⟨m, rfl⟩
  | [], h => simp at h
  | _ :: _ :: _, h => simp at h

theorem step_single (l : CLog) (m : Msg) :
    stepBatch l [m] = ((Occ.pub l m).1, [(m, answerOf (Occ.pub l m).2)]) := by
  unfold stepBatch Occ.pub
  cases ha : l.append [m] with
  | ok p =>
    obtain ⟨l', offs⟩ := p
    obtain rfl := Occ.append_single_offs ha
    rfl
  | err e => simp [failAnswers, answerOf]
  | panic => rfl

/-- On a log with concurrency control every legal cut of the arrival sequence into batches is
processed exactly like the publishes one by one. -/
theorem run_eq (bm : Nat) (bs : List (List Msg)) :
    ∀ (l : CLog), Inv l → l.occ = true → Legal true bm bs →
      run l bs = (Occ.runP l bs.flatten).map (fun pr => (pr.1, answerOf pr.2)) ∧
      final l bs = Occ.finalP l bs.flatten := by
  induction bs with
  | nil => intro l _ _ _; simp [run, final, Occ.runP, Occ.finalP]
  | cons b bs ih =>
    intro l h hocc hleg
    obtain ⟨m, rfl⟩ := legal_occ_single (hleg b (List.mem_cons_self ..))
    obtain ⟨hinv, hocc', _⟩ := Occ.pub_inv l m h
    obtain ⟨ih1, ih2⟩ := ih (Occ.pub l m).1 hinv (hocc'.trans hocc)
      fun b hb => hleg b (List.mem_cons_of_mem _ hb)
    have hfl : ([m] :: bs).flatten = m :: bs.flatten := by simp
    constructor
    · show (stepBatch l [m]).2 ++ run (stepBatch l [m]).1 bs = _
      rw [step_single, hfl, Occ.runP_cons, ih1]
      simp
    · show final (stepBatch l [m]).1 bs = _
      rw [step_single, hfl, ih2]
      rfl

/-- Every answer of the sequencer is the answer to one of the messages published alone, on a state
that satisfies the invariant and has the flags of the initial one. -/
theorem mem_run {bm : Nat} {bs : List (List Msg)} {l : CLog} (h : Inv l) (hocc : l.occ = true)
    (hleg : Legal l.occ bm bs) {pr : Msg × Answer} (hpr : pr ∈ run l bs) :
    pr.1 ∈ bs.flatten ∧ ∃ l', Inv l' ∧ l'.occ = true ∧ l'.readonly = l.readonly ∧
      pr.2 = answerOf (Occ.pub l' pr.1).2 := by
  rw [hocc] at hleg
  rw [(run_eq bm bs l h hocc hleg).1, List.mem_map] at hpr
  obtain ⟨p, hp, rfl⟩ := hpr
  obtain ⟨hmem, l', hinv, hocc', hro', he⟩ := Occ.mem_runP h hp
  exact ⟨hmem, l', hinv, hocc'.trans hocc, hro', congrArg answerOf he⟩

end Liftbridge.Proofs.Seq
