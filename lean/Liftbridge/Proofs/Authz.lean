/-
Helper lemmas for C15: the syntactic decision procedure of Model/Authz.lean
(`Handler.checkedFirst`, `Handler.violates`) is sound with respect to `run` for EVERY
policy. Nothing here depends on the regenerated table.
-/
import Liftbridge.Model.Authz

namespace Liftbridge.Authz

/-- `paths` consults the policy only at the keys of the skeleton. -/
theorem paths_congr (allow allow' : Res → Act → Bool) :
    ∀ s : Stmt, (∀ k ∈ keys s, allow k.1 k.2 = allow' k.1 k.2) → paths allow s = paths allow' s := by
  intro s
  induction s with
  | check r a d ih =>
    intro h
    rw [paths, paths, h (r, a) List.mem_cons_self, ih fun k hk => h k (List.mem_cons_of_mem _ hk)]
  | seq a b iha ihb =>
    intro h
    rw [paths, paths, iha fun k hk => h k (List.mem_append_left _ hk),
      ihb fun k hk => h k (List.mem_append_right _ hk)]
  | ite t e iht ihe =>
    intro h
    rw [paths, paths, iht fun k hk => h k (List.mem_append_left _ hk),
      ihe fun k hk => h k (List.mem_append_right _ hk)]
  | loop f b ih => intro h; rw [paths, paths, ih h]
  | call b ih => intro h; rw [paths, paths, ih h]
  | _ => intro _; rfl

theorem safeUnder_iff (allow : Res → Act → Bool) (s : Stmt) :
    safeUnder allow s = true ↔ ∀ p ∈ paths allow s, p.effects = [] ∧ p.refusal = true := by
  simp [safeUnder]

/-- "no effect on any path and refused on every path", in terms of `runWith`. -/
theorem runWith_clean_iff (allow : Res → Act → Bool) (s : Stmt) :
    ((runWith allow s).effects = [] ∧ (runWith allow s).denied = true) ↔ safeUnder allow s = true := by
  simp only [safeUnder_iff, runWith, List.flatMap_eq_nil_iff, List.all_eq_true]
  exact ⟨fun ⟨h1, h2⟩ p hp => ⟨h1 p hp, h2 p hp⟩, fun h => ⟨fun p hp => (h p hp).1, fun p hp => (h p hp).2⟩⟩

/-- If every check of the body is the handler's own and the policy denies it, the body runs
exactly as under the deny-all policy. -/
theorem paths_denied_eq (h : Handler) (allow : Res → Act → Bool)
    (hk : h.onlyOwnKey = true) (hden : allow h.res h.act = false) :
    paths allow h.body = paths denyAll h.body := by
  apply paths_congr
  intro k hkm
  simp only [Handler.onlyOwnKey, List.all_eq_true, Bool.and_eq_true, beq_iff_eq] at hk
  obtain ⟨h1, h2⟩ := hk k hkm
  simp [denyAll, h1, h2, hden]

/-- Soundness of `checkedFirst` for ANY source of answers (`allow` may be the policy alone or
the whole of `ensureAuthorizationPermission`): if the handler's own question is answered
"no", the body is as clean as under deny-all. -/
theorem checkedFirst_safe (h : Handler) (hc : h.checkedFirst = true)
    (allow : Res → Act → Bool) (hden : allow h.res h.act = false) : safeUnder allow h.body = true := by
  simp only [Handler.checkedFirst, Bool.and_eq_true] at hc
  rw [safeUnder, paths_denied_eq h allow hc.1 hden]
  exact hc.2

/-- Then nothing happens and every path refuses. -/
theorem checkedFirst_sound_with (h : Handler) (hc : h.checkedFirst = true)
    (allow : Res → Act → Bool) (hden : allow h.res h.act = false) :
    (runWith allow h.body).effects = [] ∧ (runWith allow h.body).denied = true :=
  (runWith_clean_iff allow h.body).2 (checkedFirst_safe h hc allow hden)

/-- Soundness of `checkedFirst`, for every policy and client. -/
theorem checkedFirst_sound (h : Handler) (hc : h.checkedFirst = true)
    (pol : Policy) (cl : Client) (hden : ¬ pol cl h.res h.act = true) :
    (run pol cl h.body).effects = [] ∧ (run pol cl h.body).denied = true :=
  checkedFirst_sound_with h hc (pol cl) (Bool.eq_false_iff.2 hden)

/-- A handler that `violates` fails the property under the deny-all policy. -/
theorem violates_witness (h : Handler) (hv : h.violates = true) (cl : Client) :
    ¬ ((run (fun _ _ _ => false) cl h.body).effects = [] ∧
        (run (fun _ _ _ => false) cl h.body).denied = true) := by
  intro hcl
  have : safeUnder denyAll h.body = true := (runWith_clean_iff _ _).1 hcl
  simp [Handler.violates, this] at hv

theorem DOut.isAllow_iff {o : DOut} : o.isAllow = true ↔ o = .allow := by
  cases o <;> simp [DOut.isAllow]

theorem Cmp.evalNat_zero_class (c : Cmp) (n : Nat) :
    c.evalNat n 0 = c.evalNat (if n = 0 then 0 else 1) 0 := by
  cases n with
  | zero => simp
  | succ k => cases c <;> simp [Cmp.evalNat]

/-- The tree depends on the identity only through "present" and "non-empty". -/
theorem DCond.eval_bits (i : DIn) (c : DCond) :
    c.eval i = c.evalB i.enabled i.ident.isSome (decide ((i.ident.getD "").length ≠ 0)) i.enfErr i.enfOk := by
  cases c with
  | idVsEmpty c =>
    simp only [DCond.eval, DCond.evalB]
    rw [Cmp.evalNat_zero_class]
    cases hi : i.ident with
    | none => simp
    | some s =>
      by_cases h0 : s.length = 0 <;> simp [h0]
  | _ => rfl

theorem DTree.eval_bits (i : DIn) (t : DTree) :
    t.eval i = t.evalB i.enabled i.ident.isSome (decide ((i.ident.getD "").length ≠ 0)) i.enfErr i.enfOk := by
  induction t with
  | ret o => rfl
  | lost => rfl
  | ite c t e iht ihe => simp only [DTree.eval, DTree.evalB, DCond.eval_bits, iht, ihe]

/-- Induction over the messages of a session (any length): whatever the loop did for a
message that was not granted — an effect, or no refusal — cannot happen when the loop body
asks its own permission first and stops on a denial. Every `Did` of every execution
therefore belongs to a message whose (client, stream, action) entry was in the policy in
force when that message was processed. -/
theorem sessions_sound (h : Handler) (hc : h.checkedFirst = true) (cl : Client) :
    ∀ (msgs : List Msg) (i0 : Nat), ∀ tr ∈ sessions h.res cl h.body i0 msgs, ∀ d ∈ tr,
      (d.effects ≠ [] ∨ d.refused = false) →
      ∃ k m, d.idx = i0 + k ∧ msgs[k]? = some m ∧ m.pol cl m.stream h.act = true := by
  intro msgs
  induction msgs with
  | nil =>
    intro i0 tr htr d hd
    rw [List.mem_singleton.1 htr] at hd
    cases hd
  | cons m ms ih =>
    intro i0 tr htr d hd hbad
    simp only [sessions, List.mem_flatMap] at htr
    obtain ⟨p, hp, htr⟩ := htr
    -- the head message: were it not granted, its path would be clean
    have head : d = ⟨i0, p.effects, p.refusal⟩ →
        ∃ k m', d.idx = i0 + k ∧ (m :: ms)[k]? = some m' ∧ m'.pol cl m'.stream h.act = true := by
      rintro rfl
      refine ⟨0, m, rfl, rfl, Decidable.byContradiction fun hg => ?_⟩
      have hden : m.allow h.res cl h.res h.act = false := by simpa [Msg.allow] using hg
      obtain ⟨he, hr⟩ := (safeUnder_iff _ _).1 (checkedFirst_safe h hc _ hden) p hp
      rcases hbad with hb | hb
      · exact hb he
      · rw [hr] at hb; cases hb
    split at htr
    · rw [List.mem_singleton.1 htr] at hd
      exact head (List.mem_singleton.1 hd)
    · obtain ⟨tr', htr', rfl⟩ := List.mem_map.1 htr
      rcases List.mem_cons.1 hd with hd0 | hd'
      · exact head hd0
      · obtain ⟨k, m', hk, hm, hg⟩ := ih (i0 + 1) tr' htr' d hd' hbad
        exact ⟨k + 1, m', by omega, by simpa using hm, hg⟩

end Liftbridge.Authz
