/- The commit-log model without an invariant of whole states: single segments (`SegOK`), segment
lists (`WFC`: flat log sorted, bases bound records, consecutive segments do not overlap; `WF` adds
the exact links of a log that was never cleaned), and the three look-ups of the model, which on a
`WFC` list (a `SegOK` segment) are `List.findIdx?` with one case lemma each. -/
import Liftbridge.Model.Log
import Liftbridge.Proofs.Search
namespace Liftbridge.Proofs.Log
open Liftbridge Liftbridge.Log Liftbridge.Log.CLog

/-! ### `sort.Search` over a list, as used by every lookup of the model -/

/-- The common shape of `findSegmentIdx`, `findSegmentByBaseIdx`, `Seg.findEntryIdx`. -/
def searchOpt {α} (xs : List α) (q : α → Bool) : Option Nat :=
  let n := xs.length
  let i := goSearch n (fun i => match xs[i]? with
    | some x => q x
    | none => true)
  if i = n then none else some i

/-- A lookup whose probe agrees pointwise with that of `searchOpt` (each lookup of the model spells
the same `match` as a different term). -/
theorem searchOpt_probe {α} (xs : List α) (q : α → Bool) (f : Nat → Bool)
    (hf : ∀ i, f i = match xs[i]? with | some x => q x | none => true) :
    (if goSearch xs.length f = xs.length then none else some (goSearch xs.length f)) =
      searchOpt xs q := by
  rw [funext hf]; rfl

theorem findSegmentIdx_eq (segs : List Seg) (o : Int) :
    findSegmentIdx segs o = searchOpt segs (fun s => Gen.Log.findSegmentCmp.evalInt s.nextOffset o) :=
  searchOpt_probe _ _ _ fun i => by cases segs[i]? <;> rfl

theorem findSegmentByBaseIdx_eq (segs : List Seg) (o : Int) :
    findSegmentByBaseIdx segs o = searchOpt segs (fun s => Gen.Log.findSegmentByBaseCmp.evalInt s.base o) :=
  searchOpt_probe _ _ _ fun i => by cases segs[i]? <;> rfl

theorem findEntryIdx_eq (s : Seg) (o : Int) :
    s.findEntryIdx o = searchOpt s.recs (fun r => Gen.Log.findEntryCmp.evalInt r.offset o) :=
  searchOpt_probe _ _ _ fun i => by cases s.recs[i]? <;> rfl

def Mono {α} (xs : List α) (q : α → Bool) : Prop := xs.Pairwise (fun a b => q a = true → q b = true)

private theorem mono_idx {α} {xs : List α} {q : α → Bool} (mono : Mono xs q) :
    ∀ i j, i ≤ j → j < xs.length →
      (match xs[i]? with | some x => q x | none => true) = true →
      (match xs[j]? with | some x => q x | none => true) = true := by
  intro i j hij hj hi
  have hi' : i < xs.length := by omega
  simp only [List.getElem?_eq_getElem hi', List.getElem?_eq_getElem hj] at hi ⊢
  rcases Nat.lt_or_eq_of_le hij with h | rfl
  · exact (List.pairwise_iff_getElem.mp mono) i j hi' hj h hi
  · exact hi

/-- `sort.Search` with a probe that is monotone along the list is the linear search for the first
element satisfying it: from here on a lookup is a `List.findIdx` and core's lemmas apply. -/
theorem goSearch_eq_findIdx {α} {xs : List α} {q : α → Bool} (mono : Mono xs q) :
    goSearch xs.length (fun i => match xs[i]? with | some x => q x | none => true) = xs.findIdx q :=
  goSearch_eq (mono_idx mono) List.findIdx_le_length
    (fun i hi => by
      have hl := Nat.lt_of_lt_of_le hi (List.findIdx_le_length (p := q))
      simp [List.getElem?_eq_getElem hl, List.not_of_lt_findIdx hi])
    (fun h => by simp [List.getElem?_eq_getElem h, List.findIdx_getElem])

theorem searchOpt_eq_findIdx? {α} {xs : List α} {q : α → Bool} (mono : Mono xs q) :
    searchOpt xs q = xs.findIdx? q := by
  show (if goSearch xs.length _ = xs.length then none else some (goSearch xs.length _)) = _
  rw [goSearch_eq_findIdx mono]
  split
  · rename_i h; exact (List.findIdx?_eq_none_iff.mpr (List.findIdx_eq_length.mp h)).symm
  · rename_i h
    exact (List.findIdx?_eq_some_iff_findIdx_eq.mpr
      ⟨Nat.lt_of_le_of_ne List.findIdx_le_length h, rfl⟩).symm

abbrev Sorted (rs : List Rec) : Prop := rs.Pairwise (fun a b => a.offset < b.offset)

theorem filter_lt_eq_takeWhile (rs : List Rec) (o : Int) (hs : Sorted rs) :
    rs.filter (fun r => decide (r.offset < o)) = rs.takeWhile (fun r => decide (r.offset < o)) :=
  (takeWhile_eq_filter_of_pairwise _ rs (hs.imp fun hab => by simp only [decide_eq_true_eq]; omega)).symm

theorem sorted_append {xs ys : List Rec} (hx : Sorted xs) (hy : Sorted ys)
    (h : ∀ a ∈ xs, ∀ b ∈ ys, a.offset < b.offset) : Sorted (xs ++ ys) :=
  List.pairwise_append.mpr ⟨hx, hy, h⟩

theorem sorted_split {rp rq : List Rec} {r : Rec} (h : Sorted (rp ++ r :: rq)) :
    (∀ a ∈ rp, a.offset < r.offset) ∧ (∀ b ∈ rq, r.offset < b.offset) := pairwise_split h

/-- Local well-formedness of one segment: what `Inv.base_le` and `Inv.sorted` say about it. -/
structure SegOK (s : Seg) : Prop where
  base_nonneg : 0 ≤ s.base
  base_le : ∀ r ∈ s.recs, s.base ≤ r.offset
  sorted : Sorted s.recs

theorem nextOffset_nil {s : Seg} (h : s.recs = []) : s.nextOffset = s.base := by
  simp [Seg.nextOffset, Seg.lastOffset, h]

theorem nextOffset_concat {s : Seg} {init : List Rec} {r : Rec} (h : s.recs = init ++ [r])
    (hr : 0 ≤ r.offset) : s.nextOffset = r.offset + 1 := by
  have : r.offset ≠ -1 := by omega
  simp [Seg.nextOffset, Seg.lastOffset, h, this]

/-- Offsets are non-negative, so the `-1` sentinel of `lastOffset` is never a real offset. -/
theorem SegOK.next_cases {s : Seg} (ok : SegOK s) :
    (s.recs = [] ∧ s.nextOffset = s.base) ∨
    ∃ init z, s.recs = init ++ [z] ∧ s.nextOffset = z.offset + 1 := by
  rcases eq_nil_or_snoc s.recs with h | ⟨init, z, h⟩
  · exact .inl ⟨h, nextOffset_nil h⟩
  · have := ok.base_le z (by simp [h]); have := ok.base_nonneg
    exact .inr ⟨init, z, h, nextOffset_concat h (by omega)⟩

theorem SegOK.lt_next {s : Seg} (ok : SegOK s) : ∀ r ∈ s.recs, r.offset < s.nextOffset := by
  intro r hr
  rcases ok.next_cases with ⟨h, _⟩ | ⟨init, z, h, hn⟩
  · simp [h] at hr
  · have hs := ok.sorted
    rw [h] at hr hs
    rcases List.mem_append.mp hr with hr | hr
    · have := (List.pairwise_append.mp hs).2.2 r hr z (by simp); omega
    · simp at hr; subst hr; omega

theorem SegOK.base_le_next {s : Seg} (ok : SegOK s) : s.base ≤ s.nextOffset := by
  rcases ok.next_cases with ⟨_, hn⟩ | ⟨init, z, h, hn⟩
  · omega
  · have := ok.base_le z (by simp [h]); omega

theorem SegOK.next_nonneg {s : Seg} (ok : SegOK s) : 0 ≤ s.nextOffset := by
  have := ok.base_le_next; have := ok.base_nonneg; omega

theorem SegOK.recs_ne_nil {s : Seg} (h : s.base < s.nextOffset) : s.recs ≠ [] := by
  intro hn
  rw [nextOffset_nil hn] at h
  omega

theorem SegOK.base_lt_next {s : Seg} (ok : SegOK s) (hne : s.recs ≠ []) : s.base < s.nextOffset := by
  obtain ⟨r, hr⟩ := List.exists_mem_of_ne_nil _ hne
  have := ok.lt_next r hr; have := ok.base_le r hr
  omega

theorem SegOK.next_eq_last {s : Seg} (ok : SegOK s) {r : Rec} (h : s.recs.getLast? = some r) :
    s.nextOffset = r.offset + 1 := by
  rcases ok.next_cases with ⟨hn, _⟩ | ⟨init, z, hz, hn⟩
  · simp [hn] at h
  · rw [hz, List.getLast?_concat] at h
    cases h; exact hn

theorem SegOK.mono_entry {s : Seg} (ok : SegOK s) (o : Int) :
    Mono s.recs (fun r => Gen.Log.findEntryCmp.evalInt r.offset o) :=
  ok.sorted.imp fun hab => by simp only [Gen.Log.findEntryCmp, Cmp.evalInt, decide_eq_true_eq]; omega

theorem SegOK.sublist {s : Seg} (ok : SegOK s) {rs : List Rec} (h : rs.Sublist s.recs) :
    SegOK { s with recs := rs } :=
  ⟨ok.base_nonneg, fun r hr => ok.base_le r (h.subset hr), ok.sorted.sublist h⟩

/-- Consecutive segments: the later one starts exactly at the next offset of the earlier one. -/
def Link (segs : List Seg) : Prop :=
  ∀ i a b, segs[i]? = some a → segs[i + 1]? = some b → b.base = a.nextOffset

theorem Link.of_append {pre post : List Seg} (h : Link (pre ++ post)) : Link pre := by
  intro i a b ha hb
  have hi := (List.getElem?_eq_some_iff.mp hb).1
  exact h i a b (by rwa [List.getElem?_append_left (by omega)])
    (by rwa [List.getElem?_append_left hi])

theorem Link.last_pre {pre post : List Seg} {s a : Seg} (h : Link (pre ++ s :: post))
    (ha : pre.getLast? = some a) : s.base = a.nextOffset := by
  obtain ⟨init, rfl⟩ := List.getLast?_eq_some_iff.mp ha
  exact h init.length a s (by simp) (by simp)

theorem Link.snoc {pre : List Seg} {b : Seg} (h : Link pre)
    (hb : ∀ a, pre.getLast? = some a → b.base = a.nextOffset) : Link (pre ++ [b]) := by
  intro i x y hx hy
  have hi : i + 1 ≤ pre.length := by
    have := (List.getElem?_eq_some_iff.mp hy).1
    simp at this; omega
  rw [List.getElem?_append_left (by omega)] at hx
  rcases Nat.lt_or_eq_of_le hi with hlt | heq
  · rw [List.getElem?_append_left hlt] at hy
    exact h i x y hx hy
  · obtain rfl : b = y := by simpa [heq] using hy
    exact hb x (by rw [List.getLast?_eq_getElem?, ← heq]; simpa using hx)

/-- Well-formedness of a segment list that may have offset gaps between segments (the part of
the invariant shared by plain and compacted / trimmed logs): all lookups and readers only need
this. -/
structure WFC (segs : List Seg) : Prop where
  sorted : Sorted (segs.flatMap Seg.recs)
  base_le : ∀ s ∈ segs, 0 ≤ s.base ∧ ∀ r ∈ s.recs, s.base ≤ r.offset
  chain : segs.Pairwise (fun a b => a.nextOffset ≤ b.base ∧ a.base < b.base)

/-- Well-formedness of a segment list (the list part of the invariant `Inv`): `WFC` plus exact
links between consecutive segments. -/
structure WF (segs : List Seg) : Prop extends WFC segs where
  link : Link segs

theorem WFC.segOK {segs : List Seg} (wf : WFC segs) {s : Seg} (hs : s ∈ segs) : SegOK s := by
  refine ⟨(wf.base_le s hs).1, (wf.base_le s hs).2, ?_⟩
  obtain ⟨p, q, rfl⟩ := List.append_of_mem hs
  have := wf.sorted
  simp only [List.flatMap_append, List.flatMap_cons] at this
  exact (List.pairwise_append.mp (List.pairwise_append.mp this).2.1).1

theorem WFC.split {segs pre post : List Seg} {s : Seg} (wf : WFC segs) (h : segs = pre ++ s :: post) :
    (∀ a ∈ pre, a.nextOffset ≤ s.base ∧ a.base < s.base) ∧
    (∀ b ∈ post, s.nextOffset ≤ b.base ∧ s.base < b.base) := by
  have := wf.chain
  rw [h, List.pairwise_append] at this
  exact ⟨fun a ha => this.2.2 a ha s (by simp), (List.pairwise_cons.mp this.2.1).1⟩

theorem WFC.lt_of_next_le {segs sub : List Seg} (wf : WFC segs) {o : Int} (hsub : ∀ a ∈ sub, a ∈ segs)
    (h : ∀ a ∈ sub, a.nextOffset ≤ o) : ∀ r ∈ sub.flatMap Seg.recs, r.offset < o := by
  intro r hr
  obtain ⟨a, ha, hra⟩ := List.mem_flatMap.mp hr
  have := (wf.segOK (hsub a ha)).lt_next r hra; have := h a ha
  omega

theorem WFC.ge_of_le_base {segs sub : List Seg} (wf : WFC segs) {o : Int} (hsub : ∀ a ∈ sub, a ∈ segs)
    (h : ∀ a ∈ sub, o ≤ a.base) : ∀ r ∈ sub.flatMap Seg.recs, o ≤ r.offset := by
  intro r hr
  obtain ⟨a, ha, hra⟩ := List.mem_flatMap.mp hr
  have := (wf.segOK (hsub a ha)).base_le r hra; have := h a ha
  omega

theorem WFC.offset_nonneg {segs : List Seg} (wf : WFC segs) : ∀ r ∈ segs.flatMap Seg.recs, 0 ≤ r.offset :=
  wf.ge_of_le_base (fun _ ha => ha) fun a ha => (wf.base_le a ha).1

theorem WFC.pre_lt {segs pre post : List Seg} {s : Seg} (wf : WFC segs) (h : segs = pre ++ s :: post) :
    ∀ r ∈ pre.flatMap Seg.recs, r.offset < s.base :=
  wf.lt_of_next_le (fun a ha => by simp [h, ha]) fun a ha => ((wf.split h).1 a ha).1

theorem WFC.post_ge {segs pre post : List Seg} {s : Seg} (wf : WFC segs) (h : segs = pre ++ s :: post) :
    ∀ r ∈ post.flatMap Seg.recs, s.nextOffset ≤ r.offset :=
  wf.ge_of_le_base (fun a ha => by simp [h, ha]) fun b hb => ((wf.split h).2 b hb).1

theorem WFC.mono_next {segs : List Seg} (wf : WFC segs) (o : Int) :
    Mono segs (fun s => Gen.Log.findSegmentCmp.evalInt s.nextOffset o) := by
  refine List.Pairwise.imp_of_mem (fun ha hb hab => ?_) wf.chain
  simp only [Gen.Log.findSegmentCmp, Cmp.evalInt, decide_eq_true_eq]
  have := (wf.segOK hb).base_le_next
  omega

theorem WFC.mono_base {segs : List Seg} (wf : WFC segs) (o : Int) :
    Mono segs (fun s => Gen.Log.findSegmentByBaseCmp.evalInt s.base o) :=
  wf.chain.imp fun hab => by
    simp only [Gen.Log.findSegmentByBaseCmp, Cmp.evalInt, decide_eq_true_eq]; omega

theorem WFC.of_append {pre post : List Seg} (wf : WFC (pre ++ post)) : WFC pre := by
  refine ⟨?_, fun s hs => wf.base_le s (by simp [hs]), (List.pairwise_append.mp wf.chain).1⟩
  have := wf.sorted
  rw [List.flatMap_append] at this
  exact (List.pairwise_append.mp this).1

theorem WFC.of_append_right {pre post : List Seg} (wf : WFC (pre ++ post)) : WFC post := by
  refine ⟨?_, fun s hs => wf.base_le s (by simp [hs]), (List.pairwise_append.mp wf.chain).2.1⟩
  have := wf.sorted
  rw [List.flatMap_append] at this
  exact (List.pairwise_append.mp this).2.1

theorem WF.of_append {pre post : List Seg} (wf : WF (pre ++ post)) : WF pre :=
  ⟨wf.toWFC.of_append, wf.link.of_append⟩

/-- Appending a well-formed segment that starts at or after the end of the list. -/
theorem WFC.snoc {pre : List Seg} {b : Seg} (wf : WFC pre) (ok : SegOK b)
    (hc : ∀ a ∈ pre, a.nextOffset ≤ b.base ∧ a.base < b.base) : WFC (pre ++ [b]) := by
  refine ⟨?_, ?_, List.pairwise_append.mpr ⟨wf.chain, by simp, by simpa using hc⟩⟩
  · simp only [List.flatMap_append, List.flatMap_cons, List.flatMap_nil, List.append_nil]
    refine sorted_append wf.sorted ok.sorted fun r hr r' hr' => ?_
    have := wf.lt_of_next_le (fun _ h => h) (fun a ha => (hc a ha).1) r hr
    have := ok.base_le r' hr'
    omega
  · intro s hs
    rcases List.mem_append.mp hs with hs | hs
    · exact wf.base_le s hs
    · obtain rfl : s = b := by simpa using hs
      exact ⟨ok.base_nonneg, ok.base_le⟩

/-- Appending a well-formed segment that starts where the list ends. -/
theorem WF.snoc {pre : List Seg} {b : Seg} (wf : WF pre) (ok : SegOK b)
    (hc : ∀ a ∈ pre, a.nextOffset ≤ b.base ∧ a.base < b.base)
    (hl : ∀ a, pre.getLast? = some a → b.base = a.nextOffset) : WF (pre ++ [b]) :=
  ⟨wf.toWFC.snoc ok hc, wf.link.snoc hl⟩

theorem WF.replace {pre post : List Seg} {x y : Seg} (wf : WF (pre ++ x :: post)) (ok : SegOK y)
    (hb : y.base = x.base) : WF (pre ++ [y]) :=
  wf.of_append.snoc ok (fun a ha => hb ▸ (wf.split rfl).1 a ha) fun _ ha => hb ▸ wf.link.last_pre ha

/-! ### The three lookups of the model are first-index searches -/

theorem findSegmentIdx_findIdx? {segs : List Seg} (wf : WFC segs) (o : Int) :
    findSegmentIdx segs o = segs.findIdx? (fun s => decide (o < s.nextOffset)) := by
  rw [findSegmentIdx_eq, searchOpt_eq_findIdx? (wf.mono_next o)]
  simp only [Gen.Log.findSegmentCmp, Cmp.evalInt, gt_iff_lt]

theorem findSegmentByBaseIdx_findIdx? {segs : List Seg} (wf : WFC segs) (o : Int) :
    findSegmentByBaseIdx segs o = segs.findIdx? (fun s => decide (o ≤ s.base)) := by
  rw [findSegmentByBaseIdx_eq, searchOpt_eq_findIdx? (wf.mono_base o)]
  simp only [Gen.Log.findSegmentByBaseCmp, Cmp.evalInt, ge_iff_le]

theorem findEntryIdx_findIdx? {s : Seg} (ok : SegOK s) (o : Int) :
    s.findEntryIdx o = s.recs.findIdx? (fun r => decide (o ≤ r.offset)) := by
  rw [findEntryIdx_eq, searchOpt_eq_findIdx? (ok.mono_entry o)]
  simp only [Gen.Log.findEntryCmp, Cmp.evalInt, ge_iff_le]
/-- `findSegment`: no segment ends above `o`, or the list splits at the first one that does. -/
theorem findSegmentIdx_cases {segs : List Seg} (wf : WFC segs) (o : Int) :
    (findSegmentIdx segs o = none ∧ ∀ a ∈ segs, a.nextOffset ≤ o) ∨
    ∃ pre x post, segs = pre ++ x :: post ∧ findSegmentIdx segs o = some pre.length ∧
      o < x.nextOffset ∧ ∀ a ∈ pre, a.nextOffset ≤ o := by
  rw [findSegmentIdx_findIdx? wf]
  rcases findIdx?_cases segs (fun s => decide (o < s.nextOffset)) with
    ⟨hi, hall⟩ | ⟨pre, x, post, hs, hi, hx, hpre⟩
  · exact .inl ⟨hi, fun a ha => by simpa using hall a ha⟩
  · exact .inr ⟨pre, x, post, hs, hi, by simpa using hx, fun a ha => by simpa using hpre a ha⟩

/-- `findEntry`: no record of the segment lies at or above `o`, or its records split at the first
one that does. -/
theorem findEntryIdx_cases {s : Seg} (ok : SegOK s) (o : Int) :
    (s.findEntryIdx o = none ∧ ∀ a ∈ s.recs, a.offset < o) ∨
    ∃ rp r rq, s.recs = rp ++ r :: rq ∧ s.findEntryIdx o = some rp.length ∧ o ≤ r.offset ∧
      (∀ a ∈ rp, a.offset < o) ∧ ∀ a ∈ rq, o < a.offset := by
  rw [findEntryIdx_findIdx? ok]
  rcases findIdx?_cases s.recs (fun r => decide (o ≤ r.offset)) with
    ⟨hi, hall⟩ | ⟨rp, r, rq, hs, hi, hr, hrp⟩
  · exact .inl ⟨hi, fun a ha => by simpa using hall a ha⟩
  · have hr : o ≤ r.offset := by simpa using hr
    refine .inr ⟨rp, r, rq, hs, hi, hr, fun a ha => by simpa using hrp a ha, fun a ha => ?_⟩
    have := (sorted_split (hs ▸ ok.sorted)).2 a ha
    omega

end Liftbridge.Proofs.Log
