/-
The two epoch-boundary conventions of the commit log, and that the follower's
`Truncate(answer + 1)` leaves a prefix of the leader's log under the elected one (C02, DESIGN §4
steps 2–3, §6 F-C02-a; its failure under the replicated one is Props/C02
`truncate_replicated_keeps_divergent`).

* `NewLeaderEpoch(e)` = `Assign(e, NewestOffset())` records the LAST offset of the epochs before
  `e` ("elected" convention, `CacheInvElected`);
* `append` = `Assign(entry.LeaderEpoch, entry.Offset)` records the FIRST offset of epoch `e`
  ("replicated" convention, `CacheInvReplicated`).
-/
import Liftbridge.Model.Log
import Liftbridge.Proofs.Log
import Liftbridge.Proofs.Epochs

namespace Liftbridge.Proofs.Reconcile
open Liftbridge Liftbridge.Log Liftbridge.Log.CLog Liftbridge.Proofs.Log Liftbridge.Proofs.Epochs

/-- Last offset among the records of epochs `< e` (-1 if there is none). -/
def lastOffLT (rs : List Rec) (e : Nat) : Int :=
  match (rs.filter (fun r => decide (r.epoch < e))).getLast? with
  | some r => r.offset
  | none => -1

/-- Last offset among the records of epochs `≤ e` (-1 if there is none). -/
def lastOffLE (rs : List Rec) (e : Nat) : Int :=
  match (rs.filter (fun r => decide (r.epoch ≤ e))).getLast? with
  | some r => r.offset
  | none => -1

/-- First offset among the records of epochs `≥ e`. -/
def firstOffGE (rs : List Rec) (e : Nat) : Option Int :=
  (rs.find? (fun r => decide (e ≤ r.epoch))).map (·.offset)

/-- "Elected" convention: the cache maps an epoch to the last offset of the epochs before it. -/
def CacheInvElected (l : CLog) : Prop := ∀ p ∈ l.epochs, p.2 = lastOffLT l.abs p.1

/-- "Replicated" convention: the cache maps an epoch to the first offset of that epoch. -/
def CacheInvReplicated (l : CLog) : Prop := ∀ p ∈ l.epochs, firstOffGE l.abs p.1 = some p.2

instance (l : CLog) : Decidable (CacheInvElected l) := by unfold CacheInvElected; exact inferInstance
instance (l : CLog) : Decidable (CacheInvReplicated l) := by unfold CacheInvReplicated; exact inferInstance

/-- `NewLeaderEpoch(e)` on a log that holds only older epochs appends `(e, newest)`, and `newest`
is the last offset of the epochs before `e`: the elected convention. -/
theorem newLeaderEpoch_elected {l : CLog} (h : Inv l) {e : Nat}
    (hold : ∀ r ∈ l.abs, r.epoch < e) (he : l.epochs.latestEpoch < e) (ho : l.epochs.latestOffset ≤ l.newest)
    (hempty : l.abs = [] → l.newest = -1) :
    (l.newLeaderEpoch e).epochs = l.epochs ++ [(e, l.newest)] ∧ l.newest = lastOffLT l.abs e := by
  refine ⟨?_, ?_⟩
  · unfold newLeaderEpoch
    simp only [assign_eq, he, ho, and_self, if_true]
  · unfold lastOffLT
    have hf : l.abs.filter (fun r => decide (r.epoch < e)) = l.abs := by
      apply List.filter_eq_self.mpr
      intro r hr; simpa using hold r hr
    rw [hf]
    cases hl : l.abs.getLast? with
    | none =>
      have : l.abs = [] := List.getLast?_eq_none_iff.mp hl
      exact hempty this
    | some r =>
      have := newest_last h hl
      omega

/-- Appending (e.g. by replication) a first record of a newer epoch `e` records `(e, its offset)`,
the first offset of epoch `e`: the replicated convention. -/
theorem appendSet_replicated {l l' : CLog} (h : Inv l) {r : Rec} {offs : List Int}
    (hold : ∀ x ∈ l.abs, x.epoch < r.epoch) (he : l.epochs.latestEpoch < r.epoch)
    (ho : l.epochs.latestOffset ≤ r.offset) (ha : l.appendSet [r] = .ok (l', offs)) :
    l'.epochs = l.epochs ++ [(r.epoch, r.offset)] ∧ firstOffGE l'.abs r.epoch = some r.offset := by
  have habs := (appendSet_full h ha).1
  refine ⟨?_, ?_⟩
  · unfold appendSet write at ha
    simp only [List.isEmpty_cons, Bool.false_eq_true, if_false, Res.ok.injEq, Prod.mk.injEq] at ha
    rw [← ha.1]
    simp only [assignEpochs, Gen.Log.appendEpochCmp, Cmp.evalNat, gt_iff_lt]
    rw [epochs_checkSplit]
    simp only [he, decide_true, if_true, assign_eq, ho, and_self]
  · unfold firstOffGE
    rw [habs, List.find?_append]
    have : l.abs.find? (fun x => decide (r.epoch ≤ x.epoch)) = none := by
      apply List.find?_eq_none.mpr
      intro x hx
      have := hold x hx
      simp only [decide_eq_true_eq]; omega
    rw [this]
    simp

theorem offset_nonneg {l : CLog} (h : Inv l) : ∀ r ∈ l.abs, 0 ≤ r.offset :=
  h.wfc.offset_nonneg

/-- Follower log `F = P ++ SF`, leader log `L = P ++ SL` (`P` the common prefix), `e` an upper bound
of the epochs in `P` (the follower's last epoch). If — whenever the follower has a suffix of its
own — the leader's own suffix consists of later epochs only, then truncating the follower to
`(last offset of the leader's records of epochs ≤ e) + 1` leaves a prefix of the leader's log. -/
theorem truncate_prefix_elected {F L : CLog} (hF : Inv F) {P SF SL : List Rec} {e : Nat}
    (hFabs : F.abs = P ++ SF) (hLabs : L.abs = P ++ SL)
    (hPe : ∀ r ∈ P, r.epoch ≤ e) (hdiv : SF ≠ [] → ∀ r ∈ SL, e < r.epoch) :
    (F.truncate (lastOffLE L.abs e + 1)).abs <+: L.abs := by
  rw [truncate_abs hF, hLabs, hFabs, List.filter_append]
  have hpw := List.pairwise_append.mp (hFabs ▸ hF.sorted : Sorted (P ++ SF))
  -- nothing of the follower's own suffix survives: its offsets lie above the last offset of `P`
  have h2 : SF.filter (fun r => decide (r.offset < lastOffLE (P ++ SL) e + 1)) = [] := by
    by_cases hsf : SF = []
    · simp [hsf]
    · have hfil : (P ++ SL).filter (fun r => decide (r.epoch ≤ e)) = P := by
        rw [List.filter_append, List.filter_eq_self.mpr (fun r hr => by simpa using hPe r hr),
          List.filter_eq_nil_iff.mpr (fun r hr => by have := hdiv hsf r hr; simp; omega),
          List.append_nil]
      apply List.filter_eq_nil_iff.mpr
      intro r hr
      unfold lastOffLE
      rw [hfil]
      cases hl : P.getLast? with
      | none => have := offset_nonneg hF r (by rw [hFabs]; simp [hr]); simp; omega
      | some last => have := hpw.2.2 last (List.mem_of_getLast? hl) r hr; simp; omega
  rw [h2, List.append_nil, filter_lt_eq_takeWhile _ _ hpw.1]
  exact (List.takeWhile_prefix _).trans (List.prefix_append _ _)

/-- Under the elected convention the leader's answer IS that offset — provided the recorded start
offset is not the sentinel -1 and the cache has an entry for the first later epoch that has
records. -/
theorem lastOffsetFor_elected {L : CLog} (hok : EpochsOK L.epochs) (hinv : CacheInvElected L) {e : Nat}
    {p : Nat × Int} (hp : L.epochs.find? (fun x => decide (e < x.1)) = some p)
    (hgap : ∀ r ∈ L.abs, r.epoch ≤ e ∨ p.1 ≤ r.epoch) (hsent : p.2 ≠ -1) :
    L.lastOffsetForLeaderEpoch e = lastOffLE L.abs e := by
  unfold lastOffsetForLeaderEpoch
  rw [lastOffsetFor_spec hok, hp]
  simp only [hsent, if_false]
  have hpm : p ∈ L.epochs := List.mem_of_find?_eq_some hp
  have hpe : e < p.1 := by simpa using List.find?_some hp
  rw [hinv p hpm]
  unfold lastOffLT lastOffLE
  have : L.abs.filter (fun r => decide (r.epoch < p.1)) = L.abs.filter (fun r => decide (r.epoch ≤ e)) := by
    apply List.filter_congr
    intro r hr
    rcases hgap r hr with h | h
    · have : r.epoch < p.1 := by omega
      simp [h, this]
    · have h1 : ¬ r.epoch < p.1 := by omega
      have h2 : ¬ r.epoch ≤ e := by omega
      simp [h1, h2]
  rw [this]

/-- KIP-101, one round, for the elected convention: the reconciled follower is a prefix of the
leader. -/
theorem reconcile_elected_prefix {F L : CLog} (hF : Inv F) {P SF SL : List Rec} {e : Nat}
    (hFabs : F.abs = P ++ SF) (hLabs : L.abs = P ++ SL)
    (hPe : ∀ r ∈ P, r.epoch ≤ e) (hdiv : SF ≠ [] → ∀ r ∈ SL, e < r.epoch)
    (hok : EpochsOK L.epochs) (hinv : CacheInvElected L)
    {p : Nat × Int} (hp : L.epochs.find? (fun x => decide (e < x.1)) = some p)
    (hgap : ∀ r ∈ L.abs, r.epoch ≤ e ∨ p.1 ≤ r.epoch) (hsent : p.2 ≠ -1) :
    (F.truncate (L.lastOffsetForLeaderEpoch e + 1)).abs <+: L.abs := by
  rw [lastOffsetFor_elected hok hinv hp hgap hsent]
  exact truncate_prefix_elected hF hFabs hLabs hPe hdiv

end Liftbridge.Proofs.Reconcile
