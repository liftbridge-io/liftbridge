/- Invariants of the small-step committed-reader model (C03). What the look-ups and `getHWPos`
find on a log with `Inv` (`locate`, `hwPos_cases`, `Lim`) and the algebra of `before` are facts
about `Model/Log` alone and stand in Proofs/LogRead.lean. -/
import Liftbridge.Model.HWReader
import Liftbridge.Proofs.Log
import Liftbridge.Proofs.LogRead
namespace Liftbridge.Proofs.HWReader
open Liftbridge Liftbridge.Log Liftbridge.Log.CLog Liftbridge.HWReader Liftbridge.Proofs.Log

/-- `l'` is `l` after appends and rolls: no segment disappears, sealed segments are unchanged,
the active one may have grown. -/
structure Ext (l l' : CLog) : Prop where
  len : l.segs.length ≤ l'.segs.length
  seg : ∀ j s, l.segs[j]? = some s → ∃ s', l'.segs[j]? = some s' ∧ s'.base = s.base ∧
    ∃ t, s'.recs = s.recs ++ t ∧ (j + 1 < l.segs.length → t = [])

theorem Ext.of_segs {l l' : CLog} (h : l'.segs = l.segs) : Ext l l' :=
  ⟨by rw [h]; exact Nat.le_refl _, fun _ s hs => ⟨s, by rw [h]; exact hs, rfl, [], by simp, fun _ => rfl⟩⟩

theorem Ext.trans {a b c : CLog} (h1 : Ext a b) (h2 : Ext b c) : Ext a c := by
  refine ⟨Nat.le_trans h1.len h2.len, fun j s hs => ?_⟩
  obtain ⟨s1, hs1, hb1, t1, ht1, hn1⟩ := h1.seg j s hs
  obtain ⟨s2, hs2, hb2, t2, ht2, hn2⟩ := h2.seg j s1 hs1
  refine ⟨s2, hs2, by rw [hb2, hb1], t1 ++ t2, by rw [ht2, ht1, List.append_assoc], fun hj => ?_⟩
  have := h1.len
  rw [hn1 hj, hn2 (by omega)]
  rfl

theorem ext_roll (l : CLog) : Ext l l.roll := by
  refine ⟨by simp [roll], fun j s hs => ?_⟩
  have hj := (List.getElem?_eq_some_iff.mp hs).1
  exact ⟨s, by simp [roll, List.getElem?_append_left hj, hs], rfl, [], by simp, fun _ => rfl⟩

theorem ext_write {l l' : CLog} {rs : List Rec} {offs : List Int} (hne : l.segs ≠ [])
    (hw : l.write rs = .ok (l', offs)) : Ext l l' := by
  rw [write_eq l (write_ok_ne hw)] at hw
  obtain ⟨rfl, -⟩ := Prod.mk.inj (Res.ok.inj hw)
  have hs := segs_eq_dropLast_active hne
  have hlen : l.segs.length = l.segs.dropLast.length + 1 := by rw [List.length_dropLast]; have := List.length_pos_iff.mpr hne; omega
  refine ⟨by simp; omega, fun j s hjs => ?_⟩
  show ∃ s', (l.segs.dropLast ++ [_])[j]? = some s' ∧ _
  rw [hs, List.getElem?_append] at hjs
  rw [List.getElem?_append]
  split at hjs <;> rename_i hj
  · exact ⟨s, by rw [if_pos hj]; exact hjs, rfl, [], by simp, fun _ => rfl⟩
  · obtain rfl : j = l.segs.dropLast.length := by
      have := (List.getElem?_eq_some_iff.mp hjs).1; simp at this; omega
    simp only [Nat.sub_self, List.getElem?_cons_zero, Option.some.injEq] at hjs
    subst hjs
    exact ⟨{ l.active with recs := l.active.recs ++ rs }, by simp, rfl, rs, rfl, fun h => by omega⟩

theorem ext_appendSet {l l' : CLog} {rs : List Rec} {offs : List Int} (h : Inv l)
    (ha : l.appendSet rs = .ok (l', offs)) : Ext l l' := by
  have : Ext l l.checkSplit := by
    unfold checkSplit; split
    · exact ext_roll l
    · exact .of_segs rfl
  exact this.trans (ext_write (inv_checkSplit h).nonempty ha)

theorem Ext.sealed {l l' : CLog} (e : Ext l l') {j : Nat} (hj : j + 1 < l.segs.length) :
    l'.segs[j]? = l.segs[j]? := by
  obtain ⟨⟨b', rs'⟩, hs', hb, t, ht, hn⟩ := e.seg j _ (List.getElem?_eq_getElem (by omega))
  obtain rfl : b' = _ := hb
  obtain rfl : rs' = _ := by simpa [hn hj] using ht
  rw [hs', List.getElem?_eq_getElem]

theorem Ext.before_eq {l l' : CLog} (h : Ext l l') {i k : Nat} {sg : Seg} (hs : l.segs[i]? = some sg)
    (hk : k ≤ sg.recs.length) : before l'.segs i k = before l.segs i k := by
  obtain ⟨s', hs', _, t, ht, _⟩ := h.seg i sg hs
  have hi := (List.getElem?_eq_some_iff.mp hs).1
  have : l'.segs.take i = l.segs.take i := by
    apply List.ext_getElem?
    intro j
    simp only [List.getElem?_take]
    split
    · exact h.sealed (by omega)
    · rfl
  unfold before
  rw [this, hs, hs']
  simp only [ht]
  rw [List.take_append_of_le_length hk]

/-- What is appended to a segment lies at or above its former next offset. -/
theorem segext_ge {s s' : Seg} {t : List Rec} (ok' : SegOK s') (hb : s'.base = s.base)
    (ht : s'.recs = s.recs ++ t) :
    (∀ x ∈ t, s.nextOffset ≤ x.offset) ∧ s.nextOffset ≤ s'.nextOffset := by
  rcases List.eq_nil_or_concat s.recs with hn | ⟨init, z, hz⟩
  · rw [nextOffset_nil hn, ← hb]
    exact ⟨fun x hx => ok'.base_le x (by simp [ht, hx]), ok'.base_le_next⟩
  · rw [List.concat_eq_append] at hz
    have hzm : z ∈ s'.recs := by simp [ht, hz]
    have hz0 : 0 ≤ z.offset := by have := ok'.base_le z hzm; have := ok'.base_nonneg; omega
    rw [nextOffset_concat hz hz0]
    refine ⟨fun x hx => ?_, by have := ok'.lt_next z hzm; omega⟩
    have := (List.pairwise_append.mp (ht ▸ ok'.sorted)).2.2 z (by simp [hz]) x hx
    omega

/-- Phases in which a positioned reader stands exactly at its limit (the HW position). -/
def atLim : Phase → Bool
  | .atLimit | .mustWait | .waiting | .resync _ => true
  | .failed e => e = "readonly" || e = "eof"
  | _ => false

/-- A positioned reader: segment `i` (`sg`), HW segment `h` (`sh`). -/
structure Pos (l : CLog) (r : Reader) (i h : Nat) (sg sh : Seg) : Prop where
  hwSeg : r.hwSeg = some h
  sgAt : l.segs[i]? = some sg
  shAt : l.segs[h]? = some sh
  i_le : i ≤ h
  h_lt : h < r.snap
  snap_le : r.snap ≤ l.segs.length
  slot_le : r.slot ≤ sg.recs.length
  hwSlot_le : r.hwSlot ≤ sh.recs.length
  same : i = h → r.slot ≤ r.hwSlot
  /-- segments before the HW segment are entirely committed -/
  lower : ∀ j s, j < h → l.segs[j]? = some s → s.nextOffset ≤ r.hwSeen
  /-- the HW segment is committed up to the limit -/
  lowerH : ∀ x ∈ sh.recs.take r.hwSlot, x.offset ≤ r.hwSeen
  /-- and the limit is exact -/
  upperH : ∀ x ∈ sh.recs.drop r.hwSlot, r.hwSeen < x.offset
  nextH : r.hwSeen < sh.nextOffset
  /-- delivered = everything before the position that is at or above the effective start -/
  deliv : r.delivered = (before l.segs i r.slot).filter (fun x => decide (r.eff ≤ x.offset))
  rest : ∀ x ∈ sg.recs.drop r.slot, r.eff ≤ x.offset
  nextG : r.eff ≤ sg.nextOffset

structure RInv (l : CLog) (r : Reader) : Prop where
  start_nonneg : 0 ≤ r.start
  hw_ge : -1 ≤ r.hwSeen
  /-- the reader never believes in a HW the log does not have -/
  hw_le : r.hwSeen ≤ l.hw
  resync_hw : ∀ h, r.phase = .resync h → r.hwSeen < h ∧ h ≤ l.hw
  /-- no lost wake-up: a parked reader has seen the current HW -/
  waiting_hw : r.phase = .waiting → r.hwSeen = l.hw
  unpos : r.seg = none → r.delivered = [] ∧ r.phase ≠ .reading ∧
    (atLim r.phase = true → r.eff = r.hwSeen + 1)
  pos : ∀ i, r.seg = some i → r.phase ≠ .creating ∧
    ∃ h sg sh, Pos l r i h sg sh ∧ (atLim r.phase = true → i = h ∧ r.slot = r.hwSlot)

theorem Pos.sg_eq {l : CLog} {r : Reader} {i : Nat} {sg sh : Seg} (p : Pos l r i i sg sh) : sg = sh :=
  Option.some.inj (p.sgAt.symm.trans p.shAt)

theorem Pos.ext {l l' : CLog} {r : Reader} {i h : Nat} {sg sh : Seg} (p : Pos l r i h sg sh)
    (inv' : Inv l') (e : Ext l l') :
    ∃ sg' sh', Pos l' r i h sg' sh' := by
  obtain ⟨sg', hsg', hbg, tg, htg, _⟩ := e.seg i sg p.sgAt
  obtain ⟨sh', hsh', hbh, th, hth, _⟩ := e.seg h sh p.shAt
  obtain ⟨hg1, hg2⟩ := segext_ge (inv'.wfc.segOK (List.mem_of_getElem? hsg')) hbg htg
  obtain ⟨hh1, hh2⟩ := segext_ge (inv'.wfc.segOK (List.mem_of_getElem? hsh')) hbh hth
  have hlen := (List.getElem?_eq_some_iff.mp p.shAt).1
  have hnG := p.nextG
  have hnH := p.nextH
  refine ⟨sg', sh', { p with
    sgAt := hsg', shAt := hsh', snap_le := Nat.le_trans p.snap_le e.len,
    slot_le := by rw [htg, List.length_append]; have := p.slot_le; omega
    hwSlot_le := by rw [hth, List.length_append]; have := p.hwSlot_le; omega
    lower := fun j s' hj hs' => p.lower j s' hj (e.sealed (j := j) (by omega) ▸ hs')
    lowerH := by rw [hth, List.take_append_of_le_length p.hwSlot_le]; exact p.lowerH
    upperH := ?_, nextH := by omega
    deliv := by rw [e.before_eq p.sgAt p.slot_le]; exact p.deliv
    rest := ?_, nextG := by omega }⟩
  · rw [hth, List.drop_append_of_le_length p.hwSlot_le]
    intro x hx
    rcases List.mem_append.mp hx with hx | hx
    · exact p.upperH x hx
    · have := hh1 x hx; omega
  · rw [htg, List.drop_append_of_le_length p.slot_le]
    intro x hx
    rcases List.mem_append.mp hx with hx | hx
    · exact p.rest x hx
    · have := hg1 x hx; omega

theorem RInv.mono {l l' : CLog} {r : Reader} (ri : RInv l r) (inv' : Inv l') (e : Ext l l')
    (hhw : l.hw ≤ l'.hw) (hnw : r.phase = .waiting → l'.hw = l.hw) : RInv l' r := by
  refine ⟨ri.start_nonneg, ri.hw_ge, Int.le_trans ri.hw_le hhw, fun h hh => ?_,
    fun hw => hnw hw ▸ ri.waiting_hw hw, ri.unpos, fun i hi => ?_⟩
  · have := ri.resync_hw h hh; omega
  · obtain ⟨hc, h, sg, sh, p, hl⟩ := ri.pos i hi
    obtain ⟨sg', sh', p'⟩ := p.ext inv' e
    exact ⟨hc, h, sg', sh', p', hl⟩

theorem RInv.phase {l : CLog} {r : Reader} (ri : RInv l r) {ph : Phase}
    (hc : ph ≠ .creating) (hrd : ph ≠ .reading) (hlim : atLim ph = true → atLim r.phase = true)
    (h1 : ∀ h, ph = .resync h → r.hwSeen < h ∧ h ≤ l.hw) (h2 : ph = .waiting → r.hwSeen = l.hw) :
    RInv l { r with phase := ph } := by
  refine ⟨ri.start_nonneg, ri.hw_ge, ri.hw_le, h1, h2, fun hn => ?_, fun i hi => ?_⟩
  · exact ⟨(ri.unpos hn).1, hrd, fun ha => (ri.unpos hn).2.2 (hlim ha)⟩
  · obtain ⟨_, h, sg, sh, p, hl⟩ := ri.pos i hi
    exact ⟨hc, h, sg, sh, { p with }, fun ha => hl (hlim ha)⟩

theorem rinv_fail {l : CLog} {r : Reader} (ri : RInv l r) (e : String)
    (hlim : atLim (.failed e) = true → atLim r.phase = true) : RInv l (fail r e) :=
  ri.phase nofun nofun hlim nofun nofun

theorem eff_of {l : CLog} {r : Reader} (ri : RInv l r) (hs : r.seg = none) (ha : atLim r.phase = true) :
    r.eff = r.hwSeen + 1 := (ri.unpos hs).2.2 ha

theorem rinv_positioned {l : CLog} {r' : Reader} {j hi : Nat} {x sh : Seg} (p : Pos l r' j hi x sh)
    (hseg : r'.seg = some j) (hs : 0 ≤ r'.start) (hge : -1 ≤ r'.hwSeen) (hle : r'.hwSeen ≤ l.hw)
    (hph : r'.phase = .idle ∨ r'.phase = .reading ∨ r'.phase = .atLimit)
    (hl : atLim r'.phase = true → j = hi ∧ r'.slot = r'.hwSlot) : RInv l r' := by
  refine ⟨hs, hge, hle, fun h hh => ?_, fun hh => ?_, fun hn => (by cases hseg.symm.trans hn), fun i hi' => ?_⟩
  · rcases hph with hp | hp | hp <;> cases hp.symm.trans hh
  · rcases hph with hp | hp | hp <;> cases hp.symm.trans hh
  · cases hseg.symm.trans hi'
    exact ⟨fun hh => (by rcases hph with hp | hp | hp <;> cases hp.symm.trans hh), hi, x, sh, p, hl⟩

theorem slot_le_of {recs : List Rec} {k hk : Nat} {hw : Int} (hk1 : k ≤ recs.length)
    (htake : ∀ a ∈ recs.take k, a.offset ≤ hw) (hup : ∀ a ∈ recs.drop hk, hw < a.offset) :
    k ≤ hk := by
  apply Nat.le_of_not_lt
  intro hlt
  have hl : hk < recs.length := by omega
  have h1 := htake recs[hk] (List.mem_take_iff_getElem.mpr ⟨hk, by omega, rfl⟩)
  have h2 := hup recs[hk] (List.drop_eq_getElem_cons hl ▸ List.mem_cons_self)
  omega

theorem position_pos {l : CLog} (inv : Inv l) {r' : Reader} {hi j : Nat} {x sh : Seg}
    (m : Lim l.segs r'.hwSeen hi r'.hwSlot sh) (ho : r'.eff ≤ r'.hwSeen)
    (hx : l.segs[j]? = some x) (hon : r'.eff < x.nextOffset)
    (hpre : ∀ j' s, j' < j → l.segs[j']? = some s → s.nextOffset ≤ r'.eff)
    (hk1 : r'.slot ≤ x.recs.length) (htake : ∀ a ∈ x.recs.take r'.slot, a.offset < r'.eff)
    (hdrop : ∀ a ∈ x.recs.drop r'.slot, r'.eff ≤ a.offset)
    (e1 : r'.hwSeg = some hi) (e2 : r'.snap = l.segs.length) (e3 : r'.delivered = []) :
    Pos l r' j hi x sh := by
  have hjle : j ≤ hi := by
    apply Nat.le_of_not_lt
    intro hlt
    have := hpre hi sh hlt m.shAt
    have := m.nextH
    omega
  refine { m with
    hwSeg := e1, sgAt := hx, i_le := hjle, h_lt := e2 ▸ (List.getElem?_eq_some_iff.mp m.shAt).1
    snap_le := e2 ▸ Nat.le_refl _, slot_le := hk1, same := ?_, deliv := ?_, rest := hdrop
    nextG := by omega }
  · rintro rfl
    cases hx.symm.trans m.shAt
    exact slot_le_of hk1 (fun a ha => by have := htake a ha; omega) m.upperH
  · rw [e3]
    symm
    apply List.filter_eq_nil_iff.mpr
    intro a ha
    rcases mem_before ha with ⟨j', s, hj', hs, has⟩ | ⟨s, hs, has⟩
    · have := hpre j' s hj' hs
      have := (inv.wfc.segOK (List.mem_of_getElem? hs)).lt_next a has
      simp; omega
    · cases hx.symm.trans hs
      have := htake a has
      simp; omega

theorem rinv_new {l : CLog} (hhw : -1 ≤ l.hw) {start : Int} (hs : 0 ≤ start) :
    RInv l { phase := .creating, start := start, eff := start, seg := none, slot := 0,
             hwSeg := none, hwSlot := 0, hwSeen := l.hw, snap := 0, delivered := [] } :=
  ⟨hs, hhw, Int.le_refl _, nofun, nofun, fun _ => ⟨rfl, nofun, nofun⟩, nofun⟩

/-- The HW value `h` names nothing, or a message the log has (or one below a retained message). -/
def Covered (l : CLog) (h : Int) : Prop := h ≤ -1 ∨ ∃ x ∈ l.abs, h ≤ x.offset

theorem Covered.mono {l l' : CLog} {h h' : Int} (c : Covered l h) (hs : ∀ x ∈ l.abs, x ∈ l'.abs)
    (hle : h' ≤ h) : Covered l' h' := by
  rcases c with c | ⟨x, hx, hh⟩
  · exact .inl (by omega)
  · exact .inr ⟨x, hs x hx, by omega⟩

/-- What each step of a reader's own code guarantees, `r'` being its record afterwards: the
invariant again; under a covered HW the reader did not die; it is not parked (only `waitForHW`
parks); and the step was not a stutter. -/
structure Ok (l : CLog) (r r' : Reader) : Prop where
  rinv : RInv l r'
  alive : Covered l l.hw → ∀ e, r'.phase ≠ .failed e
  awake : r'.phase ≠ .waiting
  moved : r' ≠ r

theorem ne_of_phase {r r' : Reader} (h : r'.phase ≠ r.phase) : r' ≠ r := fun he => h (he ▸ rfl)

/-- `newReaderCommitted` goes on to position the reader only if `offset ≤ hw`. -/
theorem start_le_of_positioned {l : CLog} {r : Reader}
    (h : ¬(Gen.Log.readerBeyondHWCmp.evalInt r.start r.hwSeen || decide (l.oldest = -1)) = true) :
    r.start ≤ r.hwSeen := by
  simp only [Gen.Log.readerBeyondHWCmp, Cmp.evalInt, Bool.or_eq_true, decide_eq_true_eq, not_or] at h
  omega

/-- `newReaderCommitted`; it fails only if the sampled HW lies above every retained record. -/
theorem init_ok {l : CLog} {r : Reader} (inv : Inv l) (ri : RInv l r) (hc : r.phase = .creating) :
    Ok l r (initReader l r) := by
  have hseg : r.seg = none := by
    cases hs : r.seg with
    | none => rfl
    | some i => exact absurd hc (ri.pos i hs).1
  have hdel := (ri.unpos hseg).1
  have hpark : ∀ (hs : Option Nat) (hk : Nat),
      RInv l { r with phase := .idle, seg := none, eff := r.hwSeen + 1, hwSeg := hs, hwSlot := hk, snap := l.segs.length } :=
    fun _ _ => ⟨ri.start_nonneg, ri.hw_ge, ri.hw_le, nofun, nofun, fun _ => ⟨hdel, nofun, nofun⟩, nofun⟩
  have idle : ∀ {r' : Reader}, RInv l r' → r'.phase = .idle → Ok l r r' := fun h hi =>
    ⟨h, fun _ e he => (by cases hi.symm.trans he), fun he => (by cases hi.symm.trans he),
      ne_of_phase (by rw [hi, hc]; nofun)⟩
  unfold initReader
  simp only
  split
  · exact idle (hpark r.hwSeg r.hwSlot) rfl
  · rename_i hcond
    have hle := start_le_of_positioned hcond
    have hne : r.hwSeen ≠ -1 := by have := ri.start_nonneg; omega
    simp only [hne, ne_eq, not_false_eq_true, if_true]
    have hh := hwPos_cases inv r.hwSeen
    cases hp : hwPos l.segs r.hwSeen <;> rw [hp] at hh
    case panic => exact hh.elim
    case err e =>
      refine ⟨rinv_fail ri e (by rcases hh.2 with rfl | rfl <;> simp [atLim]), fun hcov => ?_, nofun,
        ne_of_phase (by rw [hc]; nofun)⟩
      obtain ⟨x, hx, hxo⟩ := (hcov.mono (fun _ h => h) ri.hw_le).resolve_left (by have := ri.hw_ge; omega)
      have := hh.1 x hx
      omega
    case ok ik =>
      obtain ⟨hi, hk⟩ := ik
      obtain ⟨sh, m⟩ := hh
      simp only
      have h := locate inv r.start
      cases hf : findSegmentIdx l.segs r.start <;> rw [hf] at h
      case none => exact idle (hpark (some hi) hk) rfl
      case some j =>
        obtain ⟨x, hx, hon, hpre, -⟩ := h
        -- positioned in segment `j`, at the slot that separates the records below `start` from the others
        obtain ⟨k, htake, hdrop, hk1, hsl⟩ := start_slot (inv.wfc.segOK (List.mem_of_getElem? hx)) hon
        have p := position_pos inv
          (r' := { r with phase := .idle, seg := some j, slot := k, eff := r.start, hwSeg := some hi,
                          hwSlot := hk, snap := l.segs.length })
          m hle hx hon hpre hk1 htake hdrop rfl rfl hdel
        have := idle (rinv_positioned p rfl ri.start_nonneg ri.hw_ge ri.hw_le (.inl rfl) nofun) rfl
        rcases hsl with ⟨hb, he⟩ | ⟨hb, rfl⟩
        · simpa only [hx, Gen.Log.containsCmp, Cmp.evalInt, hb, decide_true, if_true, he] using this
        · simpa only [hx, Gen.Log.containsCmp, Cmp.evalInt, hb, decide_false, Bool.false_eq_true, if_false] using this

theorem initReader_cases (l : CLog) (r : Reader) :
    (∃ e, initReader l r = fail r e) ∨
    (∃ hs hk, initReader l r = { r with phase := .idle, seg := none, eff := r.hwSeen + 1, hwSeg := hs,
                                        hwSlot := hk, snap := l.segs.length }) ∨
    (∃ i k hs hk, initReader l r = { r with phase := .idle, seg := some i, slot := k, eff := r.start,
                                            hwSeg := hs, hwSlot := hk, snap := l.segs.length }) := by
  unfold initReader
  dsimp only
  repeat' split
  all_goals first | exact .inl ⟨_, rfl⟩ | exact .inr (.inl ⟨_, _, rfl⟩) | exact .inr (.inr ⟨_, _, _, _, rfl⟩)

theorem begin_ok {l : CLog} {r : Reader} (ri : RInv l r) (hp : r.phase = .idle) :
    Ok l r (beginRead l r) := by
  have moved : ∀ {r' : Reader}, r'.phase ≠ .idle → r' ≠ r := fun hne => ne_of_phase (hp ▸ hne)
  unfold beginRead
  split <;> rename_i hs
  · exact ⟨⟨ri.start_nonneg, ri.hw_ge, ri.hw_le, nofun, nofun, fun _ => ⟨(ri.unpos hs).1, nofun, fun _ => rfl⟩,
      fun i hi => by cases hs.symm.trans hi⟩, fun _ _ => nofun, nofun, moved nofun⟩
  · obtain ⟨_, h, sg, sh, p, _⟩ := ri.pos _ hs
    exact ⟨rinv_positioned (hi := h) (x := sg) (sh := sh)
      { p with h_lt := (List.getElem?_eq_some_iff.mp p.shAt).1, snap_le := Nat.le_refl _ }
      hs ri.start_nonneg ri.hw_ge ri.hw_le (.inr (.inl rfl)) nofun, fun _ _ => nofun, nofun, moved nofun⟩

/-- One `readLoop` iteration of a reader satisfying the invariant never fails (whatever the HW). -/
theorem readStep_ok {l : CLog} {r : Reader} (inv : Inv l) (ri : RInv l r) (hp : r.phase = .reading) :
    Ok l r (readStep l r) := by
  unfold readStep
  split <;> rename_i hs
  · exact absurd hp (ri.unpos hs).2.1
  · rename_i i
    obtain ⟨_, h, sg, sh, p, _⟩ := ri.pos i hs
    have hsame := p.same
    have hphase : ∀ {r' : Reader}, r'.phase ≠ .reading → r' ≠ r := fun hne he => hne (he ▸ hp)
    simp only [p.sgAt, p.hwSeg, Gen.HWReader.hwSegLimit, Bool.true_and, Option.some.injEq]
    split
    · -- a reader on the HW segment is never beyond its limit
      rename_i hc
      simp only [Bool.and_eq_true, decide_eq_true_eq] at hc
      have := hsame hc.1
      omega
    · split
      · -- at the limit
        rename_i _ hc
        simp only [Bool.and_eq_true, decide_eq_true_eq] at hc
        exact ⟨rinv_positioned (hi := h) (x := sg) (sh := sh) { p with hwSeg := rfl } hs ri.start_nonneg ri.hw_ge ri.hw_le
          (.inr (.inr rfl)) fun _ => ⟨hc.1, by show r.slot = r.hwSlot; omega⟩, fun _ => nofun, nofun, hphase nofun⟩
      · rename_i hc1 hc2
        simp only [Bool.and_eq_true, decide_eq_true_eq, not_and] at hc1 hc2
        cases hx : sg.recs[r.slot]? with
        | some x =>
          -- a record below the limit: delivered
          simp only
          obtain ⟨hlen, rfl⟩ := List.getElem?_eq_some_iff.mp hx
          have hd := List.drop_eq_getElem_cons hlen
          refine ⟨rinv_positioned (hi := h) (x := sg) (sh := sh) { p with
              hwSeg := rfl, slot_le := hlen
              same := fun hih => by have := hsame hih; have := hc1 hih; have := hc2 hih; show r.slot + 1 ≤ r.hwSlot; omega
              deliv := ?_
              rest := fun y hy => p.rest y (hd ▸ List.mem_cons_of_mem _ hy) }
            hs ri.start_nonneg ri.hw_ge ri.hw_le (.inl rfl) nofun, fun _ => nofun, nofun, hphase nofun⟩
          show r.delivered ++ [sg.recs[r.slot]] = _
          rw [before_succ p.sgAt hx, List.filter_append, ← p.deliv]
          simp [p.rest _ (hd ▸ List.mem_cons_self)]
        | none =>
          -- end of a segment below the HW segment: hop to the next one of the snapshot
          simp only
          have hlen : sg.recs.length ≤ r.slot := List.getElem?_eq_none_iff.mp hx
          have hne : i ≠ h := by
            rintro rfl
            cases p.sg_eq
            have := hsame rfl
            have := hc1 rfl
            have := hc2 rfl
            have := p.hwSlot_le
            omega
          have hilt : i < h := by have := p.i_le; omega
          have hhlt := p.h_lt
          simp only [hop_next inv.wfc p.sgAt (by omega) p.snap_le]
          have hlh := (List.getElem?_eq_some_iff.mp p.shAt).1
          obtain ⟨sg2, hsg2⟩ : ∃ sg2, l.segs[i + 1]? = some sg2 := ⟨_, List.getElem?_eq_getElem (by omega)⟩
          have ok2 := inv.wfc.segOK (List.mem_of_getElem? hsg2)
          have hch := inv.link i sg sg2 p.sgAt hsg2
          have hnG := p.nextG
          refine ⟨rinv_positioned (hi := h) (x := sg2) (sh := sh) { p with
              hwSeg := rfl, sgAt := hsg2, i_le := by omega, slot_le := Nat.zero_le _, same := fun _ => Nat.zero_le _
              deliv := by rw [before_hop p.sgAt hlen]; exact p.deliv
              rest := fun y hy => by have := ok2.base_le y (by simpa using hy); show r.eff ≤ _; omega
              nextG := by have := ok2.base_le_next; show r.eff ≤ _; omega }
            rfl ri.start_nonneg ri.hw_ge ri.hw_le (.inr (.inl hp)) (by simp [hp, atLim]),
            fun _ e he => (by cases hp.symm.trans he), fun he => (by cases hp.symm.trans he), fun he => ?_⟩
          have := Option.some.inj ((congrArg Reader.seg he).trans hs)
          omega

theorem checkHW_ok {l : CLog} {r : Reader} (ri : RInv l r) (hp : r.phase = .atLimit) :
    Ok l r (checkHW l r) := by
  have hlim : atLim r.phase = true := by rw [hp]; rfl
  have moved : ∀ {r' : Reader}, r'.phase ≠ .atLimit → r' ≠ r := fun hne => ne_of_phase (hp ▸ hne)
  unfold checkHW
  split
  · exact ⟨ri.phase nofun nofun (fun _ => hlim) nofun nofun, fun _ _ => nofun, nofun, moved nofun⟩
  · rename_i hc
    simp only [Gen.HWReader.readerHWSameCmp, Cmp.evalInt, decide_eq_true_eq] at hc
    refine ⟨ri.phase nofun nofun (fun _ => hlim) (fun h hh => ?_) nofun, fun _ _ => nofun, nofun, moved nofun⟩
    cases hh
    have := ri.hw_le
    exact ⟨by omega, Int.le_refl _⟩

/-- The re-sync; it fails only if the new HW lies above every retained record. -/
theorem resync_ok {l : CLog} {r : Reader} {hw : Int} (inv : Inv l) (ri : RInv l r)
    (hp : r.phase = .resync hw) : Ok l r (resync l r hw) := by
  obtain ⟨hlt, hle⟩ := ri.resync_hw hw hp
  have hlim : atLim r.phase = true := by rw [hp]; rfl
  have hge := ri.hw_ge
  have moved : ∀ {r' : Reader}, r'.phase ≠ .resync hw → r' ≠ r := fun hne => ne_of_phase (hp ▸ hne)
  -- a lookup of `o ≤ hw` fails only if no record reaches `o`: not under a covered HW
  have dead : ∀ {o : Int} (e : String), o ≤ hw → (∀ y ∈ l.abs, y.offset < o) → Ok l r (fail r e) :=
    fun e ho hno => ⟨rinv_fail ri e fun _ => hlim, fun hc => by
      obtain ⟨x, hx, hxo⟩ := (hc.mono (fun _ h => h) hle).resolve_left (by omega)
      have := hno x hx
      omega, nofun, moved nofun⟩
  have live : ∀ {r' : Reader}, RInv l r' → r'.phase = .reading → Ok l r r' := fun h hr =>
    ⟨h, fun _ e he => (by cases hr.symm.trans he), fun he => (by cases hr.symm.trans he), moved (by rw [hr]; nofun)⟩
  have hh := hwPos_cases inv hw
  unfold resync
  simp only
  cases hpos : hwPos l.segs hw <;> rw [hpos] at hh <;> simp only
  case panic => exact hh.elim
  case err e => split <;> exact dead _ (Int.le_refl _) hh.1
  case ok ik =>
    obtain ⟨hi, hk⟩ := ik
    obtain ⟨sh', m⟩ := hh
    -- `split`, not `cases`: the equation for `r.seg` must not be rewritten inside the records
    split <;> rename_i hs
    · -- the position stays, the limit moves
      rename_i i
      obtain ⟨_, h, sg, sh, p, hl⟩ := ri.pos i hs
      obtain ⟨rfl, hsl⟩ := hl hlim
      cases p.sg_eq
      have hile : i ≤ hi := by
        apply Nat.le_of_not_lt
        intro hlt'
        have := p.lower hi sh' hlt' m.shAt
        have := m.nextH
        omega
      refine live (rinv_positioned (hi := hi) (x := sg) (sh := sh') { m, p with
          hwSeg := rfl, i_le := hile, h_lt := (List.getElem?_eq_some_iff.mp m.shAt).1
          snap_le := Nat.le_refl _, same := ?_ }
        hs ri.start_nonneg (by show -1 ≤ hw; omega) hle (.inr (.inl rfl)) nofun) rfl
      rintro rfl
      cases p.sgAt.symm.trans m.shAt
      refine slot_le_of p.slot_le (fun a ha => ?_) m.upperH
      have := p.lowerH a (hsl ▸ ha)
      omega
    · -- a reader that was never positioned is positioned now, at `eff = hwSeen + 1 ≤ hw`
      have heff := eff_of ri hs hlim
      have h := locate inv r.eff
      cases hf : findSegmentIdx l.segs r.eff <;> rw [hf] at h
      case none => exact dead _ (by omega) h
      case some j =>
        obtain ⟨x, hx, hon, hpre, h⟩ := h
        simp only [hx]
        cases he : x.findEntryIdx r.eff <;> rw [he] at h
        case none => exact dead _ (by omega) h
        case some k =>
          obtain ⟨hk1, htake, hdrop⟩ := h
          have p := position_pos inv
            (r' := { r with hwSeen := hw, hwSeg := some hi, hwSlot := hk, snap := l.segs.length,
                            phase := .reading, seg := some j, slot := k })
            m (by show r.eff ≤ hw; omega) hx hon hpre (Nat.le_of_lt hk1) htake hdrop rfl rfl (ri.unpos hs).1
          exact live (rinv_positioned p rfl ri.start_nonneg (by show -1 ≤ hw; omega) hle (.inr (.inl rfl)) nofun) rfl

/-- The record of a reader after the step of its own code that its phase enables (`nextOp`);
`waitForHW` apart, which also touches `hwWaiters`. -/
def own (l : CLog) (r : Reader) : Reader :=
  match r.phase with
  | .creating => initReader l r
  | .idle => beginRead l r
  | .reading => readStep l r
  | .atLimit => checkHW l r
  | .resync hw => resync l r hw
  | _ => r

theorem own_ok {l : CLog} {r : Reader} (inv : Inv l) (ri : RInv l r) {id : Nat} {op : Op}
    (hn : nextOp id r.phase = some op) (hm : r.phase ≠ .mustWait) : Ok l r (own l r) := by
  unfold own
  split <;> rename_i hp
  · exact init_ok inv ri hp
  · exact begin_ok ri hp
  · exact readStep_ok inv ri hp
  · exact checkHW_ok ri hp
  · exact resync_ok inv ri hp
  · cases h : r.phase <;> simp_all [nextOp]

/-! ### What the operations do

The theorems about all operations go through `step_cases`: an operation either leaves the state as
it is (it is not enabled, or it is a `SetHighWatermark` that does not raise the HW), or it is one
of the transitions listed here, with its guard as hypotheses. -/

inductive Env (s : State) : Op → State → Prop
  | append {rs l' offs} (hadm : admissible s.log rs = true) (ha : s.log.appendSet rs = .ok (l', offs)) :
      Env s (.append rs) { s with log := l' }
  | roll (hne : s.log.active.recs ≠ []) : Env s .roll { s with log := s.log.roll }
  | setHW {h} (hlt : s.log.hw < h) :
      Env s (.setHW h) (wakeAll { s with log := { s.log with hw := h } } false)
  | followerHW {x} (hlt : s.log.hw < followerArg s.log x) :
      Env s (.followerHW x) (wakeAll { s with log := { s.log with hw := followerArg s.log x } } false)
  | setReadonly {b} (hno : ¬(b = true ∧ s.log.newest ≤ s.log.hw)) :
      Env s (.setReadonly b) { s with log := { s.log with readonly := b } }
  | notifyReadonly (hend : s.log.newest ≤ s.log.hw) :
      Env s (.setReadonly true) (wakeAll { s with log := { s.log with readonly := true } } true)

/-- `b`: `waitForHW` re-checks the HW. -/
inductive Fires (b : Bool) (s : State) (id : Nat) : Op → State → Prop
  | newReader {start} (hr : s.readers id = none) (hs : 0 ≤ start) :
      Fires b s id (.newReader id start) (setReader s id
        { phase := .creating, start := start, eff := start, seg := none, slot := 0,
          hwSeg := none, hwSlot := 0, hwSeen := s.log.hw, snap := 0, delivered := [] })
  /-- `initReader`, `beginRead`, `readStep`, `checkHW`, `resync`: each in its phase -/
  | own {op r} (hr : s.readers id = some r) (hn : nextOp id r.phase = some op) (hm : r.phase ≠ .mustWait) :
      Fires b s id op (setReader s id (own s.log r))
  /-- `waitForHW` finds the HW moved: `wait <- false` -/
  | recheck {r} (hr : s.readers id = some r) (hp : r.phase = .mustWait) (hb : b = true)
      (hne : s.log.hw ≠ r.hwSeen) :
      Fires b s id (.registerWait id) (setReader s id { r with phase := .atLimit })
  /-- `waitForHW` at the end of a read-only log: `wait <- true` -/
  | readonly {r} (hr : s.readers id = some r) (hp : r.phase = .mustWait) (hb : b = true → s.log.hw = r.hwSeen)
      (hend : s.log.hw = s.log.newest) (hro : s.log.readonly = true) :
      Fires b s id (.registerWait id) (setReader s id (fail r "readonly"))
  | park {r} (hr : s.readers id = some r) (hp : r.phase = .mustWait) (hb : b = true → s.log.hw = r.hwSeen) :
      Fires b s id (.registerWait id)
        { setReader s id { r with phase := .waiting } with waiters := id :: s.waiters }
  | cancel {r} (hr : s.readers id = some r) (hp : r.phase = .waiting) :
      Fires b s id (.cancel id) { setReader s id (fail r "eof") with waiters := s.waiters.filter (· ≠ id) }

theorem setHW_eq (s : State) (h : Int) :
    HWReader.setHW s h = if s.log.hw < h then wakeAll { s with log := { s.log with hw := h } } false else s := by
  simp only [HWReader.setHW, Gen.Log.setHWCmp, Cmp.evalInt, Gen.HWReader.setHWNotifies, if_true,
    decide_eq_true_eq, gt_iff_lt]

theorem registerWait_eq (b : Bool) (s : State) (id : Nat) (r : Reader) :
    registerWait b s id r =
      if b = true ∧ s.log.hw ≠ r.hwSeen then setReader s id { r with phase := .atLimit }
      else if s.log.hw = s.log.newest ∧ s.log.readonly = true then setReader s id (fail r "readonly")
      else { setReader s id { r with phase := .waiting } with waiters := id :: s.waiters } := by
  simp only [registerWait, Gen.HWReader.waitRecheckCmp, Gen.HWReader.waitReadonlyCmp, Cmp.evalInt,
    Bool.and_eq_true, decide_eq_true_eq]

theorem stepWith_cases (b : Bool) (s : State) (op : Op) :
    stepWith b s op = s ∨ Env s op (stepWith b s op) ∨ ∃ id, Fires b s id op (stepWith b s op) := by
  cases op with
  | append rs =>
    simp only [stepWith, step]
    split
    · split
      · exact .inr (.inl (.append ‹_› ‹_›))
      · exact .inl rfl
    · exact .inl rfl
  | roll =>
    simp only [stepWith, step]
    split
    · exact .inl rfl
    · rename_i h
      exact .inr (.inl (.roll (by simpa using h)))
  | setHW h | followerHW h =>
    -- both are `SetHighWatermark`: effective iff the value is above the HW
    simp only [stepWith, step, setHW_eq]
    split
    · exact .inr (.inl (by constructor; assumption))
    · exact .inl rfl
  | setReadonly b' =>
    simp only [stepWith, step, setReadonly, Gen.HWReader.notifyReadonlyCmp, Cmp.evalInt, Bool.and_eq_true,
      Bool.not_eq_true', decide_eq_false_iff_not, Int.not_lt]
    split
    · rename_i h
      obtain ⟨rfl, h⟩ := h
      exact .inr (.inl (.notifyReadonly h))
    · exact .inr (.inl (.setReadonly ‹_›))
  | newReader id start =>
    simp only [stepWith, step]
    cases hr : s.readers id with
    | some _ => exact .inl rfl
    | none =>
      simp only
      split
      · exact .inr (.inr ⟨id, .newReader hr ‹_›⟩)
      · exact .inl rfl
  | initReader id | beginRead id | readStep id | checkHW id | resync id =>
    -- enabled in one phase of the reader, and then `own`
    simp only [stepWith, step]
    cases hr : s.readers id with
    | none => exact .inl rfl
    | some r =>
      simp only
      split
      · rename_i hp
        refine .inr (.inr ⟨id, ?_⟩)
        simpa only [own, hp] using Fires.own (b := b) hr (by rw [hp]; rfl) (by rw [hp]; nofun)
      · exact .inl rfl
  | cancel id =>
    simp only [stepWith, step]
    cases hr : s.readers id with
    | none => exact .inl rfl
    | some r =>
      simp only
      split
      · exact .inr (.inr ⟨id, .cancel hr ‹_›⟩)
      · exact .inl rfl
  | registerWait id =>
    simp only [stepWith]
    cases hr : s.readers id with
    | none => exact .inl rfl
    | some r =>
      simp only
      split
      · rename_i hp
        refine .inr (.inr ⟨id, ?_⟩)
        rw [registerWait_eq]
        split
        · rename_i h
          exact .recheck hr hp h.1 h.2
        · rename_i h
          have hb : b = true → s.log.hw = r.hwSeen := fun hb => Decidable.not_not.mp fun hne => h ⟨hb, hne⟩
          split
          · rename_i h'
            exact .readonly hr hp hb h'.1 h'.2
          · exact .park hr hp hb
      · exact .inl rfl

theorem stepWith_gen (s : State) (op : Op) : stepWith Gen.HWReader.waitRechecks s op = step s op := by
  cases op <;> rfl

theorem runWith_gen (s : State) (ops : List Op) : runWith Gen.HWReader.waitRechecks s ops = run s ops := by
  induction ops generalizing s with
  | nil => rfl
  | cons op ops ih => simp only [runWith, run, List.foldl_cons, stepWith_gen] at *; exact ih _

theorem step_cases (s : State) (op : Op) :
    step s op = s ∨ Env s op (step s op) ∨ ∃ id, Fires Gen.HWReader.waitRechecks s id op (step s op) :=
  stepWith_gen s op ▸ stepWith_cases _ s op

theorem Env.reader {s s' : State} {op : Op} (h : Env s op s') : op.reader = none := by
  cases h <;> rfl

theorem nextOp_reader {id : Nat} {p : Phase} {op : Op} (h : nextOp id p = some op) : op.reader = some id := by
  cases p <;> cases h <;> rfl

theorem Fires.reader {b : Bool} {s s' : State} {id : Nat} {op : Op} (f : Fires b s id op s') :
    op.reader = some id := by
  cases f with
  | own _ hn => exact nextOp_reader hn
  | _ => rfl

theorem Fires.frame {b : Bool} {s s' : State} {id : Nat} {op : Op} (f : Fires b s id op s') :
    s'.log = s.log ∧ ∀ j, j ≠ id → s'.readers j = s.readers j := by
  cases f <;> exact ⟨rfl, fun j hj => if_neg hj⟩

theorem Fires.enabled {b : Bool} {s s' : State} {id : Nat} {op : Op} (f : Fires b s id op s') :
    s.readers id = none ∨
    ∃ r, s.readers id = some r ∧ (nextOp id r.phase = some op ∨ r.phase = .waiting ∧ op = .cancel id) := by
  cases f with
  | newReader hr => exact .inl hr
  | cancel hr hp => exact .inr ⟨_, hr, .inr ⟨hp, rfl⟩⟩
  | own hr hn => exact .inr ⟨_, hr, .inl hn⟩
  | _ hr hp => exact .inr ⟨_, hr, .inl (by rw [hp]; rfl)⟩

theorem setReader_self (s : State) (id : Nat) (x : Reader) : (setReader s id x).readers id = some x :=
  if_pos rfl

theorem wakeAll_reader {s : State} {ro : Bool} {j : Nat} {r' : Reader} (h : (wakeAll s ro).readers j = some r') :
    ∃ r, s.readers j = some r ∧
      (j ∈ s.waiters ∧ r' = { r with phase := if ro then .failed "readonly" else .atLimit } ∨
       j ∉ s.waiters ∧ r' = r) := by
  simp only [wakeAll] at h
  cases hr : s.readers j with
  | none => simp [hr] at h
  | some r =>
    simp only [hr] at h
    split at h <;> rename_i hm
    · exact ⟨r, rfl, .inl ⟨hm, (Option.some.inj h).symm⟩⟩
    · exact ⟨r, rfl, .inr ⟨hm, (Option.some.inj h).symm⟩⟩

theorem wakeAll_log (s : State) (ro : Bool) : (wakeAll s ro).log = s.log := rfl

theorem wakeAll_waiters (s : State) (ro : Bool) : (wakeAll s ro).waiters = [] := rfl

theorem appendSet_hw {l l' : CLog} {rs : List Rec} {offs : List Int}
    (ha : l.appendSet rs = .ok (l', offs)) : l'.hw = l.hw := by
  unfold appendSet at ha
  rw [write_eq _ (write_ok_ne ha)] at ha
  obtain ⟨rfl, -⟩ := Prod.mk.inj (Res.ok.inj ha)
  show l.checkSplit.hw = l.hw
  unfold checkSplit; split <;> rfl

/-- The invariant of every reachable state (`ginv_step`, `reach_ginv`): every theorem of Props/C03 about
reachable states reads its claim off these fields. -/
structure GInv (s : State) : Prop where
  inv : Inv s.log
  hw_ge : -1 ≤ s.log.hw
  rinv : ∀ id r, s.readers id = some r → RInv s.log r
  wait_mem : ∀ id r, s.readers id = some r → r.phase = .waiting → id ∈ s.waiters
  mem_wait : ∀ id, id ∈ s.waiters → ∃ r, s.readers id = some r ∧ r.phase = .waiting

theorem ginv_update {s : State} (g : GInv s) {id : Nat} {r' : Reader} {w : List Nat} (ri' : RInv s.log r')
    (hw : ∀ j, j ∈ w ↔ if j = id then r'.phase = .waiting else j ∈ s.waiters) :
    GInv { setReader s id r' with waiters := w } := by
  have hrd : ∀ j, (setReader s id r').readers j = if j = id then some r' else s.readers j := fun _ => rfl
  refine ⟨g.inv, g.hw_ge, fun j rj hj => ?_, fun j rj hj hp => (hw j).mpr ?_, fun j hj => ?_⟩
  · rw [hrd] at hj
    split at hj
    · cases hj; exact ri'
    · exact g.rinv j rj hj
  · rw [hrd] at hj
    split at hj <;> rename_i hji
    · cases hj; rw [if_pos hji]; exact hp
    · rw [if_neg hji]; exact g.wait_mem j rj hj hp
  · have := (hw j).mp hj
    rw [hrd]
    split at this <;> rename_i hji
    · exact ⟨r', by rw [if_pos hji], this⟩
    · rw [if_neg hji]; exact g.mem_wait j this

theorem ginv_setReader {s : State} {id : Nat} {r' : Reader} (g : GInv s)
    (hnw : ∀ r, s.readers id = some r → r.phase ≠ .waiting)
    (ri' : RInv s.log r') (hnw' : r'.phase ≠ .waiting) : GInv (setReader s id r') := by
  have hnm : id ∉ s.waiters := fun hm => by
    obtain ⟨r, hr, hw⟩ := g.mem_wait id hm
    exact hnw r hr hw
  exact ginv_update g ri' fun j => by by_cases h : j = id <;> simp [h, hnm, hnw']

/-- The log grew (append / roll) or only its read-only flag changed. -/
theorem ginv_log {s : State} (g : GInv s) {l' : CLog} (inv' : Inv l') (e : Ext s.log l')
    (hhw : l'.hw = s.log.hw) : GInv { s with log := l' } :=
  ⟨inv', hhw ▸ g.hw_ge, fun id r hr => (g.rinv id r hr).mono inv' e (Int.le_of_eq hhw.symm) fun _ => hhw,
    g.wait_mem, g.mem_wait⟩

/-- HW advance / read-only notification. -/
theorem ginv_wake {s : State} (g : GInv s) {l' : CLog} (hs : l'.segs = s.log.segs)
    (hm : l'.maxSegBytes = s.log.maxSegBytes) (hhw : s.log.hw ≤ l'.hw) (ro : Bool) :
    GInv (wakeAll { s with log := l' } ro) := by
  have inv' := g.inv.congr hs hm
  have e := Ext.of_segs hs
  refine ⟨inv', Int.le_trans g.hw_ge hhw, fun j rj hj => ?_, fun j rj hj hw => ?_, fun j hj => ?_⟩
  · obtain ⟨r, hr, ⟨hm, rfl⟩ | ⟨hm, rfl⟩⟩ := wakeAll_reader hj
    · obtain ⟨r0, h0, hw0⟩ := g.mem_wait j hm
      cases (show s.readers j = some r from hr).symm.trans h0
      have hlim : atLim r.phase = true := by rw [hw0]; rfl
      have ri := g.rinv j r hr
      have : RInv s.log { r with phase := if ro then .failed "readonly" else .atLimit } := by
        cases ro
        · exact ri.phase nofun nofun (fun _ => hlim) nofun nofun
        · exact rinv_fail ri "readonly" fun _ => hlim
      exact this.mono inv' e hhw (by cases ro <;> nofun)
    · exact (g.rinv j rj hr).mono inv' e hhw fun hw => absurd (g.wait_mem j rj hr hw) hm
  · obtain ⟨r, hr, ⟨hm, rfl⟩ | ⟨hm, rfl⟩⟩ := wakeAll_reader hj
    · cases ro <;> cases hw
    · exact absurd (g.wait_mem j rj hr hw) hm
  · cases wakeAll_waiters _ ro ▸ hj

theorem ginv_env {s s' : State} {op : Op} (g : GInv s) (h : Env s op s') : GInv s' := by
  cases h with
  | append hadm ha =>
    simp only [admissible, Bool.and_eq_true, Bool.not_eq_true', decide_eq_true_eq, List.all_eq_true] at hadm
    exact ginv_log g (inv_appendSet g.inv hadm.1.2 hadm.2 ha) (ext_appendSet g.inv ha) (appendSet_hw ha)
  | roll hne => exact ginv_log g (inv_roll_of_ne g.inv hne) (ext_roll s.log) rfl
  | @setHW h hlt =>
    exact ginv_wake g (l' := { s.log with hw := h }) rfl rfl (Int.le_of_lt hlt) false
  | @followerHW x hlt =>
    exact ginv_wake g (l' := { s.log with hw := followerArg s.log x }) rfl rfl (Int.le_of_lt hlt) false
  | @setReadonly b =>
    exact ginv_log g (l' := { s.log with readonly := b }) (g.inv.congr rfl rfl) (.of_segs rfl) rfl
  | notifyReadonly =>
    exact ginv_wake g (l' := { s.log with readonly := true }) rfl rfl (Int.le_refl _) true

theorem ginv_fires {s s' : State} {id : Nat} {op : Op} (g : GInv s)
    (f : Fires Gen.HWReader.waitRechecks s id op s') : GInv s' := by
  cases f with
  | newReader hr hs =>
    exact ginv_setReader g (by simp [hr]) (rinv_new g.hw_ge hs) nofun
  | own hr hn hm =>
    have ok := own_ok g.inv (g.rinv _ _ hr) hn hm
    exact ginv_setReader g (fun r0 h0 hw => by cases hr.symm.trans h0; rw [hw] at hn; cases hn) ok.rinv ok.awake
  | recheck hr hp =>
    exact ginv_setReader g (by simp [hr, hp])
      ((g.rinv _ _ hr).phase nofun nofun (fun _ => by rw [hp]; rfl) nofun nofun) nofun
  | readonly hr hp =>
    exact ginv_setReader g (by simp [hr, hp])
      (rinv_fail (g.rinv _ _ hr) "readonly" fun _ => by rw [hp]; rfl) nofun
  | park hr hp hb =>
    -- registered under the log lock, with `hwSeen = hw`
    exact ginv_update g ((g.rinv _ _ hr).phase nofun nofun (fun _ => by rw [hp]; rfl) nofun fun _ => (hb rfl).symm)
      fun j => by by_cases h : j = id <;> simp [h]
  | cancel hr hp =>
    exact ginv_update g (rinv_fail (g.rinv _ _ hr) "eof" fun _ => by rw [hp]; rfl)
      fun j => by by_cases h : j = id <;> simp [h, fail]

theorem ginv_step {s : State} (g : GInv s) (op : Op) : GInv (step s op) := by
  rcases step_cases s op with h | h | ⟨id, f⟩
  · rw [h]; exact g
  · exact ginv_env g h
  · exact ginv_fires g f

theorem ginv_run {s : State} (g : GInv s) (ops : List Op) : GInv (run s ops) := by
  induction ops generalizing s with
  | nil => exact g
  | cons op ops ih => exact ih (ginv_step g op)

theorem ginv_init {l : CLog} (h : Inv l) (hhw : -1 ≤ l.hw) : GInv (State.init l) :=
  ⟨h, hhw, fun _ _ hr => (nomatch hr), fun _ _ hr => (nomatch hr), fun _ hm => (nomatch hm)⟩

theorem pos_before_le {l : CLog} {r : Reader} {i h : Nat} {sg sh : Seg} (inv : Inv l)
    (p : Pos l r i h sg sh) : ∀ x ∈ before l.segs i r.slot, x.offset ≤ r.hwSeen := by
  intro x hx
  have hile := p.i_le
  rcases mem_before hx with ⟨j, s, hj, hs, hxs⟩ | ⟨s, hs, hxs⟩
  · have := p.lower j s (by omega) hs
    have := (inv.wfc.segOK (List.mem_of_getElem? hs)).lt_next x hxs
    omega
  · cases p.sgAt.symm.trans hs
    rcases Nat.lt_or_ge i h with hlt | hge
    · have := p.lower i sg hlt p.sgAt
      have := (inv.wfc.segOK (List.mem_of_getElem? p.sgAt)).lt_next x (List.mem_of_mem_take hxs)
      omega
    · obtain rfl : i = h := by omega
      cases p.sg_eq
      exact p.lowerH x (List.take_subset_take_left _ (p.same rfl) hxs)

/-- Nothing delivered lies above the HW value the reader has seen. -/
theorem delivered_le {l : CLog} {r : Reader} (inv : Inv l) (ri : RInv l r) :
    ∀ x ∈ r.delivered, x.offset ≤ r.hwSeen := by
  intro x hx
  cases hs : r.seg with
  | none => rw [(ri.unpos hs).1] at hx; cases hx
  | some i =>
    obtain ⟨_, h, sg, sh, p, _⟩ := ri.pos i hs
    rw [p.deliv] at hx
    exact pos_before_le inv p x (List.mem_filter.mp hx).1

/-- The deliveries are an initial part of the retained records at or above the effective start. -/
theorem delivered_prefix {l : CLog} {r : Reader} (ri : RInv l r) :
    r.delivered <+: l.abs.filter (fun x => decide (r.eff ≤ x.offset)) := by
  cases hs : r.seg with
  | none => rw [(ri.unpos hs).1]; exact List.nil_prefix
  | some i =>
    obtain ⟨_, h, sg, sh, p, _⟩ := ri.pos i hs
    rw [abs_split p.sgAt r.slot, List.filter_append, ← p.deliv]
    exact List.prefix_append _ _

/-- A reader standing at its limit has delivered every retained record in `[eff, hwSeen]`. -/
theorem delivered_complete {l : CLog} {r : Reader} (inv : Inv l) (ri : RInv l r)
    (ha : atLim r.phase = true) :
    r.delivered = l.abs.filter (fun x => decide (r.eff ≤ x.offset ∧ x.offset ≤ r.hwSeen)) := by
  cases hs : r.seg with
  | none =>
    rw [(ri.unpos hs).1]
    symm
    apply List.filter_eq_nil_iff.mpr
    intro x _
    have := eff_of ri hs ha
    simp; omega
  | some i =>
    obtain ⟨_, h, sg, sh, p, hl⟩ := ri.pos i hs
    obtain ⟨rfl, hsl⟩ := hl ha
    cases p.sg_eq
    -- before the position: the delivered records; from it on: everything is above the limit
    rw [abs_split p.sgAt r.slot, List.filter_append]
    have h1 : ∀ x ∈ before l.segs i r.slot,
        decide (r.eff ≤ x.offset ∧ x.offset ≤ r.hwSeen) = decide (r.eff ≤ x.offset) := fun x hx => by
      have := pos_before_le inv p x hx
      simp; omega
    rw [List.filter_congr h1, ← p.deliv, List.self_eq_append_right, List.filter_eq_nil_iff]
    intro x hx
    rcases List.mem_append.mp hx with hx | hx
    · have := p.upperH x (hsl ▸ hx)
      simp; omega
    · have := inv.wfc.post_ge (seg_split p.sgAt) x hx
      have := p.nextH
      simp; omega

theorem GInv.delivered_le_hw {s : State} (g : GInv s) {id : Nat} {r : Reader} (hr : s.readers id = some r) :
    ∀ x ∈ r.delivered, x.offset ≤ s.log.hw := fun x hx =>
  Int.le_trans (delivered_le g.inv (g.rinv id r hr) x hx) (g.rinv id r hr).hw_le

/-- Deliveries are in strictly increasing offset order (hence no duplicates). -/
theorem delivered_sorted {l : CLog} {r : Reader} (inv : Inv l) (ri : RInv l r) : Sorted r.delivered :=
  List.Pairwise.sublist ((delivered_prefix ri).sublist.trans List.filter_sublist) inv.sorted

theorem step_hw_le (s : State) (op : Op) : s.log.hw ≤ (step s op).log.hw := by
  rcases step_cases s op with h | h | ⟨id, f⟩
  · rw [h]; exact Int.le_refl _
  · generalize step s op = s' at h ⊢
    cases h with
    | append _ ha => exact Int.le_of_eq (appendSet_hw ha).symm
    | setHW hlt | followerHW hlt => exact Int.le_of_lt hlt
    | roll | setReadonly | notifyReadonly => exact Int.le_refl _
  · rw [f.frame.1]; exact Int.le_refl _

theorem run_hw_le (s : State) (ops : List Op) : s.log.hw ≤ (run s ops).log.hw := by
  induction ops generalizing s with
  | nil => exact Int.le_refl _
  | cons op ops ih => exact Int.le_trans (step_hw_le s op) (ih (step s op))

theorem step_frame (s : State) (op : Op) {id : Nat} (hop : op.reader = some id) :
    (step s op).log = s.log ∧ ∀ j, j ≠ id → (step s op).readers j = s.readers j := by
  rcases step_cases s op with h | h | ⟨id', f⟩
  · rw [h]; exact ⟨rfl, fun _ _ => rfl⟩
  · cases h.reader.symm.trans hop
  · cases f.reader.symm.trans hop
    exact f.frame

theorem nextOp_some (id : Nat) {p : Phase} (hw : p ≠ .waiting) (hf : ∀ e, p ≠ .failed e) :
    ∃ op, nextOp id p = some op ∧ op.reader = some id := by
  cases p with
  | waiting => exact absurd rfl hw
  | failed e => exact absurd rfl (hf e)
  | _ => exact ⟨_, rfl, rfl⟩

/-- Enabledness: a reader's next operation is never a stutter. -/
theorem step_changes {s : State} {id : Nat} {r : Reader} {op : Op} (g : GInv s)
    (hr : s.readers id = some r) (hop : nextOp id r.phase = some op) :
    (step s op).readers id ≠ some r := by
  by_cases hm : r.phase = .mustWait
  · have ne_of : ∀ {r' : Reader}, r'.phase ≠ .mustWait → some r' ≠ some r :=
      fun hne he => hne (Option.some.inj he ▸ hm)
    rw [hm] at hop
    cases hop
    simp only [step, registerWait_eq, hr, hm, if_true]
    split
    · rw [setReader_self]; exact ne_of nofun
    · split
      · rw [setReader_self]; exact ne_of nofun
      · show (setReader s id _).readers id ≠ some r
        rw [setReader_self]; exact ne_of nofun
  · -- in its phase the operation is `own`
    have : step s op = setReader s id (own s.log r) := by
      cases hp : r.phase <;> rw [hp] at hop hm <;> cases hop
      case mustWait => exact absurd rfl hm
      all_goals simp only [step, hr, hp, own, if_true]
    rw [this, setReader_self]
    exact fun he => (own_ok g.inv (g.rinv id r hr) hop hm).moved (Option.some.inj he)

/-! ### Leader discipline: the HW only ever names messages the log has -/

/-- Invariant of runs in which the HW writers are disciplined (`Disciplined`); with `RInv.hw_le`
and `RInv.resync_hw` every HW value a reader holds is covered as well. -/
structure LInv (s : State) : Prop where
  hw : Covered s.log s.log.hw
  /-- an empty log has nothing left to commit -/
  empty : s.log.abs = [] → s.log.newest ≤ s.log.hw
  /-- the only ways a committed reader ends: end of a read-only log, or cancellation -/
  nofail : ∀ id r e, s.readers id = some r → r.phase = .failed e → e = "readonly" ∨ e = "eof"

/-- The side condition on HW writers: a leader commits only messages it has
(`SetHighWatermark(offsets[len-1])`, `SetHighWatermark(minLatest)`); a follower is disciplined
iff the regenerated shape of its call caps the leader's HW at its own log end. -/
def Disciplined (s : State) : Op → Prop
  | .setHW h => Covered s.log h
  | .followerHW _ => Gen.HWReader.followerHWCapped = true
  | _ => True

theorem followerArg_le (hc : Gen.HWReader.followerHWCapped = true) (l : CLog) (h : Int) :
    followerArg l h ≤ l.newest ∧ followerArg l h ≤ h := by
  unfold followerArg
  rw [hc, if_pos rfl]
  split <;> constructor <;> omega

theorem newest_eq_last {l : CLog} (inv : Inv l) (hne : l.abs ≠ []) : ∃ z ∈ l.abs, l.newest = z.offset := by
  obtain ⟨z, hz⟩ := Option.isSome_iff_exists.mp (List.getLast?_isSome.mpr hne)
  exact ⟨z, List.mem_of_getLast? hz, newest_last inv hz⟩

/-- The HW rises to a covered value, or the read-only flag is set: whoever is woken does not die
of it, except by the read-only verdict. -/
theorem linv_wake {s : State} (li : LInv s) {l' : CLog} (hhw : Covered l' l'.hw)
    (hemp : l'.abs = [] → l'.newest ≤ l'.hw) (ro : Bool) : LInv (wakeAll { s with log := l' } ro) := by
  refine ⟨hhw, hemp, fun j r' e hj hp => ?_⟩
  obtain ⟨r, hr, ⟨_, rfl⟩ | ⟨_, rfl⟩⟩ := wakeAll_reader hj
  · cases ro <;> cases hp
    exact .inl rfl
  · exact li.nofail j r' e hr hp

theorem linv_env {s s' : State} {op : Op} (g : GInv s) (li : LInv s) (d : Disciplined s op)
    (h : Env s op s') : LInv s' := by
  cases h with
  | @append rs l' _ hadm ha =>
    have habs : l'.abs = s.log.abs ++ rs := (appendSet_full g.inv ha).1
    refine ⟨appendSet_hw ha ▸ li.hw.mono (fun x hx => habs ▸ List.mem_append_left _ hx) (Int.le_refl _),
      fun hemp => ?_, li.nofail⟩
    -- an admissible message set is not empty
    obtain rfl : rs = [] := (List.append_eq_nil_iff.mp (habs ▸ hemp)).2
    cases hadm
  | roll =>
    refine ⟨li.hw.mono (fun x hx => by rw [abs_roll]; exact hx) (Int.le_refl _), fun hemp => ?_, li.nofail⟩
    have : s.log.roll.newest = s.log.newest := by unfold newest; rw [nextOffset_roll]
    exact this ▸ li.empty (abs_roll s.log ▸ hemp)
  | @setHW h hlt =>
    exact linv_wake li (l' := { s.log with hw := h }) d (fun hemp => by have := li.empty hemp; show s.log.newest ≤ h; omega) false
  | @followerHW x hlt =>
    have harg := (followerArg_le d s.log x).1
    refine linv_wake li (l' := { s.log with hw := followerArg s.log x }) ?_
      (fun hemp => by have := li.empty hemp; show s.log.newest ≤ followerArg s.log x; omega) false
    by_cases hemp : s.log.abs = []
    · have := li.empty hemp; omega
    · obtain ⟨z, hz, hzn⟩ := newest_eq_last g.inv hemp
      exact .inr ⟨z, hz, by show followerArg s.log x ≤ _; omega⟩
  | setReadonly => exact ⟨li.hw, li.empty, li.nofail⟩
  | notifyReadonly => exact linv_wake li (l' := { s.log with readonly := true }) li.hw li.empty true

theorem linv_fires {s s' : State} {id : Nat} {op : Op} (g : GInv s) (li : LInv s)
    (f : Fires Gen.HWReader.waitRechecks s id op s') : LInv s' := by
  -- the log stays; it is enough that the new record of reader `id` did not die
  have key : ∀ {r' : Reader} {w : List Nat}, (∀ e, r'.phase = .failed e → e = "readonly" ∨ e = "eof") →
      LInv { setReader s id r' with waiters := w } := fun h3 => by
    refine ⟨li.hw, li.empty, fun j rj e hj hp => ?_⟩
    rw [show (setReader s id _).readers j = if j = id then some _ else s.readers j from rfl] at hj
    split at hj
    · cases hj; exact h3 e hp
    · exact li.nofail j rj e hj hp
  cases f with
  | newReader => exact key nofun
  | own hr hn hm => exact key fun e he => absurd he ((own_ok g.inv (g.rinv _ _ hr) hn hm).alive li.hw e)
  | recheck => exact key nofun
  | readonly => exact key fun e he => by cases he; exact .inl rfl
  | park => exact key nofun
  | cancel => exact key fun e he => by cases he; exact .inr rfl

theorem linv_step {s : State} (g : GInv s) (li : LInv s) {op : Op} (d : Disciplined s op) :
    LInv (step s op) := by
  rcases step_cases s op with h | h | ⟨id, f⟩
  · rw [h]; exact li
  · exact linv_env g li d h
  · exact linv_fires g li f

theorem linv_init {l : CLog} (h1 : Covered l l.hw) (h2 : l.abs = [] → l.newest ≤ l.hw) : LInv (State.init l) :=
  ⟨h1, h2, fun _ _ _ hr => (nomatch hr)⟩

/-- Runs whose every operation is disciplined in the state it is applied to. -/
def DisciplinedRun : State → List Op → Prop
  | _, [] => True
  | s, op :: ops => Disciplined s op ∧ DisciplinedRun (step s op) ops

theorem linv_run {s : State} (g : GInv s) (li : LInv s) {ops : List Op} (d : DisciplinedRun s ops) :
    LInv (run s ops) := by
  induction ops generalizing s with
  | nil => exact li
  | cons op ops ih => exact ih (ginv_step g op) (linv_step g li d.1) d.2

/-- Operations after which nobody notifies the registered waiters: everything except an effective
HW advance, a change of the read-only flag, and the cancellation of reader `id`'s own context. -/
def Quiet (id : Nat) (s : State) : Op → Prop
  | .setHW h => h ≤ s.log.hw
  | .followerHW h => followerArg s.log h ≤ s.log.hw
  | .setReadonly _ => False
  | .cancel j => j ≠ id
  | _ => True

def QuietRun (b : Bool) (id : Nat) : State → List Op → Prop
  | _, [] => True
  | s, op :: ops => Quiet id s op ∧ QuietRun b id (stepWith b s op) ops

/-- A parked reader stays exactly as it is — and the HW stays where it is — under every quiet
operation, whether or not `waitForHW` re-checks (the re-check concerns only the moment of parking):
appends, rolls, other readers and its own scheduling do not wake it. -/
theorem parked_stays (b : Bool) {s : State} {id : Nat} {r : Reader} (op : Op)
    (hr : s.readers id = some r) (hw : r.phase = .waiting) (q : Quiet id s op) :
    (stepWith b s op).readers id = some r ∧ (stepWith b s op).log.hw = s.log.hw := by
  rcases stepWith_cases b s op with h | h | ⟨j, f⟩
  · rw [h]; exact ⟨hr, rfl⟩
  · generalize stepWith b s op = s' at h ⊢
    cases h with
    | append _ ha => exact ⟨hr, appendSet_hw ha⟩
    | roll => exact ⟨hr, rfl⟩
    | setHW hlt | followerHW hlt => exact absurd q (Int.not_le.mpr hlt)
    | setReadonly | notifyReadonly => exact q.elim
  · refine ⟨?_, by rw [f.frame.1]⟩
    by_cases hj : j = id
    · -- its own operations are not enabled while it is parked, its cancellation is not quiet
      subst hj
      rcases f.enabled with hn | ⟨r0, h0, h⟩
      · cases hr.symm.trans hn
      · cases hr.symm.trans h0
        rw [hw] at h
        rcases h with h | ⟨_, rfl⟩
        · cases h
        · exact absurd rfl q
    · rw [f.frame.2 id (Ne.symm hj)]; exact hr

theorem parked_stays_run (b : Bool) {id : Nat} {r : Reader} (ops : List Op) {s : State}
    (hr : s.readers id = some r) (hw : r.phase = .waiting) (q : QuietRun b id s ops) :
    (runWith b s ops).readers id = some r ∧ (runWith b s ops).log.hw = s.log.hw := by
  induction ops generalizing s with
  | nil => exact ⟨hr, rfl⟩
  | cons op ops ih =>
    obtain ⟨h1, h2⟩ := parked_stays b op hr hw q.1
    have := ih h1 q.2
    simp only [runWith, List.foldl_cons] at this ⊢
    exact ⟨this.1, by rw [this.2, h2]⟩

end Liftbridge.Proofs.HWReader
