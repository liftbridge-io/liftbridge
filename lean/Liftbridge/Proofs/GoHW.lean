/-
Helper lemmas for Props/GoHW.lean: the waking loop of `notifyHWChange` / `notifyReadonly`

    for r, ch := range l.hwWaiters { ch <- b; delete(l.hwWaiters, r) }

as an explicit state transformer, for every waiter map. (Deleting the entry being visited from the map a `range`
iterates over is well defined in Go: every entry present at the start and not deleted before it is reached is
visited once; the embedding iterates over the entries as they were when the loop started - the same thing here,
since an iteration only deletes its own entry.)
-/
import Liftbridge.Proofs.GoCodeBase
import Liftbridge.Gen.GoHW

namespace Liftbridge.GoMini
theorem builtin_chan_send (ch v : Val) : builtin "chan.send" [ch, v] = none := by cases ch <;> simp [builtin]
theorem builtin_atomic_StoreInt32 (a v : Val) : builtin "atomic.StoreInt32" [a, v] = none := by cases a <;> simp [builtin]
end Liftbridge.GoMini

namespace Liftbridge.Props.GoHW
open Liftbridge Liftbridge.GoMini Liftbridge.GoCode
open Liftbridge.Gen.GoHW

/-- the loop body, for the verdict `b` sent to every waiter -/
def wakeBody (b : Bool) : List Stmt :=
  [(.expr (.call "chan.send" [(.var "ch"), (.bool b)])),
   (.assign [(.sel (.var "l") "hwWaiters")] [(.call "mapDelete" [(.sel (.var "l") "hwWaiters"), (.var "r")])])]

/-- erase the keys of `ws` from `cur`, one after the other -/
def eraseAll : List (String × Val) → List (String × Val) → List (String × Val)
  | [], cur => cur
  | (k, _) :: rest, cur => eraseAll rest (eraseKey k cur)

/-- the sends of the loop, in iteration order -/
def sends (b : Bool) (ws : List (String × Val)) : List (String × List Val) :=
  ws.map fun e => ("chan.send", [e.2, .bool b])

/-! look-ups in `prog`, so that proofs need not unfold it inside every `exec prog …` -/
@[simp] theorem lk_SetHighWatermark : evalE.lookup' "SetHighWatermark" prog = some fn_commitLog_SetHighWatermark := by simp [prog, gomini]
@[simp] theorem lk_OverrideHighWatermark : evalE.lookup' "OverrideHighWatermark" prog = some fn_commitLog_OverrideHighWatermark := by simp [prog, gomini]
@[simp] theorem lk_notifyHWChange : evalE.lookup' "notifyHWChange" prog = some fn_commitLog_notifyHWChange := by simp [prog, gomini]
@[simp] theorem lk_notifyReadonly : evalE.lookup' "notifyReadonly" prog = some fn_commitLog_notifyReadonly := by simp [prog, gomini]
@[simp] theorem lk_SetReadonly : evalE.lookup' "SetReadonly" prog = some fn_commitLog_SetReadonly := by simp [prog, gomini]
@[simp] theorem lk_NewestOffset : evalE.lookup' "NewestOffset" prog = none := by simp [prog, gomini]
@[simp] theorem lk_chanSend : evalE.lookup' "chan.send" prog = none := by simp [prog, gomini]
@[simp] theorem lk_StoreInt32 : evalE.lookup' "atomic.StoreInt32" prog = none := by simp [prog, gomini]

/-- The waking loop, for every list of entries still to visit, every current content of the map and every record
`lf` around it: each entry's channel gets the verdict (in order), each entry's key is deleted, nothing else of the
log changes. -/
theorem wake_loop (n : Nat) (b : Bool) (lf : List (String × Val)) (ws : List (String × Val)) :
    ∀ (cur : List (String × Val)) (st : St), st.env "l" = some (.struct (update "hwWaiters" (.struct cur) lf)) →
    ∃ st', runRangeMap (runBlock (exec prog noExt (n+6)) (wakeBody b)) (some "r") (some "ch") ws st = .ok (.next, st') ∧
      st'.env "l" = some (.struct (update "hwWaiters" (.struct (eraseAll ws cur)) lf)) ∧
      st'.eff = st.eff ++ sends b ws := by
  induction ws with
  | nil => intro cur st h; exact ⟨st, rfl, h, (List.append_nil _).symm⟩
  | cons e rest ih =>
    intro cur st hp
    obtain ⟨k, ch⟩ := e
    -- the state after one iteration: `r`, `ch` bound, the send logged, the entry gone from `l.hwWaiters`
    obtain ⟨st', h1, h2, h3⟩ := ih (eraseKey k cur)
      ((((st.set "r" (.str k)).set "ch" ch).log "chan.send" [ch, .bool b]).set "l"
        (.struct (update "hwWaiters" (.struct (eraseKey k cur)) lf))) rfl
    refine ⟨st', ?_, h2, h3.trans (List.append_assoc _ [_] _)⟩
    rw [← h1]
    simp only [gomini, lk_chanSend, wakeBody, hp, builtin_chan_send, update_update, ↓reduceIte, String.reduceEq]

theorem eraseKey_eq_filter (k : String) : ∀ m : List (String × Val), eraseKey k m = m.filter (·.1 ≠ k)
  | [] => rfl
  | (a, v) :: rest => by by_cases h : a = k <;> simp [eraseKey, h, eraseKey_eq_filter k rest]

theorem lookup_eraseKey_self (k : String) : ∀ m : List (String × Val), lookup k (eraseKey k m) = none := by
  intro m
  induction m with
  | nil => rfl
  | cons a rest ih =>
    obtain ⟨a1, a2⟩ := a
    by_cases h : a1 = k
    · simp [eraseKey, h, ih]
    · have h' : ¬ k = a1 := fun e => h e.symm
      simp [eraseKey, h, lookup, h', ih]

theorem eraseAll_eq_filter : ∀ ws cur : List (String × Val), eraseAll ws cur = cur.filter fun e => ws.all (e.1 ≠ ·.1)
  | [], cur => (List.filter_eq_self.2 fun _ _ => rfl).symm
  | (k, _) :: rest, cur => by
    simp [eraseAll, eraseAll_eq_filter rest, eraseKey_eq_filter, List.filter_filter, Bool.and_comm]

/-- after the loop over the whole map the map is empty -/
theorem eraseAll_self (ws : List (String × Val)) : eraseAll ws ws = [] := by
  simp only [eraseAll_eq_filter, List.filter_eq_nil_iff, List.all_eq_true]
  exact fun e he h => by simpa using h e he

end Liftbridge.Props.GoHW
