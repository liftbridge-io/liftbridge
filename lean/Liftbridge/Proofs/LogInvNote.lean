/- Why `Inv` has the field `link`: without it (unreachable) states satisfy the other five fields in
which `nextOffset_spec` / `readCommitted_spec` fail. -/
import Liftbridge.Proofs.Log
namespace Liftbridge.Proofs.Log
open Liftbridge Liftbridge.Log Liftbridge.Log.CLog

/-- The other five fields of `Inv`. -/
structure Inv0 (l : CLog) : Prop where
  nonempty : l.segs ≠ []
  maxPos : 0 < l.maxSegBytes
  sorted : l.abs.Pairwise (fun a b => a.offset < b.offset)
  base_le : ∀ s ∈ l.segs, 0 ≤ s.base ∧ ∀ r ∈ s.recs, s.base ≤ r.offset
  chain : l.segs.Pairwise (fun a b => a.nextOffset ≤ b.base ∧ a.base < b.base)

def rec0 (o : Int) : Rec := { offset := o, ts := 0, epoch := 0, body := { key := none, val := none, hdrs := [] } }

/-- A gap between the end of a segment and the base of the (empty) next one. -/
def gapLog : CLog :=
  { segs := [{ base := 0, recs := [rec0 0] }, { base := 5, recs := [] }], maxSegBytes := 1, hw := 0,
    epochs := [], readonly := false, occ := false }

/-- An empty segment followed by a non-empty one. -/
def emptyHeadLog : CLog :=
  { segs := [{ base := 0, recs := [] }, { base := 1, recs := [rec0 1] }], maxSegBytes := 1, hw := 1,
    epochs := [], readonly := false, occ := false }

theorem gapLog_inv0 : Inv0 gapLog := ⟨by decide, by decide, by decide, by decide, by decide⟩

/-- `nextOffset_spec` fails without `link`: the last record has offset 0 but the next offset is 5. -/
theorem gapLog_next : gapLog.abs.getLast? = some (rec0 0) ∧ gapLog.nextOffset = 5 := by decide

theorem emptyHeadLog_inv0 : Inv0 emptyHeadLog :=
  ⟨by decide, by decide, by decide, by decide, by decide⟩

/-- `readCommitted_spec` fails without `link`: record 1 is retained and committed, yet the reader
parks immediately because the oldest segment is empty (`OldestOffset() == -1`). -/
theorem emptyHeadLog_read :
    emptyHeadLog.readCommitted 1 = .ok [] ∧
    emptyHeadLog.abs.filter (fun r => decide (1 ≤ r.offset ∧ r.offset ≤ emptyHeadLog.hw)) = [rec0 1] := by
  decide

end Liftbridge.Proofs.Log
