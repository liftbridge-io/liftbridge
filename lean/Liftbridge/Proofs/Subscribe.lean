/- Subscriptions on a log satisfying `InvC` (C10). The timestamp lookups are binary searches: a
search with a monotone predicate computes `List.findIdx` (`searchIdx_eq_findIdx`) and so cuts a
list into its false and its true part (`searchIdx_cut`),
first the segments, then the records of one segment (`twoLevel_cut`, for any monotone predicate on
records). Both delivery loops are one filter
(`deliverBy_spec`); a drain and the creation of a reverse subscription have closed forms. -/
import Liftbridge.Model.Subscribe
import Liftbridge.Proofs.Compact
namespace Liftbridge.Proofs.Subscribe
open Liftbridge Liftbridge.Log Liftbridge.Log.CLog Liftbridge.Subscribe Liftbridge.Proofs.Compact
open Liftbridge.Proofs Liftbridge.Proofs.Log

theorem lastNextOffset_eq {l : CLog} (hne : l.segs ≠ []) : lastNextOffset l.segs = l.nextOffset := by
  simp [lastNextOffset, getLast?_segs hne, CLog.nextOffset]

/-- When no probe in `[0, n)` fails, the error-aware search is the plain one and keeps its flag. -/
theorem goSearchErrAux_eq (f : Nat → Option Bool) (n : Nat) (hf : ∀ i, i < n → f i ≠ none)
    (i j : Nat) (err : Bool) (hj : j ≤ n) :
    goSearchErrAux f i j err = (goSearchAux (fun i => (f i).getD true) i j, err) := by
  fun_induction goSearchErrAux f i j err with
  | case1 i j err h m hm ih => exact absurd hm (hf m (by simp only [m]; omega))
  | case2 i j err h m hm ih =>
    rw [ih (by simp only [m]; omega), goSearchAux.eq_def _ i j]
    simp [h, show (f ((i + j) / 2)) = some true from hm, m]
  | case3 i j err h m hm ih =>
    rw [ih hj, goSearchAux.eq_def _ i j]
    simp [h, show (f ((i + j) / 2)) = some false from hm, m]
  | case4 i j err h => rw [goSearchAux]; simp [h]

theorem goSearchErr_spec (n : Nat) (f : Nat → Option Bool) (hf : ∀ i, i < n → f i ≠ none) :
    goSearchErr n f = (goSearch n (fun i => (f i).getD true), false) :=
  goSearchErrAux_eq f n hf 0 n false (Nat.le_refl _)

/-- The raw index computed by the `sort.Search` lookups over a list. -/
def searchIdx {α} (xs : List α) (q : α → Bool) : Nat :=
  goSearch xs.length (fun i => match xs[i]? with
    | some x => q x
    | none => true)

/-- A lookup whose probe agrees pointwise with that of `searchIdx`. -/
theorem searchIdx_probe {α} (xs : List α) (q : α → Bool) (f : Nat → Bool)
    (hf : ∀ i, f i = match xs[i]? with | some x => q x | none => true) :
    goSearch xs.length f = searchIdx xs q := by
  rw [funext hf]; rfl

theorem searchIdx_eq_findIdx {α} {xs : List α} {q : α → Bool} (mono : Mono xs q) :
    searchIdx xs q = xs.findIdx q := goSearch_eq_findIdx mono

theorem searchIdx_cut {α} {xs : List α} {q : α → Bool} (mono : Mono xs q) :
    ∃ pre post, xs = pre ++ post ∧ searchIdx xs q = pre.length ∧ (∀ a ∈ pre, q a = false) ∧
      ∀ a ∈ post, q a = true := by
  rw [searchIdx_eq_findIdx mono]
  rcases findIdx?_cases xs q with ⟨-, h⟩ | ⟨pre, x, post, hx, hi, hq, hpre⟩
  · exact ⟨xs, [], by simp, List.findIdx_eq_length.mpr h, h, by simp⟩
  · refine ⟨pre, x :: post, hx, (List.findIdx?_eq_some_iff_findIdx_eq.mp hi).2, hpre, ?_⟩
    subst hx
    intro a ha
    rcases List.mem_cons.mp ha with rfl | ha
    · exact hq
    · exact (pairwise_split mono).2 a ha hq

/-- A list cut into a false and a true part: the first element satisfying `q` heads the true part. -/
theorem find?_cut {α} {q : α → Bool} {pre post : List α} (hpre : ∀ a ∈ pre, q a = false)
    (hpost : ∀ a ∈ post, q a = true) : (pre ++ post).find? q = post.head? := by
  rw [List.find?_append, List.find?_eq_none.mpr (by simpa using hpre), Option.none_or]
  cases post with
  | nil => rfl
  | cons x post => simp [hpost x (by simp)]

theorem getElem?_searchIdx {α} {xs : List α} {q : α → Bool} (mono : Mono xs q) :
    xs[searchIdx xs q]? = xs.find? q := by
  rw [searchIdx_eq_findIdx mono, List.find?_eq_getElem?_findIdx]

/-- The same cut, seen from the last element before the index. -/
theorem searchIdx_pred {α} {xs : List α} {q : α → Bool} (mono : Mono xs q) :
    (searchIdx xs q = 0 ∧ ∀ a ∈ xs, q a = true) ∨
    ∃ init y rest, xs = init ++ y :: rest ∧ searchIdx xs q = init.length + 1 ∧ q y = false ∧
      ∀ a ∈ rest, q a = true := by
  obtain ⟨pre, post, rfl, hidx, hpre, hpost⟩ := searchIdx_cut mono
  rcases List.eq_nil_or_concat pre with rfl | ⟨init, y, rfl⟩
  · exact Or.inl ⟨hidx, by simpa using hpost⟩
  · exact Or.inr ⟨init, y, post, by simp, by simpa using hidx, hpre y (by simp), hpost⟩

abbrev TsOrd (L : List Rec) : Prop := L.Pairwise (fun a b => a.ts ≤ b.ts)

theorem tsOrd_mono_ge {rs : List Rec} (hm : TsOrd rs) (t : Int) : Mono rs (fun r => decide (t ≤ r.ts)) :=
  hm.imp fun hab => by simp only [decide_eq_true_eq]; omega

theorem tsOrd_mono_gt {rs : List Rec} (hm : TsOrd rs) (t : Int) : Mono rs (fun r => decide (t < r.ts)) :=
  hm.imp fun hab => by simp only [decide_eq_true_eq]; omega

/-- The predicate of `findSegmentIndexByTimestamp`: `q` holds of the first record; a segment
without records sorts last. -/
def segPred (q : Rec → Bool) (s : Seg) : Bool :=
  match s.recs.head? with
  | none => true
  | some r => q r

theorem findSegIdxByTs_eq (segs : List Seg) (t : Int) (incl : Bool) :
    findSegIdxByTs segs t incl =
      (searchIdx segs (segPred fun r => if incl then decide (t ≤ r.ts) else decide (t < r.ts)), false) := by
  unfold findSegIdxByTs
  rw [goSearchErr_spec]
  · congr 1
    refine searchIdx_probe _ _ _ fun i => ?_
    cases segs[i]? with
    | none => rfl
    | some s =>
      simp only [segPred]
      cases s.recs.head? with
      | none => rfl
      | some r =>
        cases incl <;> simp [Gen.Log.findSegmentTsCmp, Cmp.evalInt, ← Bool.decide_or]
        omega
  · intro i hi
    rw [List.getElem?_eq_getElem hi]
    dsimp only
    split <;> simp [Gen.Subscribe.tsEmptySegNoError]

theorem findEntryByTs_idx (s : Seg) (t : Int) :
    findEntryByTs s t = s.recs[searchIdx s.recs (fun r => decide (t ≤ r.ts))]? :=
  congrArg (s.recs[·]?) (searchIdx_probe _ _ _ fun i => by cases s.recs[i]? <;> rfl)

theorem segPred_of_all {q : Rec → Bool} {s : Seg} (h : ∀ a ∈ s.recs, q a = true) : segPred q s = true := by
  unfold segPred
  cases hr : s.recs with
  | nil => rfl
  | cons f fs => exact h f (by simp [hr])

theorem recsMono {l : CLog} {q : Rec → Bool} (mono : Mono l.abs q) {s : Seg} (hs : s ∈ l.segs) :
    Mono s.recs q :=
  (List.pairwise_flatMap.mp mono).1 s hs

theorem after_of_segPred {l : CLog} {q : Rec → Bool} (mono : Mono l.abs q) {S : List Seg}
    (hS : ∀ x ∈ S, x ∈ l.segs) (hq : ∀ x ∈ S, segPred q x = true) : ∀ a ∈ S.flatMap Seg.recs, q a = true := by
  intro a ha
  obtain ⟨x, hx, ha⟩ := List.mem_flatMap.mp ha
  have hx1 := hq x hx
  have mono := recsMono mono (hS x hx)
  unfold segPred at hx1
  cases hr : x.recs with
  | nil => simp [hr] at ha
  | cons f fs =>
    rw [hr] at mono hx1 ha
    rcases List.mem_cons.mp ha with rfl | ha
    · exact hx1
    · exact (List.pairwise_cons.mp mono).1 a ha hx1

theorem pairwise_of_dropLast {α} {P : α → Prop} : ∀ {xs : List α}, (∀ s ∈ xs.dropLast, P s) →
    xs.Pairwise (fun a _ => P a)
  | [], _ => List.Pairwise.nil
  | [a], _ => by simp
  | a :: b :: rest, h => by
    rw [List.dropLast_cons_of_ne_nil (by simp)] at h
    refine List.pairwise_cons.mpr ⟨fun _ _ => h a (by simp), ?_⟩
    exact pairwise_of_dropLast (fun s hs => h s (List.mem_cons_of_mem _ hs))

theorem segMono {l : CLog} (h : InvC l) {q : Rec → Bool} (mono : Mono l.abs q) :
    Mono l.segs (segPred q) := by
  refine ((List.pairwise_flatMap.mp mono).2.and (pairwise_of_dropLast h.inner_nonempty)).imp ?_
  rintro a b ⟨hab, hne⟩ hq
  cases ha : a.recs with
  | nil => exact absurd ha hne
  | cons f fs =>
    exact segPred_of_all fun y hy => hab f (by simp [ha]) y hy (by simpa [segPred, ha] using hq)

/-- The two searches of a timestamp lookup — for the segment, then inside the segment before the
index found — cut the log at the first record satisfying `q`; `z` is the last record before it. -/
theorem twoLevel_cut {l : CLog} (h : InvC l) {q : Rec → Bool} (mono : Mono l.abs q) :
    (searchIdx l.segs (segPred q) = 0 ∧ ∀ a ∈ l.abs, q a = true) ∨
    ∃ init y rest rp z tail, l.segs = init ++ y :: rest ∧
      searchIdx l.segs (segPred q) = init.length + 1 ∧
      y.recs = rp ++ z :: tail ∧ searchIdx y.recs q = rp.length + 1 ∧
      l.abs = init.flatMap Seg.recs ++ rp ++ [z] ++ (tail ++ rest.flatMap Seg.recs) ∧
      (∀ a ∈ init.flatMap Seg.recs ++ rp ++ [z], q a = false ∧ a.offset ≤ z.offset) ∧
      ∀ b ∈ tail ++ rest.flatMap Seg.recs, q b = true ∧ z.offset < b.offset := by
  rcases searchIdx_pred (segMono h mono) with ⟨h0, hall⟩ | ⟨init, y, rest, hsegs, hidx, hy, hrest⟩
  · exact Or.inl ⟨h0, after_of_segPred mono (fun _ hx => hx) hall⟩
  · have hrest := after_of_segPred mono (fun x hx => by simp [hsegs, hx]) hrest
    rcases searchIdx_pred (recsMono mono (s := y) (by simp [hsegs])) with
      ⟨-, hall⟩ | ⟨rp, z, tail, hyz, hslot, hz, htail⟩
    · simp [segPred_of_all hall] at hy
    · have e : l.abs = init.flatMap Seg.recs ++ rp ++ [z] ++ (tail ++ rest.flatMap Seg.recs) := by
        simp [abs, hsegs, hyz]
      have hb := mono.and h.sorted
      rw [e, List.append_assoc _ [z]] at hb
      obtain ⟨h1, h2⟩ := pairwise_split hb
      refine Or.inr ⟨init, y, rest, rp, z, tail, hsegs, hidx, hyz, hslot, e, fun a ha => ?_, fun b hb =>
        ⟨(List.mem_append.mp hb).elim (htail b) (hrest b), (h2 b hb).2⟩⟩
      rcases List.mem_append.mp ha with ha | ha
      · have := h1 a ha
        exact ⟨Bool.eq_false_iff.mpr fun hqa => by simp [this.1 hqa] at hz, by omega⟩
      · rw [List.mem_singleton.mp ha]
        exact ⟨hz, Int.le_refl _⟩

/-- `EarliestOffsetAfterTimestamp` returns the offset of the first record stamped `t` or later,
and the end of the log when there is none. -/
theorem earliestAfterTs_eq (l : CLog) (t : Int) (h : InvC l) (hm : TsOrd l.abs) :
    earliestAfterTs l t = .ok (((l.abs.find? (fun r => decide (t ≤ r.ts))).map Rec.offset).getD
      (lastNextOffset l.segs)) := by
  have mono := tsOrd_mono_ge hm t
  -- in a segment from which on every record is at or after `t`, the first of them is found
  have hseg : ∀ pre x post, l.segs = pre ++ x :: post →
      (∀ a ∈ x.recs ++ post.flatMap Seg.recs, decide (t ≤ a.ts) = true) →
      findEntryByTs x t = (x.recs ++ post.flatMap Seg.recs).head? := by
    intro pre x post hsegs hall
    rw [findEntryByTs_idx, getElem?_searchIdx (recsMono mono (by simp [hsegs]))]
    cases hx : x.recs with
    | cons g gs => simp [hall g (by simp [hx])]
    | nil =>
      cases post with
      | nil => rfl
      | cons b post => exact absurd hx (notLastNe h hsegs)
  unfold earliestAfterTs
  rw [show Gen.Subscribe.tsEarliestInclusive = true from rfl, findSegIdxByTs_eq]
  simp only [↓reduceIte, Bool.false_eq_true, Gen.Subscribe.tsNextSegCmp, Gen.Subscribe.tsNextSegOff,
    Cmp.evalInt]
  rcases twoLevel_cut h mono with
    ⟨hidx, hall⟩ | ⟨init, y, rest, rp, z, tail, hsegs, hidx, hy, hslot, habs, hpre, hpost⟩
  · rw [hidx, show l.abs.find? _ = l.abs.head? from find?_cut (pre := []) (by simp) hall]
    cases hsegs : l.segs with
    | nil => exact absurd hsegs h.nonempty
    | cons x post =>
      have habs : l.abs = x.recs ++ post.flatMap Seg.recs := by simp [abs, hsegs]
      rw [habs] at hall ⊢
      simp only [↓reduceIte, List.getElem?_cons_zero, hseg [] x post hsegs hall]
      cases (x.recs ++ post.flatMap Seg.recs).head? <;> simp
  · have hyf : findEntryByTs y t = tail.head? := by
      rw [findEntryByTs_idx, hslot, hy, List.getElem?_append_right (Nat.le_add_right _ _),
        Nat.add_sub_cancel_left, List.getElem?_cons_succ, List.head?_eq_getElem?]
    have hpost := fun a ha => (hpost a ha).1
    rw [hidx, habs, find?_cut (fun a ha => (hpre a ha).1) hpost]
    simp only [hsegs, Nat.add_eq_zero_iff, Nat.succ_ne_self, and_false, if_false, Nat.add_sub_cancel,
      List.getElem?_append_right (Nat.le_refl _), Nat.sub_self, List.getElem?_cons_zero, hyf]
    cases tail with
    | cons r tail => simp
    | nil =>
      cases rest with
      | nil => simp
      | cons x post =>
        have hx := hseg (init ++ [y]) x post (by simp [hsegs]) hpost
        rw [List.nil_append, List.flatMap_cons]
        generalize (x.recs ++ post.flatMap Seg.recs).head? = H at hx ⊢
        cases H <;> simp [hx] <;> omega

theorem find_splits {L : List Rec} {q : Rec → Bool} (hs : Sorted L) (mono : Mono L q) {e : Int}
    (he : ∀ r ∈ L, r.offset < e) :
    ∀ r ∈ L, (((L.find? q).map Rec.offset).getD e ≤ r.offset ↔ q r = true) := by
  obtain ⟨pre, post, rfl, -, hpre, hpost⟩ := searchIdx_cut mono
  rw [find?_cut hpre hpost]
  intro r hr
  cases post with
  | nil =>
    have := he r hr
    simp only [List.append_nil] at hr
    simp [hpre r hr]; omega
  | cons x post =>
    obtain ⟨h1, h2⟩ := pairwise_split hs
    rcases List.mem_append.mp hr with hr | hr
    · have := h1 r hr
      simp [hpre r hr]; omega
    · rcases List.mem_cons.mp hr with rfl | hr'
      · simp [hpost r hr]
      · have := h2 r hr'
        simp [hpost r hr]; omega

/-- `LatestOffsetBeforeTimestamp`: refused when every record is after `t`; otherwise the offset of
a record that splits the log at `t`. -/
theorem latestBeforeTs_cases (l : CLog) (t : Int) (h : InvC l) (hm : TsOrd l.abs) :
    ((∀ r ∈ l.abs, t < r.ts) ∧ latestBeforeTs l t = .err "timestamp") ∨
    ∃ r ∈ l.abs, latestBeforeTs l t = .ok r.offset ∧ ∀ r' ∈ l.abs, (r'.offset ≤ r.offset ↔ r'.ts ≤ t) := by
  unfold latestBeforeTs
  rw [findSegIdxByTs_eq]
  simp only [Bool.false_eq_true, if_false]
  rcases twoLevel_cut h (tsOrd_mono_gt hm t) with
    ⟨hidx, hall⟩ | ⟨init, y, rest, rp, z, tail, hsegs, hidx, hy, hslot, habs, hpre, hpost⟩
  · simp only [decide_eq_true_eq] at hall
    refine Or.inl ⟨hall, ?_⟩
    rw [hidx]
    cases hsegs : l.segs with
    | nil => exact absurd hsegs h.nonempty
    | cons x post =>
      cases hx : x.recs with
      | nil => simp [Gen.Subscribe.tsLatestEmptyCheck, Seg.isEmpty, Seg.firstOffset, hx]
      | cons g gs => simp [Seg.firstTs, hx, hall g (by simp [abs, hsegs, hx])]
  · refine Or.inr ⟨z, by simp [habs], ?_, ?_⟩
    · rw [hidx]
      simp only [hsegs, Gen.Subscribe.tsLatestExact, Nat.add_eq_zero_iff, Nat.succ_ne_self, and_false,
        false_and, if_false, if_true, Nat.add_sub_cancel, List.getElem?_append_right (Nat.le_refl _),
        Nat.sub_self, List.getElem?_cons_zero]
      -- the slot search inside `y`
      generalize hgi : goSearch y.recs.length _ = i
      obtain rfl : i = rp.length + 1 :=
        hgi ▸ hslot ▸ searchIdx_probe _ _ _ fun j => by cases y.recs[j]? <;> rfl
      simp [hy]
    · intro r' hr'
      rcases List.mem_append.mp (habs ▸ hr') with hr' | hr'
      · have := hpre r' hr'; simp at this; omega
      · have := hpost r' hr'; simp at this; omega

/-- The shape the two delivery loops share: with a stop position set, end before a record `far`
beyond it; end after the record at it. -/
def deliverBy (far : Rec → Bool) (stop : Int) : List Rec → List Rec × Bool
  | [] => ([], false)
  | r :: rs =>
    if decide (stop ≠ waitForNew) && far r then ([], true)
    else if r.offset = stop then ([r], true)
    else let (d, e) := deliverBy far stop rs; (r :: d, e)

theorem deliverFwd_eq (stop : Int) (rs : List Rec) :
    deliverFwd stop rs = deliverBy (fun r => decide (r.offset > stop)) stop rs := by
  induction rs with
  | nil => rfl
  | cons r rs ih => simp only [deliverFwd, deliverBy, ih, Gen.Subscribe.stopBeyondCheck, Bool.true_and]

theorem deliverRev_eq (stop : Int) (rs : List Rec) :
    deliverRev stop rs = deliverBy (fun r => decide (r.offset < stop)) stop rs := by
  induction rs with
  | nil => rfl
  | cons r rs ih => simp only [deliverRev, deliverBy, ih, Gen.Subscribe.stopBeyondCheck, Bool.true_and]

/-- The hypotheses: no record sits at the offset that stands for "no stop position", and every
record after one at or beyond the stop position is beyond it. -/
theorem deliverBy_spec {far : Rec → Bool} {stop : Int} : ∀ rs : List Rec,
    (∀ r ∈ rs, r.offset ≠ waitForNew) →
    rs.Pairwise (fun a b => (far a = true ∨ a.offset = stop) → far b = true) →
    (deliverBy far stop rs).1 = rs.filter (fun r => decide (stop = waitForNew) || !far r) ∧
    ((deliverBy far stop rs).2 = true ↔ stop ≠ waitForNew ∧ ∃ r ∈ rs, far r = true ∨ r.offset = stop) := by
  intro rs
  induction rs with
  | nil => simp [deliverBy]
  | cons r rs ih =>
    intro hnn hp
    obtain ⟨hr, hrs⟩ := List.pairwise_cons.mp hp
    obtain ⟨ih1, ih2⟩ := ih (fun x hx => hnn x (List.mem_cons_of_mem _ hx)) hrs
    have hne : r.offset ≠ waitForNew := hnn r List.mem_cons_self
    unfold deliverBy
    by_cases hw : stop = waitForNew
    · subst hw
      simp [hne, ih1, ih2]
    · by_cases hb : far r = true
      · simpa [hw, hb] using fun a ha => hr a ha (Or.inl hb)
      · by_cases he : r.offset = stop
        · simpa [hw, hb, he] using fun a ha => hr a ha (Or.inr he)
        · simp [hw, hb, he, ih1, ih2]

theorem deliverFwd_spec (stop : Int) {rs : List Rec} (hs : Sorted rs) (hnn : ∀ r ∈ rs, 0 ≤ r.offset) :
    (deliverFwd stop rs).1 = rs.filter (fun r => decide (stop = waitForNew ∨ r.offset ≤ stop)) ∧
    ((deliverFwd stop rs).2 = true ↔ stop ≠ waitForNew ∧ ∃ r ∈ rs, stop ≤ r.offset) := by
  rw [deliverFwd_eq]
  obtain ⟨h1, h2⟩ := deliverBy_spec (far := fun r => decide (r.offset > stop)) (stop := stop) rs
    (fun r hr => by have := hnn r hr; rw [show waitForNew = -1 from rfl]; omega)
    (hs.imp fun hab => by simp only [decide_eq_true_eq]; omega)
  refine ⟨h1.trans (List.filter_congr fun r _ => ?_),
    h2.trans (and_congr_right fun _ => exists_congr fun r => and_congr_right fun _ => ?_)⟩
  · rw [Bool.eq_iff_iff]; simp
  · simp only [decide_eq_true_eq]; omega

/-- Strictly decreasing offsets (the order of the reverse reader). -/
abbrev SortedDesc (rs : List Rec) : Prop := rs.Pairwise (fun a b => b.offset < a.offset)

theorem deliverRev_spec (stop : Int) {rs : List Rec} (hs : SortedDesc rs) (hnn : ∀ r ∈ rs, 0 ≤ r.offset) :
    (deliverRev stop rs).1 = rs.filter (fun r => decide (stop = waitForNew ∨ stop ≤ r.offset)) ∧
    ((deliverRev stop rs).2 = true ↔ stop ≠ waitForNew ∧ ∃ r ∈ rs, r.offset ≤ stop) := by
  rw [deliverRev_eq]
  obtain ⟨h1, h2⟩ := deliverBy_spec (far := fun r => decide (r.offset < stop)) (stop := stop) rs
    (fun r hr => by have := hnn r hr; rw [show waitForNew = -1 from rfl]; omega)
    (hs.imp fun hab => by simp only [decide_eq_true_eq]; omega)
  refine ⟨h1.trans (List.filter_congr fun r _ => ?_),
    h2.trans (and_congr_right fun _ => exists_congr fun r => and_congr_right fun _ => ?_)⟩
  · rw [Bool.eq_iff_iff]; simp
  · simp only [decide_eq_true_eq]; omega

/-- The committed reader from any non-negative position, parking branch included. -/
theorem readCommitted_sub {l : CLog} (h : InvC l) (hhw : l.hw = -1 ∨ ∃ r ∈ l.abs, r.offset = l.hw)
    {n : Int} (hn : 0 ≤ n) :
    l.readCommitted n = .ok (l.abs.filter (fun r => decide (n ≤ r.offset ∧ r.offset ≤ l.hw))) := by
  by_cases hpark : n > l.hw ∨ l.oldest = -1
  · have hnil : l.abs.filter (fun r => decide (n ≤ r.offset ∧ r.offset ≤ l.hw)) = [] := by
      rcases hpark with hp | hp
      · exact List.filter_eq_nil_iff.mpr fun a _ => by simp only [decide_eq_true_eq]; omega
      · rw [Classical.byContradiction fun hne => h.oldest_ne hne hp]; rfl
    have hc : (Gen.Log.readerBeyondHWCmp.evalInt n l.hw || decide (l.oldest = -1)) = true := by
      simpa [Gen.Log.readerBeyondHWCmp, Cmp.evalInt] using hpark
    rw [hnil, readCommitted, if_pos hc]
  · rcases hhw with hhw | hhw
    · omega
    · exact readCommitted_eq_wfc h.wfc (fun hc => hpark (Or.inr hc)) n hhw (by omega)

/-- Where a subscription continues after delivering `d`. -/
def nextAfter (d : List Rec) (dflt : Int) : Int :=
  match d.getLast? with
  | some r => r.offset + 1
  | none => dflt

/-- The range a forward subscription must deliver (`Props.C10.fwdRange`). -/
def fwdR (l : CLog) (next stop : Int) : List Rec :=
  l.abs.filter (fun r => next ≤ r.offset ∧ r.offset ≤ l.hw ∧ (stop = waitForNew ∨ r.offset ≤ stop))

theorem mem_fwdR {l : CLog} {next stop : Int} {r : Rec} :
    r ∈ fwdR l next stop ↔ r ∈ l.abs ∧ next ≤ r.offset ∧ r.offset ≤ l.hw ∧
      (stop = waitForNew ∨ r.offset ≤ stop) := by
  simp [fwdR]

theorem fwdR_sorted {l : CLog} (h : InvC l) (next stop : Int) : Sorted (fwdR l next stop) :=
  h.sorted.sublist List.filter_sublist

/-- Closed form of a drain of a live forward subscription: the range delivered, the ending (the
stop status exactly when a committed record at or beyond the stop offset exists; otherwise the
end of a read-only partition; otherwise it keeps waiting), and where it stands afterwards. -/
theorem drain_spec (l : CLog) (s : Sub) (h : InvC l) (hhw : l.hw = -1 ∨ ∃ r ∈ l.abs, r.offset = l.hw)
    (hlive : s.ended = false) (hnext : 0 ≤ s.nextOff) :
    (drain l s).1 = fwdR l s.nextOff s.stop ∧
    (drain l s).2.1 =
      (if s.stop ≠ waitForNew ∧ ∃ r ∈ l.abs, s.nextOff ≤ r.offset ∧ r.offset ≤ l.hw ∧ s.stop ≤ r.offset
       then Ending.status "ResourceExhausted:stop"
       else if l.readonly = true ∧ l.hw = l.newest then Ending.status "ResourceExhausted:readonly"
       else Ending.waiting) ∧
    (drain l s).2.2 = { s with nextOff := nextAfter (fwdR l s.nextOff s.stop) s.nextOff,
                               ended := decide ((drain l s).2.1 ≠ Ending.waiting) } := by
  have hr := readCommitted_sub h hhw hnext
  generalize hrs : l.abs.filter (fun r => decide (s.nextOff ≤ r.offset ∧ r.offset ≤ l.hw)) = rs at hr
  have hsub : rs.Sublist l.abs := hrs ▸ List.filter_sublist
  have hmem : ∀ r, r ∈ rs ↔ r ∈ l.abs ∧ s.nextOff ≤ r.offset ∧ r.offset ≤ l.hw := by
    intro r; rw [← hrs]; simp
  obtain ⟨hd1, hd2⟩ := deliverFwd_spec s.stop (h.sorted.sublist hsub)
    (fun r hr => invC_offset_nonneg h r (hsub.subset hr))
  have hfw : rs.filter (fun r => decide (s.stop = waitForNew ∨ r.offset ≤ s.stop)) =
      fwdR l s.nextOff s.stop := by
    rw [← hrs, List.filter_filter]
    exact List.filter_congr fun x _ => by
      simp only [Bool.decide_and, Bool.decide_or]; ac_rfl
  have hstop : (deliverFwd s.stop rs).2 = true ↔ s.stop ≠ waitForNew ∧
      ∃ r ∈ l.abs, s.nextOff ≤ r.offset ∧ r.offset ≤ l.hw ∧ s.stop ≤ r.offset := by
    rw [hd2]; simp only [hmem, and_assoc]
  rw [hfw] at hd1
  unfold drain
  simp only [hlive, Bool.false_eq_true, if_false, hr]
  rcases hdel : deliverFwd s.stop rs with ⟨d, st⟩
  rw [hdel] at hd1 hstop
  simp only at hd1 hstop
  subst hd1
  cases st with
  | true =>
    simp [hstop.mp rfl]
    rfl
  | false =>
    -- nothing stopped the loop: everything read was delivered
    have hns := fun hc => Bool.false_ne_true (hstop.mpr hc)
    have hall : fwdR l s.nextOff s.stop = rs := by
      rw [← hfw]
      refine List.filter_eq_self.mpr fun a ha => ?_
      obtain ⟨ha1, ha2, ha3⟩ := (hmem a).mp ha
      by_cases h3 : s.stop = waitForNew
      · simp [h3]
      · simpa [h3] using Int.not_lt.mp fun hgt => hns ⟨h3, a, ha1, ha2, ha3, by omega⟩
    simp only [Bool.false_eq_true, if_false, if_neg hns, hall, decide_true, Bool.and_true]
    by_cases hro : l.readonly = true ∧ l.hw = l.newest
    · simp [hro]
      rfl
    · simp [hro]
      rfl

theorem nextAfter_ge {d : List Rec} {n : Int} (hd : ∀ r ∈ d, n ≤ r.offset) : n ≤ nextAfter d n := by
  unfold nextAfter
  cases hl : d.getLast? with
  | none => exact Int.le_refl _
  | some r => have := hd r (List.mem_of_getLast? hl); simp only; omega

theorem lt_nextAfter {d : List Rec} (hs : Sorted d) (n : Int) : ∀ r ∈ d, r.offset < nextAfter d n := by
  intro r hr
  unfold nextAfter
  cases hl : d.getLast? with
  | none => rw [List.getLast?_eq_none_iff.mp hl] at hr; cases hr
  | some z => have := sorted_le_getLast hs hl r hr; simp only; omega

theorem drain_ge (l : CLog) (s : Sub) (h : InvC l) (hhw : l.hw = -1 ∨ ∃ r ∈ l.abs, r.offset = l.hw)
    (hnext : 0 ≤ s.nextOff) :
    (∀ r ∈ (drain l s).1, s.nextOff ≤ r.offset) ∧ s.nextOff ≤ (drain l s).2.2.nextOff := by
  cases hlive : s.ended with
  | true => simp [drain, hlive]
  | false =>
    obtain ⟨h1, -, h3⟩ := drain_spec l s h hhw hlive hnext
    rw [h1, h3]
    exact ⟨fun r hr => (mem_fwdR.mp hr).2.1, nextAfter_ge fun r hr => (mem_fwdR.mp hr).2.1⟩

theorem startOffset_nonneg {l : CLog} {p : StartPos} {start : Int}
    (hs : startOffset l p = .ok start) : 0 ≤ start := by
  have clamp : ∀ o : Int, 0 ≤ (if o < 0 then 0 else o) := fun o => by split <;> omega
  cases p with
  | timestamp t =>
    simp only [startOffset] at hs
    cases he : earliestAfterTs l t <;> simp [he] at hs
    exact hs ▸ clamp _
  | _ =>
    simp only [startOffset, Res.ok.injEq] at hs
    exact hs ▸ clamp _

/-- The subscription a forward `create` starts from: beyond the HW (or on an empty log) the reader
parks behind the HW it saw. -/
def fwdSub (l : CLog) (start stop : Int) : Sub :=
  { nextOff := if start ≤ l.hw ∧ l.oldest ≠ -1 then start else l.hw + 1,
    stop := stop, reverse := false, ended := false }

theorem create_fwd_eq (l : CLog) (req : Req) (start stop : Int) (hfwd : req.reverse = false)
    (hs : startOffset l req.start = .ok start)
    (hp : stopOffset l false req.stop = .ok (some stop))
    (hvalid : stop = waitForNew ∨ start ≤ stop) :
    create l req = .live (drain l (fwdSub l start stop)).1 (drain l (fwdSub l start stop)).2.1
      (drain l (fwdSub l start stop)).2.2 := by
  have hnext : (if (Gen.Log.readerBeyondHWCmp.evalInt start l.hw || decide (l.oldest = -1)) = true
      then l.hw + 1 else start) = (if start ≤ l.hw ∧ l.oldest ≠ -1 then start else l.hw + 1) := by
    by_cases c1 : start ≤ l.hw <;> by_cases c2 : l.oldest = -1 <;>
      simp [Gen.Log.readerBeyondHWCmp, Cmp.evalInt, c1, c2] <;> omega
  have hbad : ¬ (stop ≠ waitForNew ∧ stop < start) := by omega
  unfold create
  simp only [hs, hfwd, hp, Bool.false_and, Bool.false_eq_true, if_false, hbad, hnext]
  rfl

/-- A forward `create` that went live resolved a stop position and started from `fwdSub`. -/
theorem create_fwd_inv {l : CLog} {req : Req} {start : Int} {d : List Rec} {e : Ending} {sub : Sub}
    (hfwd : req.reverse = false) (hs : startOffset l req.start = .ok start)
    (hc : create l req = .live d e sub) :
    ∃ stop, d = (drain l (fwdSub l start stop)).1 ∧ e = (drain l (fwdSub l start stop)).2.1 ∧
      sub = (drain l (fwdSub l start stop)).2.2 := by
  cases hp : stopOffset l false req.stop with
  | ok o =>
    cases o with
    | none => simp [create, hs, hfwd, hp] at hc
    | some stop =>
      by_cases hbad : stop ≠ waitForNew ∧ stop < start
      · simp [create, hs, hfwd, hp, hbad] at hc
      · rw [create_fwd_eq l req start stop hfwd hs hp (by omega)] at hc
        cases hc
        exact ⟨stop, rfl, rfl, rfl⟩
  | err x => simp [create, hs, hfwd, hp] at hc
  | panic => simp [create, hs, hfwd, hp] at hc

theorem fwdSub_nonneg {l : CLog} (h : InvC l) (hhw : l.hw = -1 ∨ ∃ r ∈ l.abs, r.offset = l.hw)
    {start : Int} (hstart : 0 ≤ start) (stop : Int) : 0 ≤ (fwdSub l start stop).nextOff := by
  have : -1 ≤ l.hw := by
    rcases hhw with hhw | ⟨r, hr, hrw⟩
    · omega
    · have := invC_offset_nonneg h r hr; omega
  unfold fwdSub
  simp only
  split <;> omega

theorem reverseRecs_eq (l : CLog) (start : Int) (h : InvC l) (hne : l.hw ≠ -1) (hle : l.hw ≤ l.newest)
    (hstart : 0 ≤ start) :
    reverseRecs l start = .ok ((l.abs.filter
      (fun r => decide (r.offset ≤ (if start > l.hw then l.hw else start)))).reverse) := by
  have heff : (if (decide (start > l.hw) || decide (start = -1)) = true then l.hw else start) =
      (if start > l.hw then l.hw else start) := by
    have : start ≠ -1 := by omega
    by_cases c : start > l.hw <;> simp [c, this]
  unfold reverseRecs
  simp only [hne, if_false, heff]
  have heffle : (if start > l.hw then l.hw else start) ≤ l.hw := by split <;> omega
  generalize (if start > l.hw then l.hw else start) = eff at *
  rcases findSegmentIdx_cases h.wfc eff with ⟨-, hall⟩ | ⟨pre, x, post, hsegs, hi, hx, hpre⟩
  · have := hall _ (active_mem h.nonempty)
    have hn : l.newest = l.active.nextOffset - 1 := rfl
    omega
  · rw [hi]
    have htake : l.segs.take pre.length = pre := by rw [hsegs]; simp
    simp only [getElem?_split hsegs, htake]
    have h1 : (pre.flatMap Seg.recs).filter (fun r => decide (r.offset ≤ eff)) = pre.flatMap Seg.recs :=
      List.filter_eq_self.mpr fun a ha => by
        obtain ⟨sg, hsg, hasg⟩ := List.mem_flatMap.mp ha
        have := (h.wfc.segOK (s := sg) (by simp [hsegs, hsg])).lt_next a hasg
        have := hpre sg hsg
        simp only [decide_eq_true_eq]
        omega
    have h2 : (post.flatMap Seg.recs).filter (fun r => decide (r.offset ≤ eff)) = [] :=
      List.filter_eq_nil_iff.mpr fun a ha => by
        have := h.wfc.post_ge hsegs a ha
        simp only [decide_eq_true_eq]
        omega
    simp [abs, hsegs, List.filter_append, h1, h2]

/-- Closed form of the creation of a reverse subscription on a log with something committed: the
retained committed records from the start (clamped to the HW) down to the stop offset, newest
first; it ends with the stop status exactly when a record at or below the stop offset exists. -/
theorem create_reverse_eq (l : CLog) (req : Req) (start stop : Int) (h : InvC l)
    (hne : l.hw ≠ -1) (hle : l.hw ≤ l.newest)
    (hrev : req.reverse = true) (hs : startOffset l req.start = .ok start)
    (hp : stopOffset l true req.stop = .ok (some stop))
    (hvalid : stop = waitForNew ∨ stop ≤ start) :
    create l req =
      .live ((l.abs.filter (fun r => r.offset ≤ (if start > l.hw then l.hw else start) ∧
                                      (stop = waitForNew ∨ stop ≤ r.offset))).reverse)
        (.status (if stop ≠ waitForNew ∧
            ∃ r ∈ l.abs, r.offset ≤ (if start > l.hw then l.hw else start) ∧ r.offset ≤ stop
          then "ResourceExhausted:stop" else Gen.Subscribe.reverseEndStatus))
        { nextOff := 0, stop := stop, reverse := true, ended := true } := by
  have hbad : ¬ (stop ≠ waitForNew ∧ stop > start) := by omega
  have hrr := reverseRecs_eq l start h hne hle (startOffset_nonneg hs)
  generalize (if start > l.hw then l.hw else start) = eff at *
  generalize hrs : (l.abs.filter (fun r => decide (r.offset ≤ eff))).reverse = rs at hrr
  have hmem : ∀ r, r ∈ rs ↔ r ∈ l.abs ∧ r.offset ≤ eff := by intro r; rw [← hrs]; simp
  have hdesc : SortedDesc rs := by
    rw [← hrs]; exact List.pairwise_reverse.mpr (h.sorted.sublist List.filter_sublist)
  obtain ⟨hd1, hd2⟩ := deliverRev_spec stop hdesc fun r hr => invC_offset_nonneg h r ((hmem r).mp hr).1
  have hfilter : rs.filter (fun r => decide (stop = waitForNew ∨ stop ≤ r.offset)) =
      (l.abs.filter (fun r => r.offset ≤ eff ∧ (stop = waitForNew ∨ stop ≤ r.offset))).reverse := by
    rw [← hrs, List.filter_reverse, List.filter_filter]
    congr 1
    exact List.filter_congr fun x _ => by simp only [Bool.decide_and, Bool.decide_or]; ac_rfl
  have hstop : (deliverRev stop rs).2 = true ↔
      stop ≠ waitForNew ∧ ∃ r ∈ l.abs, r.offset ≤ eff ∧ r.offset ≤ stop := by
    rw [hd2]; simp only [hmem, and_assoc]
  unfold create
  simp only [hs, hrev, hp, Gen.Subscribe.reverseStopRule, Bool.and_self, if_true, hbad, if_false, hrr]
  rcases hdel : deliverRev stop rs with ⟨d, st⟩
  rw [hdel] at hd1 hstop
  simp only at hd1 hstop
  rw [hd1, hfilter]
  cases st with
  | true => rw [if_pos (hstop.mp rfl)]; rfl
  | false => rw [if_neg fun hc => Bool.false_ne_true (hstop.mpr hc)]; rfl

/-! ### Witnesses: the timestamp lookup with the exclusive segment search, and a start above the HW -/

/-- `earliestAfterTs` with `Gen.Subscribe.tsEarliestInclusive = false`: the segment search for the
first base timestamp `> ts`, as liftbridge had it before the fix. -/
def earliestAfterTsExclusive (l : CLog) (ts : Int) : Res Int :=
  let (idx, err) := findSegIdxByTs l.segs ts false
  if err then .ok (lastNextOffset l.segs) else
  let seg := if idx = 0 then l.segs[0]? else l.segs[idx - 1]?
  match seg with
  | none => .panic
  | some seg =>
    match findEntryByTs seg ts with
    | some r => .ok r.offset
    | none =>
      if Gen.Subscribe.tsNextSegCmp.evalInt idx (l.segs.length - Gen.Subscribe.tsNextSegOff) then
        match l.segs[idx]? with
        | none => .panic
        | some s2 => match findEntryByTs s2 ts with
          | some r => .ok r.offset
          | none =>
            if Gen.Subscribe.tsNextSegOff = 0 then .ok (lastNextOffset l.segs) else .err "timestamp"
      else .ok (lastNextOffset l.segs)

namespace Witness

def rec (o t : Int) : Rec := { offset := o, ts := t, epoch := 0, body := ⟨none, none, []⟩ }

/-- Two segments whose first records carry the same timestamp 5. -/
def tieLog : CLog :=
  { segs := [⟨0, [rec 0 5]⟩, ⟨1, [rec 1 5]⟩], maxSegBytes := 100, hw := 1, epochs := [],
    readonly := false, occ := false }

theorem tieLog_inv : InvC tieLog := by
  refine ⟨by decide, by decide, by decide, by decide, by decide⟩

theorem tieLog_ts : TsOrd tieLog.abs := by decide

theorem tieLog_eval : earliestAfterTsExclusive tieLog 5 = .ok 1 := by decide +kernel

/-- Three messages, only the first committed. -/
def lowLog (hw : Int) : CLog :=
  { segs := [⟨0, [rec 0 0, rec 1 1, rec 2 2]⟩], maxSegBytes := 100, hw := hw, epochs := [],
    readonly := false, occ := false }

theorem lowLog_inv (hw : Int) : InvC (lowLog hw) := by
  have h0 : InvC (lowLog 0) := ⟨by decide, by decide, by decide, by decide, by decide⟩
  exact ⟨h0.nonempty, h0.sorted, h0.base_le, h0.chain, h0.inner_nonempty⟩

def lowReq : Req := { start := .latest, stop := .onCancel, reverse := false }

def lowSub : Sub := { nextOff := 1, stop := waitForNew, reverse := false, ended := false }

theorem lowLog_create : create (lowLog 0) lowReq = .live [] .waiting lowSub := by
  rw [create_fwd_eq (lowLog 0) lowReq 2 waitForNew rfl (by decide) (by decide) (Or.inl rfl),
    show drain (lowLog 0) (fwdSub (lowLog 0) 2 waitForNew) = ([], .waiting, lowSub) by decide +kernel]

end Witness

end Liftbridge.Proofs.Subscribe
