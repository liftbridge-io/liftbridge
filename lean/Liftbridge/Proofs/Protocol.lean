/-
Single-step lemmas about the replication-protocol model (Model/Protocol.lean): what one iteration
of the commit loop and of the message-processing loop does to the leader and puts on the ack stream
(C04), the transition function read as a relation (`Steps`: every proof about a step starts from
it), small facts about the glue's maps, and the executable checkers over runs (`Reachable`, `grun`,
`igrun`, `unsafeCount`, `ackViolationsAfter`, with `witness_reaches`) through which Props/C02 and C04
evaluate their witnesses.
-/
import Liftbridge.Model.Protocol
import Liftbridge.Proofs.Log
import Liftbridge.Proofs.Occ

namespace Liftbridge.Proofs.Protocol
open Liftbridge Liftbridge.Log Liftbridge.Log.CLog Liftbridge.Protocol Liftbridge.Proofs.Log

theorem foldl_min_le (xs : List Int) (m : Int) :
    xs.foldl (fun m y => if y < m then y else m) m ≤ m ∧
    ∀ x ∈ xs, xs.foldl (fun m y => if y < m then y else m) m ≤ x := by
  induction xs generalizing m with
  | nil => simp
  | cons y ys ih =>
    obtain ⟨h1, h2⟩ := ih (if y < m then y else m)
    simp only [List.foldl_cons, List.forall_mem_cons]
    exact ⟨by omega, by omega, h2⟩

theorem goMin_le {xs : List Int} {x : Int} (hx : x ∈ xs) : goMin xs ≤ x := by
  cases xs with
  | nil => simp at hx
  | cons y ys =>
    obtain ⟨h1, h2⟩ := foldl_min_le ys y
    rcases List.mem_cons.mp hx with rfl | hx
    · exact h1
    · exact h2 x hx

theorem lookup_cons (k' : Sid) (v' : Int) (ps : List (Sid × Int)) (r : Sid) :
    lookup ((k', v') :: ps) r = if k' = r then some v' else lookup ps r := by
  unfold lookup
  by_cases h : k' = r <;> simp [h]

theorem lookup_mem {m : List (Sid × Int)} {k : Sid} {v : Int} (h : lookup m k = some v) : (k, v) ∈ m := by
  induction m with
  | nil => cases h
  | cons p ps ih =>
    rw [lookup_cons] at h
    split at h
    · rename_i hk; cases h; cases hk; exact List.mem_cons_self
    · exact List.mem_cons_of_mem _ (ih h)

theorem removeFirst_eq_erase {α} [DecidableEq α] (l : List α) (a : α) : removeFirst l a = l.erase a := by
  induction l with
  | nil => rfl
  | cons y ys ih => by_cases h : y = a <;> simp [removeFirst, h, ih]

theorem mem_removeFirst {α} [DecidableEq α] {l : List α} {a x : α} (h : x ∈ removeFirst l a) : x ∈ l :=
  List.mem_of_mem_erase (removeFirst_eq_erase l a ▸ h)

theorem exists_of_mem_zip_map {α β γ δ} {f : α → β} {g : α → γ} {h : δ → γ} {rs : List α} {ms : List δ}
    {os : List β} {m : δ} {o : β} (hf : rs.map f = os) (hg : rs.map g = ms.map h) (hz : (m, o) ∈ ms.zip os) :
    ∃ r ∈ rs, f r = o ∧ g r = h m := by
  induction rs generalizing ms os with
  | nil => subst hf; simp at hz
  | cons r rs ih =>
    subst hf
    cases ms with
    | nil => simp at hz
    | cons m' ms =>
      simp only [List.map_cons, List.cons.injEq] at hg
      rcases List.mem_cons.mp hz with h | h
      · cases h; exact ⟨r, List.mem_cons_self, rfl, hg.1⟩
      · obtain ⟨r', hr', h'⟩ := ih rfl hg.2 h
        exact ⟨r', List.mem_cons_of_mem _ hr', h'⟩

theorem published_sub {as : List Ack} {a : Ack} (h : a ∈ published as) : a ∈ as :=
  (List.mem_filter.mp h).1

/-- One iteration of the commit loop consumes a signal and, unless the ISR is below its minimum
size, moves the HW to the minimum of the recorded offsets and dequeues. -/
theorem commitStep_srv (c : Cfg) (sv : Srv) :
    (commitStep c sv).1 = { sv with commitCheck := sv.commitCheck - 1 } ∨
    ∃ q, (commitStep c sv).1 =
      { sv with commitCheck := sv.commitCheck - 1, queue := q, log := sv.log.setHW (goMin (sv.isrOff.map (·.2))) } := by
  unfold commitStep
  dsimp only
  split
  · exact Or.inl rfl
  · exact Or.inr ⟨_, rfl⟩

/-- What one iteration of the commit loop takes off the queue `q` and acknowledges, `isr` being the
recorded offsets: ALL-policy entries whose offset is at most the minimum of the recorded offsets, hence
at most the offset recorded for EVERY member. -/
theorem mem_committed {q : List Ack} {isr : List (Sid × Int)} {a : Ack}
    (h : a ∈ published ((q.takeWhile fun a => Gen.Protocol.commitTakeCmp.evalInt a.offset (goMin (isr.map (·.2)))).filter
      fun a => a.policy = .all)) :
    a.policy = .all ∧ a ∈ q ∧ a.offset ≤ goMin (isr.map (·.2)) ∧ ∀ r v, lookup isr r = some v → a.offset ≤ v := by
  have h2 := List.mem_filter.mp (published_sub h)
  have h3 : a.offset ≤ goMin (isr.map (·.2)) := by
    simpa [Gen.Protocol.commitTakeCmp, Cmp.evalInt] using List.all_eq_true.mp List.all_takeWhile a h2.1
  exact ⟨by simpa using h2.2, (List.takeWhile_sublist _).subset h2.1, h3, fun r v hr =>
    Int.le_trans h3 (goMin_le (List.mem_map.mpr ⟨(r, v), lookup_mem hr, rfl⟩))⟩

theorem commitStep_acks (c : Cfg) (sv : Srv) {a : Ack} (ha : a ∈ (commitStep c sv).2) :
    a.policy = .all ∧ a ∈ sv.queue ∧ a.offset ≤ goMin (sv.isrOff.map (·.2)) ∧ c.minISR ≤ sv.isrOff.length ∧
      ∀ r v, lookup sv.isrOff r = some v → a.offset ≤ v := by
  unfold commitStep at ha
  dsimp only at ha
  split at ha
  · simp at ha
  · rename_i hmin
    obtain ⟨h1, h2, h3, h4⟩ := mem_committed ha
    exact ⟨h1, h2, h3,
      by simpa [commitGate, Gen.Pipeline.commitGateCurrentIsr, Gen.Protocol.commitMinISRCmp, Cmp.evalNat] using hmin, h4⟩

theorem commitStep_hw (c : Cfg) (sv : Srv) :
    (commitStep c sv).1.log.hw = sv.log.hw ∨ (commitStep c sv).1.log.hw = goMin (sv.isrOff.map (·.2)) := by
  rcases commitStep_srv c sv with h | ⟨q, h⟩ <;> rw [h]
  · exact Or.inl rfl
  · simp only [setHW]
    split
    · exact Or.inr rfl
    · exact Or.inl rfl

/-- What `screen` lets through: exactly the messages that are neither too large nor fail to seal;
every other message gets a negative ack. -/
theorem screen_ok (me : Sid) (epoch : Nat) (b : List PubMsg) :
    (screen me epoch b).1 = b.filter (fun m => !m.sealFails && !m.tooLarge) := by
  induction b with
  | nil => rfl
  | cons m ms ih =>
    simp only [screen, List.filter_cons]
    cases hs : m.sealFails <;> cases ht : m.tooLarge <;> simp [ih]

theorem screen_sub {me : Sid} {epoch : Nat} {b : List PubMsg} {m : PubMsg} (h : m ∈ (screen me epoch b).1) : m ∈ b := by
  rw [screen_ok] at h
  exact (List.mem_filter.mp h).1

theorem screen_nacks (me : Sid) (epoch : Nat) (b : List PubMsg) {a : Ack} (ha : a ∈ (screen me epoch b).2) :
    a.err ≠ .ok ∧ ∃ m ∈ b, (m.sealFails ∨ m.tooLarge) ∧ a.mid = m.mid ∧ a.cid = m.cid := by
  induction b with
  | nil => simp [screen] at ha
  | cons m ms ih =>
    have tl : a ∈ (screen me epoch ms).2 →
        a.err ≠ .ok ∧ ∃ m' ∈ m :: ms, (m'.sealFails ∨ m'.tooLarge) ∧ a.mid = m'.mid ∧ a.cid = m'.cid := fun h =>
      let ⟨h1, m', hm', h2⟩ := ih h
      ⟨h1, m', List.mem_cons_of_mem _ hm', h2⟩
    simp only [screen] at ha
    split at ha
    · rename_i hs
      rcases List.mem_cons.mp ha with rfl | ha
      · exact ⟨by simp, m, List.mem_cons_self, Or.inl hs, rfl, rfl⟩
      · exact tl ha
    · split at ha
      · rename_i ht
        rcases List.mem_cons.mp ha with rfl | ha
        · exact ⟨by simp, m, List.mem_cons_self, Or.inr ht, rfl, rfl⟩
        · exact tl ha
      · exact tl ha

/-- `processPendingMessage` for one stored message: its ack is sent at once iff the policy is
LEADER, and queued unless replication factor 1 makes the commit queue unnecessary. -/
theorem pending_cons (c : Cfg) (me : Sid) (epoch : Nat) (m : PubMsg) (ms : List PubMsg) (o : Int) (os : List Int) :
    pending c me epoch (m :: ms) (o :: os) =
      let a : Ack := { cid := m.cid, policy := m.policy, offset := o, err := .ok, mid := m.mid, by_ := me,
                       epoch := epoch, inbox := m.ackInbox }
      ((if m.policy = .leader then [a] else []) ++ (pending c me epoch ms os).1,
       (if Gen.Protocol.pendingRFCmp.evalNat c.n 1 && m.policy ≠ .all then [] else [a]) ++
         (pending c me epoch ms os).2) := by
  simp only [pending]
  split <;> split <;> rfl

/-- Every ack `processPendingMessage` builds — sent at once or queued — is positive and carries
the correlation id, policy and message of one stored message together with the offset that
message was assigned; the ones sent at once are exactly LEADER-policy ones. -/
theorem pending_spec (c : Cfg) (me : Sid) (epoch : Nat) (ms : List PubMsg) (os : List Int) :
    (∀ a ∈ (pending c me epoch ms os).1, a.policy = .leader) ∧
    (∀ a ∈ (pending c me epoch ms os).1 ++ (pending c me epoch ms os).2,
      a.err = .ok ∧ ∃ m o, (m, o) ∈ ms.zip os ∧ a.cid = m.cid ∧ a.mid = m.mid ∧ a.policy = m.policy ∧ a.offset = o ∧
        a.by_ = me ∧ a.epoch = epoch) := by
  induction ms generalizing os with
  | nil => simp [pending]
  | cons m ms ih =>
    cases os with
    | nil => simp [pending]
    | cons o os =>
      obtain ⟨ih1, ih2⟩ := ih os
      simp only [pending_cons, List.mem_append, List.mem_ite_nil_right, List.mem_ite_nil_left, List.mem_singleton]
      refine ⟨?_, fun a ha => ?_⟩
      · rintro a (⟨hp, rfl⟩ | h)
        · exact hp
        · exact ih1 a h
      · have key : a = { cid := m.cid, policy := m.policy, offset := o, err := .ok, mid := m.mid, by_ := me,
                         epoch := epoch, inbox := m.ackInbox } ∨
            a ∈ (pending c me epoch ms os).1 ++ (pending c me epoch ms os).2 := by
          rcases ha with (⟨_, h⟩ | h) | (⟨_, h⟩ | h)
          · exact Or.inl h
          · exact Or.inr (List.mem_append_left _ h)
          · exact Or.inl h
          · exact Or.inr (List.mem_append_right _ h)
        rcases key with rfl | h
        · exact ⟨rfl, m, o, List.mem_cons_self, rfl, rfl, rfl, rfl, rfl, rfl⟩
        · obtain ⟨h1, m', o', hz, h2⟩ := ih2 a h
          exact ⟨h1, m', o', List.mem_cons_of_mem _ hz, h2⟩

/-- The three outcomes of one iteration of the message-processing loop: nothing passes the
screen; `Append` refuses; `Append` stores the batch. -/
theorem publishStep_cases {c : Cfg} {me : Sid} {sv sv' : Srv} {batch : List PubMsg} {acks : List Ack}
    (h : publishStep c me sv batch = some (sv', acks)) :
    ((screen me sv.leaderEpoch batch).1 = [] ∧ sv' = sv ∧ acks = published (screen me sv.leaderEpoch batch).2) ∨
    (∃ e, sv.log.append ((screen me sv.leaderEpoch batch).1.map (toMsg sv.leaderEpoch)) = .err e ∧
      sv' = { sv with log := sv.log.checkSplitIfWritable } ∧
      ∀ a ∈ acks, a ∈ (screen me sv.leaderEpoch batch).2 ∨
        (a.err = .incorrectOffset ∧ ∃ m, (screen me sv.leaderEpoch batch).1.head? = some m ∧ a.mid = m.mid ∧ a.cid = m.cid)) ∨
    (∃ log offs log' cc, sv.log.append ((screen me sv.leaderEpoch batch).1.map (toMsg sv.leaderEpoch)) = .ok (log, offs) ∧
      (log' = log ∨ log' = log.setHW (offs.getLast?.getD (-1))) ∧
      sv' = { sv with log := log', commitCheck := cc,
                      queue := sv.queue ++ (pending c me sv.leaderEpoch (screen me sv.leaderEpoch batch).1 offs).2,
                      isrOff := (updateOffset sv.isrOff me (offs.getLast?.getD (-1))).1 } ∧
      acks = published ((screen me sv.leaderEpoch batch).2 ++ (pending c me sv.leaderEpoch (screen me sv.leaderEpoch batch).1 offs).1)) := by
  unfold publishStep at h
  dsimp only at h
  generalize screen me sv.leaderEpoch batch = sc at h ⊢
  obtain ⟨okMsgs, nacks⟩ := sc
  dsimp only at h ⊢
  split at h
  · rename_i hemp
    cases h
    exact Or.inl ⟨by simpa using hemp, rfl, rfl⟩
  · split at h
    · cases h
    · rename_i e he
      refine Or.inr (Or.inl ⟨e, he, ?_⟩)
      split at h
      · split at h <;> cases h
        · refine ⟨rfl, fun a ha => ?_⟩
          rcases List.mem_append.mp (published_sub ha) with h1 | h1
          · exact Or.inl h1
          · cases List.mem_singleton.mp h1
            exact Or.inr ⟨rfl, _, rfl, rfl, rfl⟩
        · exact ⟨rfl, fun a ha => Or.inl (published_sub ha)⟩
      · cases h
        exact ⟨rfl, fun a ha => Or.inl (published_sub ha)⟩
    · rename_i log offs he
      cases h
      refine Or.inr (Or.inr ⟨log, offs, _, _, he, ?_, rfl, rfl⟩)
      split
      · exact Or.inr rfl
      · exact Or.inl rfl

/-- A positive ack of the publish step is one that `processPendingMessage` sent at once, after
`Append` stored the batch. -/
theorem publishStep_ack_ok {c : Cfg} {me : Sid} {sv sv' : Srv} {batch : List PubMsg} {acks : List Ack}
    (h : publishStep c me sv batch = some (sv', acks)) {a : Ack} (ha : a ∈ acks) (hok : a.err = .ok) :
    ∃ log offs, sv.log.append ((screen me sv.leaderEpoch batch).1.map (toMsg sv.leaderEpoch)) = .ok (log, offs) ∧
      sv'.log.abs = log.abs ∧ a ∈ (pending c me sv.leaderEpoch (screen me sv.leaderEpoch batch).1 offs).1 := by
  rcases publishStep_cases h with ⟨_, _, rfl⟩ | ⟨e, _, _, hacks⟩ | ⟨log, offs, _, _, he, hlog, rfl, rfl⟩
  · exact absurd hok (screen_nacks me sv.leaderEpoch batch (published_sub ha)).1
  · rcases hacks a ha with h1 | ⟨h1, _⟩
    · exact absurd hok (screen_nacks me sv.leaderEpoch batch h1).1
    · rw [hok] at h1; cases h1
  · rcases List.mem_append.mp (published_sub ha) with h1 | h1
    · exact absurd hok (screen_nacks me sv.leaderEpoch batch h1).1
    · exact ⟨log, offs, he, by rcases hlog with rfl | rfl <;> simp only [abs_setHW], h1⟩

/-- What an enabled step does: one constructor per way a step can be taken, with the server it reads,
the successor state, and those of its guards that a proof rests on. -/
inductive Steps (c : Cfg) (st : State) : Step → State → Prop
  | publish {l b} (sv sv' as) (hsv : st.get l = some sv) (hp : publishStep c l sv b = some (sv', as)) :
      Steps c st (.publish l b) { (st.set l sv') with acks := st.acks ++ as }
  | fetch {f} (sv) (hsv : st.get f = some sv) (hr : sv.role = .follower) :
      Steps c st (.fetch f) { (st.set f { sv with rid := sv.rid + 1, waiting := some (sv.rid + 1) }) with
        net := st.net ++ [.replReq f sv.log.newest sv.leaderEpoch (sv.rid + 1)] }
  | serve {l} (sv src off ep rid) (hsv : st.get l = some sv) (hm : .replReq src off ep rid ∈ st.net) :
      Steps c st (.serve l (.replReq src off ep rid)) { (st.set l (serveStep c sv src off ep rid).1) with
        net := removeFirst st.net (.replReq src off ep rid) ++ (serveStep c sv src off ep rid).2 }
  | applyResp {f} (sv rid ep hw recs) (hsv : st.get f = some sv) (hm : .replResp f rid ep hw recs ∈ st.net) :
      Steps c st (.applyResp f (.replResp f rid ep hw recs))
        { (st.set f { applyRespStep sv ep hw recs with waiting := none }) with
          net := removeFirst st.net (.replResp f rid ep hw recs) }
  | drop {m} : Steps c st (.drop m) { st with net := removeFirst st.net m }
  | commit {l} (sv) (hsv : st.get l = some sv) :
      Steps c st (.commit l) { (st.set l (commitStep c sv).1) with acks := st.acks ++ (commitStep c sv).2 }
  | shrinkDecision {l r} : Steps c st (.shrinkDecision l r) { st with proposed := st.proposed ++ [.shrink r] }
  | expandDecision {l r} (sv) (hsv : st.get l = some sv) (hl : isLeaderUp sv = true) (ht : tickExpands sv r = true)
      (hnow : c.fixes.expandNow = true → sv.log.hw ≤ (lookup sv.caughtUp r).getD (-1)) :
      Steps c st (.expandDecision l r) { st with proposed := st.proposed ++ [.expand r] }
  | clearCaughtUp {l r} (sv) (hsv : st.get l = some sv) :
      Steps c st (.clearCaughtUp l r) (st.set l { sv with caughtUp := mErase sv.caughtUp r })
  | clearSeen {l r} (sv) (hsv : st.get l = some sv) :
      Steps c st (.clearSeen l r) (st.set l { sv with seen := sv.seen.filter (· ≠ r) })
  | electDecision {cand} (hne : cand ≠ (metaView c.n st.committed).leader)
      (hin : cand ∈ (metaView c.n st.committed).isr) :
      Steps c st (.electDecision cand) { st with proposed := st.proposed ++ [.changeLeader cand] }
  | raftCreate {l} : Steps c st (.raftCommit (.create l)) { st with committed := [.create l] }
  | raftCommit {op} :
      Steps c st (.raftCommit op) { st with proposed := removeFirst st.proposed op, committed := st.committed ++ [op] }
  | applyNext {s} (sv op) (hsv : st.get s = some sv) :
      Steps c st (.applyNext s) { (st.set s (applyOp c s sv (sv.applied + 1) op false).1) with
        net := st.net ++ (applyOp c s sv (sv.applied + 1) op false).2 }
  | offServe {l} (src ep rid lepoch fepochs fend answer) :
      Steps c st (.offServe l (.offReq src ep rid lepoch fepochs fend))
        { st with net := removeFirst st.net (.offReq src ep rid lepoch fepochs fend) ++ [.offResp src rid answer] }
  | reconcile {f} (sv rid answer) (hsv : st.get f = some sv) (hr : sv.role = .reconciling) :
      Steps c st (.reconcile f (.offResp f rid answer))
        { (st.set f { sv with log := reconcileTruncate c sv.log answer, role := .follower, waiting := none }) with
          net := removeFirst st.net (.offResp f rid answer) }
  | reconcileFail {f} (sv) (hsv : st.get f = some sv) (hr : sv.role = .reconciling) :
      Steps c st (.reconcileFail f) (st.set f { sv with log := truncateToHW sv.log, role := .follower, waiting := none })
  | crash {s} (sv) (hsv : st.get s = some sv) :
      Steps c st (.crash s) { (st.set s { up := false, log := sv.log, applied := sv.applied, rid := sv.rid }) with
        net := st.net.filter (fun m => !isNetTo s m) }
  | restart {s upTo} (sv sv1) (hsv : st.get s = some sv)
      (h1 : replay c s st.committed upTo 1 { up := true, log := sv.log.reopen, rid := sv.rid } = sv1)
      (hp : sv1.hasPart = true) :
      Steps c st (.restart s upTo) { (st.set s { (startRole c s sv1).1 with applied := upTo }) with
        net := st.net ++ (startRole c s sv1).2 }
  | restartIdle {s upTo} (sv sv1) (hsv : st.get s = some sv)
      (h1 : replay c s st.committed upTo 1 { up := true, log := sv.log.reopen, rid := sv.rid } = sv1) :
      Steps c st (.restart s upTo) (st.set s { sv1 with applied := upTo })

/-- The shape most steps share: read a server, refuse on a guard, go on. -/
theorem get_guard {st st' : State} {l : Sid} {g : Srv → Bool} {k : Srv → Option State}
    (h : ((st.get l).bind fun sv => if g sv then none else k sv) = some st') :
    ∃ sv, st.get l = some sv ∧ g sv = false ∧ k sv = some st' := by
  obtain ⟨sv, hsv, h⟩ := Option.bind_eq_some_iff.mp h
  obtain ⟨hg, h⟩ := Option.ite_none_left_eq_some.mp h
  exact ⟨sv, hsv, by simpa using hg, h⟩

/-- Every enabled step is one of the `Steps` constructors: proofs about `step` case on this instead of
unfolding the transition function. -/
theorem Steps.of_step {c : Cfg} {st st' : State} {s : Step} (h : step c st s = some st') : Steps c st s st' := by
  cases s with
  | publish l b =>
    obtain ⟨sv, hsv, -, h⟩ := get_guard h
    obtain ⟨⟨sv', as⟩, hp, ⟨⟩⟩ := Option.bind_eq_some_iff.mp h
    exact .publish sv sv' as hsv hp
  | fetch f =>
    obtain ⟨sv, hsv, hg, ⟨⟩⟩ := get_guard h
    have hg : sv.up = true ∧ sv.role = .follower := by simpa using hg
    exact .fetch sv hsv hg.2
  | serve l m =>
    obtain ⟨sv, hsv, hg, h⟩ := get_guard h
    have hg : isLeaderUp sv = true ∧ m ∈ st.net := by simpa using hg
    cases m with
    | replReq src off ep rid => cases h; exact .serve sv src off ep rid hsv hg.2
    | _ => cases h
  | applyResp f m =>
    obtain ⟨sv, hsv, hg, h⟩ := get_guard h
    have hg : sv.up = true ∧ m ∈ st.net := by simpa using hg
    cases m with
    | replResp dst rid ep hw recs =>
      obtain ⟨hd, ⟨⟩⟩ := Option.ite_none_left_eq_some.mp h
      have hd : dst = f ∧ sv.waiting = some rid := by simpa using hd
      cases hd.1
      exact .applyResp sv rid ep hw recs hsv hg.2
    | _ => cases h
  | drop m =>
    obtain ⟨-, ⟨⟩⟩ := Option.ite_some_none_eq_some.mp h
    exact .drop
  | commit l =>
    obtain ⟨sv, hsv, -, ⟨⟩⟩ := get_guard h
    exact .commit sv hsv
  | shrinkDecision l r =>
    obtain ⟨sv, -, -, h⟩ := get_guard h
    obtain ⟨-, h⟩ := Option.ite_none_left_eq_some.mp h
    obtain ⟨-, ⟨⟩⟩ := Option.ite_none_left_eq_some.mp h
    exact .shrinkDecision
  | expandDecision l r =>
    obtain ⟨sv, hsv, -, h⟩ := get_guard h
    obtain ⟨hg, h⟩ := Option.ite_none_left_eq_some.mp h
    obtain ⟨hnow, h⟩ := Option.ite_none_left_eq_some.mp h
    obtain ⟨-, ⟨⟩⟩ := Option.ite_none_left_eq_some.mp h
    have hg : ((isLeaderUp sv = true ∧ ¬ r = l) ∧ r < c.n) ∧ tickExpands sv r = true := by simpa using hg
    exact .expandDecision sv hsv hg.1.1.1 hg.2 (by simpa using hnow)
  | clearCaughtUp l r =>
    obtain ⟨sv, hsv, -, ⟨⟩⟩ := get_guard h
    exact .clearCaughtUp sv hsv
  | clearSeen l r =>
    obtain ⟨sv, hsv, -, ⟨⟩⟩ := get_guard h
    exact .clearSeen sv hsv
  | electDecision cand =>
    obtain ⟨-, h⟩ := Option.ite_none_left_eq_some.mp h
    obtain ⟨-, h⟩ := Option.ite_none_left_eq_some.mp h
    obtain ⟨hg, ⟨⟩⟩ := Option.ite_none_left_eq_some.mp h
    have hg : ¬ cand = (metaView c.n st.committed).leader ∧ cand ∈ (metaView c.n st.committed).isr := by
      simpa using hg
    exact .electDecision hg.1 hg.2
  | raftCommit op =>
    cases op with
    | create l =>
      obtain ⟨-, ⟨⟩⟩ := Option.ite_some_none_eq_some.mp h
      exact .raftCreate
    | _ =>
      obtain ⟨-, ⟨⟩⟩ := Option.ite_some_none_eq_some.mp h
      exact .raftCommit
  | applyNext s =>
    obtain ⟨sv, hsv, -, h⟩ := get_guard h
    obtain ⟨op, -, ⟨⟩⟩ := Option.bind_eq_some_iff.mp h
    exact .applyNext sv op hsv
  | offServe l m =>
    obtain ⟨sv, -, -, h⟩ := get_guard h
    cases m with
    | offReq src ep rid lepoch fepochs fend =>
      obtain ⟨-, ⟨⟩⟩ := Option.ite_none_left_eq_some.mp h
      exact .offServe src ep rid lepoch fepochs fend _
    | _ => cases h
  | reconcile f m =>
    obtain ⟨sv, hsv, hg, h⟩ := get_guard h
    have hg : (sv.up = true ∧ sv.role = .reconciling) ∧ m ∈ st.net := by simpa using hg
    cases m with
    | offResp dst rid answer =>
      obtain ⟨hd, ⟨⟩⟩ := Option.ite_none_left_eq_some.mp h
      have hd : dst = f ∧ sv.waiting = some rid := by simpa using hd
      cases hd.1
      exact .reconcile sv rid answer hsv hg.1.2
    | _ => cases h
  | reconcileFail f =>
    obtain ⟨sv, hsv, hg, ⟨⟩⟩ := get_guard h
    have hg : ((sv.up = true ∧ sv.role = .reconciling) ∧ c.fixes.noFallback = false) ∧ Gen.Protocol.hwFallback = true := by
      simpa using hg
    exact .reconcileFail sv hsv hg.1.1.2
  | crash s =>
    obtain ⟨sv, hsv, -, ⟨⟩⟩ := get_guard h
    exact .crash sv hsv
  | restart s upTo =>
    obtain ⟨sv, hsv, -, h⟩ := get_guard h
    dsimp only at h
    split at h
    · rename_i hp; cases h; exact .restart sv _ hsv rfl hp
    · cases h; exact .restartIdle sv _ hsv rfl

theorem set_acks (st : State) (s : Sid) (sv : Srv) : (st.set s sv).acks = st.acks := rfl

def Reachable (c : Cfg) (st : State) : Prop := ∃ steps, run c (init c) steps = some st

theorem run_invariant {c : Cfg} {P : State → Prop} {Q : Step → Prop}
    (hstep : ∀ st st' s, P st → Q s → step c st s = some st' → P st') :
    ∀ (steps : List Step) (st st' : State), P st → (∀ s ∈ steps, Q s) → run c st steps = some st' → P st'
  | [], _, _, h, _, hr => Option.some.inj hr ▸ h
  | s :: ss, st, st', h, hq, hr =>
    let ⟨st1, h1, h2⟩ := Option.bind_eq_some_iff.mp hr
    run_invariant hstep ss st1 st' (hstep st st1 s h (hq s List.mem_cons_self) h1)
      (fun x hx => hq x (List.mem_cons_of_mem _ hx)) h2

theorem irun_run (c : Cfg) : ∀ (is : List IStep) (st st' : State), irun c st is = some st' →
    ∃ steps, run c st steps = some st'
  | [], _, _, h => ⟨[], h⟩
  | _ :: is, _, st', h =>
    let ⟨st1, h1, h2⟩ := Option.bind_eq_some_iff.mp h
    let ⟨s, _, hs⟩ := Option.bind_eq_some_iff.mp h1
    let ⟨steps, hsteps⟩ := irun_run c is st1 st' h2
    ⟨s :: steps, by simp [run, hs, hsteps]⟩

/-- Run with the ghost history of committed records (`observe` after every step). -/
def grun (c : Cfg) : State → Ghost → List Step → Option (State × Ghost)
  | st, g, [] => some (st, g)
  | st, g, s :: ss => (step c st s).bind fun st' => grun c st' (observe c st' g) ss

def igrun (c : Cfg) : State → Ghost → List IStep → Option (State × Ghost)
  | st, g, [] => some (st, g)
  | st, g, s :: ss => (istep c st s).bind fun st' => igrun c st' (observe c st' g) ss

theorem igrun_grun (c : Cfg) : ∀ (is : List IStep) (st : State) (g : Ghost) (r : State × Ghost),
    igrun c st g is = some r → ∃ steps, grun c st g steps = some r
  | [], _, _, _, h => ⟨[], h⟩
  | _ :: is, _, _, r, h =>
    let ⟨st1, h1, h2⟩ := Option.bind_eq_some_iff.mp h
    let ⟨s, _, hs⟩ := Option.bind_eq_some_iff.mp h1
    let ⟨steps, hsteps⟩ := igrun_grun c is st1 _ r h2
    ⟨s :: steps, by simp [grun, hs, hsteps]⟩

/-- (number of committed records lost by a later leader, number of divergences below both HWs)
at the end of a path. -/
def unsafeCount (c : Cfg) (is : List IStep) : Option (Nat × Nat) :=
  (igrun c (init c) [] is).map fun p => ((lostCommitted p.1 p.2).length, (divergedBelowHW p.1).length)

/-- Ack violations of the step `i` taken after the path `is` (none: not a path). -/
def ackViolationsAfter (c : Cfg) (is : List IStep) (i : IStep) : Option (List String) :=
  (irun c (init c) is).bind fun pre => (istep c pre i).map fun post => ackViolations c pre post

/-- A computed witness is a reachable state and an enabled step of the model. -/
theorem witness_reaches {c : Cfg} {is : List IStep} {i : IStep} {v : List String}
    (h : ackViolationsAfter c is i = some v) :
    ∃ pre post s, Reachable c pre ∧ step c pre s = some post ∧ ackViolations c pre post = v := by
  simp only [ackViolationsAfter, Option.bind_eq_some_iff, Option.map_eq_some_iff] at h
  obtain ⟨pre, hpre, post, hpost, hv⟩ := h
  simp only [istep, Option.bind_eq_some_iff] at hpost
  obtain ⟨s, _, hs⟩ := hpost
  exact ⟨pre, post, s, irun_run c is _ _ hpre, hs, hv⟩

end Liftbridge.Proofs.Protocol
