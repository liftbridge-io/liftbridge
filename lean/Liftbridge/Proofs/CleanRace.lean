/- Helper lemmas for cleans racing with appends. -/
import Liftbridge.Model.Compact
import Liftbridge.Proofs.Compact
namespace Liftbridge.Proofs.CleanRace
open Liftbridge Liftbridge.Log Liftbridge.Log.CLog Liftbridge.Compact Liftbridge.Proofs.Compact

theorem take_ne_nil {α} {xs : List α} {n : Nat} (hn : 0 < n) (hle : n ≤ xs.length) : xs.take n ≠ [] := by
  rw [Ne, List.take_eq_nil_iff, ← List.length_eq_zero_iff]
  omega

theorem race_abs (lim : Retention.Limits) (ttl : Int) (c : Bool) (n : Nat) (l1 : CLog)
    (hold : l1.segs.take n ≠ []) :
    (cleanLogDuring lim ttl c n l1).abs =
      (cleanedSegs lim ttl c l1.hw (l1.segs.take n)).flatMap Seg.recs ++
        (l1.segs.drop n).flatMap Seg.recs := by
  unfold abs
  rw [cleanLogDuring_segs lim ttl c n l1 hold, List.flatMap_append]

theorem abs_take_drop (n : Nat) (l1 : CLog) :
    l1.abs = (l1.segs.take n).flatMap Seg.recs ++ (l1.segs.drop n).flatMap Seg.recs := by
  unfold abs
  rw [← List.flatMap_append, List.take_append_drop]

theorem mem_dropLast_append_left {α} {xs ys : List α} {a : α} (ha : a ∈ xs) (hy : ys ≠ []) :
    a ∈ (xs ++ ys).dropLast := by
  rw [List.dropLast_append_of_ne_nil hy]
  exact List.mem_append_left _ ha

end Liftbridge.Proofs.CleanRace
