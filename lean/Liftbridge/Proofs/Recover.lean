/-
Helper lemmas for C05 (crash recovery): the structurally recursive binary search of the model
is Go's `sort.Search`; `InitializePosition` finds exactly the written slots of any well-formed
index file (pre-allocated, shrunk or expanded).
-/
import Liftbridge.Model.Recover
import Liftbridge.Proofs.Search

namespace Liftbridge.Proofs.Recover
open Liftbridge Liftbridge.Log Liftbridge.Recover Liftbridge.Proofs

/-- With enough fuel the structurally recursive search is the literal `sort.Search` mirror. -/
theorem searchFuel_eq (f : Nat → Bool) : ∀ (fuel i j : Nat), j - i ≤ fuel →
    searchFuel f fuel i j = goSearchAux f i j := by
  intro fuel
  induction fuel with
  | zero =>
    intro i j h
    rw [goSearchAux]
    have : ¬ i < j := by omega
    simp [searchFuel, this]
  | succ n ih =>
    intro i j h
    rw [goSearchAux]
    simp only [searchFuel]
    by_cases hij : i < j
    · simp only [hij, if_true, dif_pos]
      by_cases hm : f ((i + j) / 2) = true
      · simp only [hm, if_true]
        exact ih i ((i + j) / 2) (by omega)
      · simp only [hm]
        exact ih ((i + j) / 2 + 1) j (by omega)
    · simp [hij]

theorem goSearchS_eq (n : Nat) (f : Nat → Bool) : goSearchS n f = goSearch n f := by
  unfold goSearchS goSearch
  exact searchFuel_eq f n 0 n (by omega)

/-- A well-formed index file: the written slots fit into the file and none of them is the
all-zero pattern `InitializePosition` takes for "empty" (every entry written by the code has
`Size = 28 + |message| > 0`). -/
structure IdxWF (ix : IdxFile) : Prop where
  fits : ix.slots.length ≤ ix.size
  nonzero : ∀ e ∈ ix.slots, entryIsZero e = false

theorem zeroSlot_isZero (base : Int) : entryIsZero (zeroSlot base) = true := by
  simp [entryIsZero, zeroSlot]

/-- The binary search of `InitializePosition` returns the number of written slots — whatever
the file size (pre-allocated 10 MiB, shrunk to its contents, expanded). -/
theorem search_written (ix : IdxFile) (base : Int) (wf : IdxWF ix) :
    goSearchS ix.size (fun i => entryIsZero (ix.slotAt base i)) = ix.slots.length := by
  rw [goSearchS_eq]
  -- a slot reads as empty exactly from the end of the written slots on
  have hslot : ∀ i, entryIsZero (ix.slotAt base i) = decide (ix.slots.length ≤ i) := by
    intro i
    unfold IdxFile.slotAt
    by_cases hi : i < ix.slots.length
    · simpa [List.getElem?_eq_getElem hi, Nat.not_le.mpr hi] using wf.nonzero _ (List.getElem_mem hi)
    · simpa [List.getElem?_eq_none (Nat.le_of_not_lt hi), Nat.le_of_not_lt hi] using zeroSlot_isZero base
  simp only [hslot]
  exact goSearch_eq (fun i j hij _ hi => by simp at hi ⊢; omega) wf.fits
    (fun i hi => by simpa using hi) (fun _ => by simp)

/-- `InitializePosition` on a well-formed index: position = number of written slots, last entry =
the last written slot; `corrupt` exactly when that slot lies below the base offset. -/
theorem initPosition_spec (ix : IdxFile) (base : Int) (wf : IdxWF ix) :
    initPosition ix base =
      match ix.slots.getLast? with
      | none => .ok 0 none
      | some e => if Gen.Recover.corruptCmp.evalInt e.offset base then .corrupt ix.slots.length
                  else .ok ix.slots.length (some e) := by
  unfold initPosition
  simp only [search_written ix base wf]
  cases hs : ix.slots.getLast? with
  | none =>
    have : ix.slots = [] := by simpa using hs
    simp [this]
  | some e =>
    have hne : ix.slots ≠ [] := by intro h; simp [h] at hs
    have hlen : ix.slots.length ≠ 0 := by simpa using hne
    have hlast : ix.slotAt base (ix.slots.length - 1) = e := by
      have h1 : ix.slots.length - 1 < ix.slots.length := by omega
      have : ix.slots[ix.slots.length - 1]? = some e := by
        rw [← hs, List.getLast?_eq_getElem?]
      simp [IdxFile.slotAt, this]
    simp [hlen, hlast]

end Liftbridge.Proofs.Recover
