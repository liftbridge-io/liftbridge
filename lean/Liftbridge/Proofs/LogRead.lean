/- Reader lemmas of the commit-log model. A position (segment `i`, slot `k`) cuts the flat log into
`before segs i k ++ after segs i k`. A lookup for offset `o` lands on the position whose `before`
lies below `o` and whose `after` does not (`seek`; `hwPos_of_mem` for the high watermark). The
uncommitted walk returns `after` (`drainFrom_eq`), the committed walk what lies between its start
and the HW position (`drainCommitted_spec`). The reader specs put these together on the flat list.
These hold on any `WFC` list (cleaned logs included). The last section is the form the small-step
reader needs: on a log with `Inv` the look-ups fail only above the log, for any offset. -/
import Liftbridge.Proofs.Log
namespace Liftbridge.Proofs.Log
open Liftbridge Liftbridge.Log Liftbridge.Log.CLog

theorem getElem?_split {α} {xs pre post : List α} {x : α} (h : xs = pre ++ x :: post) :
    xs[pre.length]? = some x := by simp [h]

/-! ### Positions -/

/-- The records before slot `k` of segment `i`, in log order (named after its first user, the
invariant of the small-step reader in Proofs/HWReader.lean). -/
def _root_.Liftbridge.Proofs.HWReader.before (segs : List Seg) (i k : Nat) : List Rec :=
  (segs.take i).flatMap Seg.recs ++ (match segs[i]? with | some s => s.recs.take k | none => [])

open Liftbridge.Proofs.HWReader (before)

/-- The records from slot `k` of segment `i` on. -/
def after (segs : List Seg) (i k : Nat) : List Rec :=
  (match segs[i]? with | some s => s.recs.drop k | none => []) ++ (segs.drop (i + 1)).flatMap Seg.recs

theorem before_split {segs pre post : List Seg} {x : Seg} (h : segs = pre ++ x :: post) (k : Nat) :
    before segs pre.length k = pre.flatMap Seg.recs ++ x.recs.take k := by
  subst h; simp [before]

theorem after_split {segs pre post : List Seg} {x : Seg} (h : segs = pre ++ x :: post) (k : Nat) :
    after segs pre.length k = x.recs.drop k ++ post.flatMap Seg.recs := by
  subst h; simp [after]

theorem before_append_after {segs : List Seg} {i : Nat} (hi : i < segs.length) (k : Nat) :
    before segs i k ++ after segs i k = segs.flatMap Seg.recs := by
  obtain ⟨pre, x, post, rfl, rfl⟩ : ∃ pre x post, segs = pre ++ x :: post ∧ pre.length = i :=
    ⟨segs.take i, segs[i], segs.drop (i + 1), by simp, by simp; omega⟩
  rw [before_split rfl, after_split rfl]
  simp [← List.append_assoc (x.recs.take k)]

theorem after_zero {segs : List Seg} (i : Nat) : after segs i 0 = (segs.drop i).flatMap Seg.recs := by
  unfold after
  rcases Nat.lt_or_ge i segs.length with hi | hi
  · rw [List.drop_eq_getElem_cons hi, List.getElem?_eq_getElem hi]
    rfl
  · rw [List.getElem?_eq_none_iff.mpr hi, List.drop_eq_nil_of_le hi,
      List.drop_eq_nil_of_le (Nat.le_succ_of_le hi)]
    rfl

theorem filter_of_cut {α} {p : α → Bool} {L B A : List α} (h : B ++ A = L)
    (hB : ∀ a ∈ B, p a = false) (hA : ∀ a ∈ A, p a = true) : L.filter p = A := by
  rw [← h, List.filter_append, List.filter_eq_nil_iff.mpr (by simpa using hB),
    List.filter_eq_self.mpr hA, List.nil_append]

/-! ### Lookups -/

/-- `findSegmentByBaseOffset(segments, s.BaseOffset+1)` finds the segment after `s`, if there is one. -/
theorem WFC.hop {segs : List Seg} (wf : WFC segs) {i : Nat} {s : Seg} (hs : segs[i]? = some s) :
    findSegmentByBaseIdx segs (s.base + 1) = if i + 1 < segs.length then some (i + 1) else none := by
  obtain ⟨hi, rfl⟩ := List.getElem?_eq_some_iff.mp hs
  have hc := List.pairwise_iff_getElem.mp wf.chain
  -- no segment up to `i` starts at or above `base + 1` …
  have hle : ∀ j (hj : j < segs.length), j ≤ i → decide (segs[i].base + 1 ≤ segs[j].base) = false := by
    intro j hj hji
    rcases Nat.lt_or_eq_of_le hji with hlt | rfl
    · have := (hc j i hj hi hlt).2; simp; omega
    · simp; omega
  rw [findSegmentByBaseIdx_findIdx? wf]
  split
  · -- … and the next one does
    rename_i h
    refine List.findIdx?_eq_some_iff_getElem.mpr ⟨h, ?_, fun j hj => by simp [hle j (by omega) (by omega)]⟩
    have := (hc i (i + 1) hi h (by omega)).2; simp; omega
  · refine List.findIdx?_eq_none_iff.mpr fun a ha => ?_
    obtain ⟨j, hj, rfl⟩ := List.mem_iff_getElem.mp ha
    exact hle j hj (by omega)

/-- The start slot in the segment `x` found for offset `s`: the first record at or above `s` if the
segment starts at or below `s` (`findEntry`), else its first slot. -/
theorem start_slot {x : Seg} (okx : SegOK x) {s : Int} (hx : s < x.nextOffset) :
    ∃ k, (∀ a ∈ x.recs.take k, a.offset < s) ∧ (∀ a ∈ x.recs.drop k, s ≤ a.offset) ∧
      k ≤ x.recs.length ∧
      ((x.base ≤ s ∧ x.findEntryIdx s = some k) ∨ (¬ x.base ≤ s ∧ k = 0)) := by
  by_cases hb : x.base ≤ s
  · rcases findEntryIdx_cases okx s with ⟨-, hall⟩ | ⟨rp, r, rq, hrecs, hk, hr, hrp, hrq⟩
    · -- the last record of `x` lies at or above `s`
      rcases okx.next_cases with ⟨_, hn⟩ | ⟨init, z, hz, hn⟩
      · omega
      · have := hall z (by simp [hz]); omega
    · refine ⟨rp.length, ?_, ?_, by simp [hrecs], .inl ⟨hb, hk⟩⟩
      · rw [hrecs, List.take_left]; exact hrp
      · rw [hrecs, List.drop_left]
        intro a ha
        rcases List.mem_cons.mp ha with rfl | ha
        · exact hr
        · have := hrq a ha; omega
  · refine ⟨0, by simp, fun a ha => ?_, Nat.zero_le _, .inr ⟨hb, rfl⟩⟩
    have := okx.base_le a (by simpa using ha)
    omega

/-- The start position of both readers: the first segment ending above `o` and its start slot.
Everything before it lies below `o`, nothing from it on does. -/
theorem seek {segs : List Seg} (wf : WFC segs) {o : Int} (h : ∃ r ∈ segs.flatMap Seg.recs, o ≤ r.offset) :
    ∃ i x k, findSegmentIdx segs o = some i ∧ segs[i]? = some x ∧
      ((x.base ≤ o ∧ x.findEntryIdx o = some k) ∨ (¬ x.base ≤ o ∧ k = 0)) ∧
      (∀ a ∈ before segs i k, a.offset < o) ∧ ∀ a ∈ after segs i k, o ≤ a.offset := by
  rcases findSegmentIdx_cases wf o with ⟨-, hall⟩ | ⟨pre, x, post, hs, hi, hx, hpre⟩
  · obtain ⟨r, hr, hor⟩ := h
    have := wf.lt_of_next_le (fun _ ha => ha) hall r hr
    omega
  · obtain ⟨k, hk1, hk2, -, hk3⟩ := start_slot (wf.segOK (s := x) (by simp [hs])) hx
    refine ⟨pre.length, x, k, hi, getElem?_split hs, hk3, ?_, ?_⟩
    · rw [before_split hs]
      exact fun a ha => (List.mem_append.mp ha).elim
        (wf.lt_of_next_le (fun a ha => by simp [hs, ha]) hpre a) (hk1 a)
    · rw [after_split hs]
      refine fun a ha => (List.mem_append.mp ha).elim (hk2 a) fun ha => ?_
      have := wf.post_ge hs a ha
      omega

/-! ### Walks -/

theorem drainFrom_eq {segs : List Seg} (wf : WFC segs) :
    ∀ (fuel i k : Nat), i < segs.length → segs.length - i ≤ fuel → drainFrom segs i k fuel = after segs i k := by
  intro fuel
  induction fuel with
  | zero => intro i k hi hf; omega
  | succ f ih =>
    intro i k hi hf
    have hs : segs[i]? = some segs[i] := List.getElem?_eq_getElem hi
    simp only [drainFrom, hs, wf.hop hs, after]
    by_cases h : i + 1 < segs.length
    · simp only [h, if_true, ih (i + 1) 0 h (by omega), after_zero]
    · simp [h, List.drop_eq_nil_of_le (Nat.le_of_not_lt h)]

/-- The committed walk from position `(i, k)` stops at the HW position `(hi, hk)`: what it returns,
followed by everything from the HW position on, is everything from `(i, k)` on. -/
theorem drainCommitted_spec {segs : List Seg} (wf : WFC segs) {hi hk : Nat} (hhi : hi < segs.length) :
    ∀ (fuel i k : Nat), i < hi ∨ (i = hi ∧ k ≤ hk) → hi - i < fuel →
      ∃ R, drainCommitted segs hi hk i k fuel = .ok R ∧ R ++ after segs hi hk = after segs i k := by
  intro fuel
  induction fuel with
  | zero => intro i k _ hf; omega
  | succ f ih =>
    intro i k hord hf
    have hil : i < segs.length := by omega
    have hs : segs[i]? = some segs[i] := List.getElem?_eq_getElem hil
    simp only [drainCommitted, hs, wf.hop hs]
    rcases hord with hlt | ⟨rfl, hkk⟩
    · obtain ⟨R, hR, hRA⟩ := ih (i + 1) 0 (by omega) (by omega)
      refine ⟨segs[i].recs.drop k ++ R, by simp [Nat.ne_of_lt hlt, show i + 1 < segs.length by omega, hR], ?_⟩
      rw [List.append_assoc, hRA, after_zero]
      simp [after, hs]
    · refine ⟨(segs[i].recs.take hk).drop k, by simp, ?_⟩
      simp only [after, hs, ← List.append_assoc]
      congr 1
      rw [List.drop_take, show segs[i].recs.drop hk = (segs[i].recs.drop k).drop (hk - k) by
        rw [List.drop_drop]; congr 1; omega, List.take_append_drop]

/-- The position after the record at the high watermark. -/
theorem hwPos_of_mem {segs : List Seg} (wf : WFC segs) {r : Rec} (hr : r ∈ segs.flatMap Seg.recs) :
    ∃ i x k, findSegmentIdx segs r.offset = some i ∧ segs[i]? = some x ∧
      x.findEntryIdx r.offset = some k ∧ hwPos segs r.offset = .ok (i, k + 1) ∧
      (∀ a ∈ before segs i (k + 1), a.offset ≤ r.offset) ∧ ∀ a ∈ after segs i (k + 1), r.offset < a.offset := by
  obtain ⟨x, hxmem, hrmem⟩ := List.mem_flatMap.mp hr
  obtain ⟨pre, post, hs⟩ := List.append_of_mem hxmem
  obtain ⟨rp, rq, hrecs⟩ := List.append_of_mem hrmem
  have ok := wf.segOK hxmem
  have hsr := sorted_split (hrecs ▸ ok.sorted)
  have hf : findSegmentIdx segs r.offset = some pre.length := by
    rw [findSegmentIdx_findIdx? wf]
    exact findIdx?_split hs (by simpa using ok.lt_next r hrmem) fun a ha => by
      have := ((wf.split hs).1 a ha).1; have := ok.base_le r hrmem; simp; omega
  have he : x.findEntryIdx r.offset = some rp.length := by
    rw [findEntryIdx_findIdx? ok]
    exact findIdx?_split hrecs (by simp) fun a ha => by have := hsr.1 a ha; simp; omega
  refine ⟨pre.length, x, rp.length, hf, getElem?_split hs, he, ?_, ?_, ?_⟩
  · simp [hwPos, hf, getElem?_split hs, he, hrecs]
  · rw [before_split hs, hrecs, show rp ++ r :: rq = (rp ++ [r]) ++ rq by simp, List.take_left' (by simp)]
    intro a ha
    rcases List.mem_append.mp ha with ha | ha
    · have := wf.pre_lt hs a ha; have := ok.base_le r hrmem; omega
    · rcases List.mem_append.mp ha with ha | ha
      · have := hsr.1 a ha; omega
      · simp at ha; subst ha; omega
  · rw [after_split hs, hrecs, show rp ++ r :: rq = (rp ++ [r]) ++ rq by simp, List.drop_left' (by simp)]
    intro a ha
    rcases List.mem_append.mp ha with ha | ha
    · exact hsr.2 a ha
    · have := wf.post_ge hs a ha; have := ok.lt_next r hrmem; omega

/-! ### Readers -/

/-- The uncommitted reader on any well-formed segment list (offset gaps allowed). -/
theorem readUncommitted_eq_wfc {l : CLog} (wf : WFC l.segs) (s : Int) (hs : ∃ r ∈ l.abs, s ≤ r.offset) :
    l.readUncommitted s = .ok (l.abs.filter (fun r => decide (s ≤ r.offset))) := by
  obtain ⟨i, x, k, hf, hx, hk, hlt, hge⟩ := seek wf hs
  have hi := (List.getElem?_eq_some_iff.mp hx).1
  rw [filter_of_cut (L := l.abs) (before_append_after hi k) (fun a ha => by have := hlt a ha; simp; omega)
    (fun a ha => by simpa using hge a ha), ← drainFrom_eq wf (l.segs.length + 1) i k hi (by omega)]
  unfold readUncommitted
  simp only [hf, hx, Gen.Log.containsCmp, Cmp.evalInt, decide_eq_true_eq]
  rcases hk with ⟨hb, hfe⟩ | ⟨hb, rfl⟩
  · rw [if_pos hb, hfe]
  · rw [if_neg hb]

theorem readUncommitted_eq {l : CLog} (h : Inv l) (s : Int) (hs : ∃ r ∈ l.abs, s ≤ r.offset) :
    l.readUncommitted s = .ok (l.abs.filter (fun r => decide (s ≤ r.offset))) :=
  readUncommitted_eq_wfc h.wfc s hs

theorem readUncommitted_none {l : CLog} (h : Inv l) (s : Int) (hn : l.nextOffset ≤ s) :
    ∃ e, l.readUncommitted s = .err e := by
  have : findSegmentIdx l.segs s = none := by
    rcases findSegmentIdx_cases h.wfc s with ⟨hn, -⟩ | ⟨pre, x, post, hs, -, hx, -⟩
    · exact hn
    · have := h.seg_next_le x (by simp [hs]); omega
  unfold readUncommitted
  rw [this]
  exact ⟨_, rfl⟩

/-- The committed reader on any well-formed segment list (offset gaps allowed) whose first
segment is not empty. -/
theorem readCommitted_eq_wfc {l : CLog} (wf : WFC l.segs) (holdest : l.oldest ≠ -1) (s : Int)
    (hhw : ∃ r ∈ l.abs, r.offset = l.hw) (hs : s ≤ l.hw) :
    l.readCommitted s = .ok (l.abs.filter (fun r => decide (s ≤ r.offset ∧ r.offset ≤ l.hw))) := by
  obtain ⟨r, hr, hrhw⟩ := hhw
  rw [← hrhw] at hs ⊢
  obtain ⟨hi, hx', hk, hfh, hxh, heh, hpos, hle, hgt⟩ := hwPos_of_mem wf hr
  obtain ⟨i, x, k, hf, hx, hk3, hlt, hge⟩ := seek wf ⟨r, hr, hs⟩
  have hil := (List.getElem?_eq_some_iff.mp hx).1
  have hhi := (List.getElem?_eq_some_iff.mp hxh).1
  have okh := wf.segOK (List.mem_of_getElem? hxh)
  -- a lookup for a smaller offset ends at an earlier position
  have hord : i < hi ∨ (i = hi ∧ k ≤ hk + 1) := by
    rw [findSegmentIdx_findIdx? wf] at hf hfh
    obtain ⟨j, hj, hfj⟩ := List.findIdx?_eq_some_le_of_findIdx?_eq_some
      (q := fun a : Seg => decide (s < a.nextOffset)) (fun a _ ha => by simp at ha ⊢; omega) hfh
    obtain rfl : j = i := Option.some.inj (hfj.symm.trans hf)
    rcases Nat.lt_or_eq_of_le hj with h | rfl
    · exact .inl h
    · obtain rfl : x = hx' := Option.some.inj (hx.symm.trans hxh)
      refine .inr ⟨rfl, ?_⟩
      rcases hk3 with ⟨-, hfe⟩ | ⟨-, rfl⟩
      · rw [findEntryIdx_findIdx? okh] at hfe heh
        obtain ⟨j, hj, hfj⟩ := List.findIdx?_eq_some_le_of_findIdx?_eq_some
          (q := fun a : Rec => decide (s ≤ a.offset)) (fun a _ ha => by simp at ha ⊢; omega) heh
        have := Option.some.inj (hfj.symm.trans hfe)
        omega
      · omega
  obtain ⟨R, hR, hRA⟩ := drainCommitted_spec wf hhi (l.segs.length + 1) i k hord (by omega)
  have e1 := before_append_after hil k
  have e2 := before_append_after hhi (hk + 1)
  have hB : before l.segs i k ++ R = before l.segs hi (hk + 1) :=
    List.append_cancel_right (by rw [List.append_assoc, hRA, e1, e2])
  have hfil : l.abs.filter (fun a => decide (s ≤ a.offset ∧ a.offset ≤ r.offset)) = R := by
    unfold abs
    rw [← e2, ← hB, List.filter_append, List.filter_append,
      List.filter_eq_nil_iff.mpr fun a ha => by have := hlt a ha; simp; omega,
      List.filter_eq_self.mpr fun a ha => by
        have := hle a (hB ▸ List.mem_append_right _ ha)
        have := hge a (hRA ▸ List.mem_append_left _ ha)
        simp; omega,
      List.filter_eq_nil_iff.mpr fun a ha => by have := hgt a ha; simp; omega]
    simp
  have hr0 : r.offset ≠ -1 := by
    have := wf.ge_of_le_base (fun _ h => h) (fun a ha => (wf.base_le a ha).1) r hr
    omega
  unfold readCommitted
  simp only [Gen.Log.readerBeyondHWCmp, Cmp.evalInt, Int.not_lt.mpr hs, decide_false, Bool.false_or,
    decide_eq_true_eq, holdest, hr0, hrhw.symm, ne_eq, not_false_eq_true, if_true, hpos, Res.bind_ok, hf, hx,
    Gen.Log.containsCmp, hfil]
  rcases hk3 with ⟨hb, hfe⟩ | ⟨hb, rfl⟩
  · rw [if_pos hb, hfe]; exact hR
  · rw [if_neg hb]; exact hR

theorem readCommitted_eq {l : CLog} (h : Inv l) (s : Int)
    (hhw : ∃ r ∈ l.abs, r.offset = l.hw) (hs : s ≤ l.hw) :
    l.readCommitted s = .ok (l.abs.filter (fun r => decide (s ≤ r.offset ∧ r.offset ≤ l.hw))) :=
  readCommitted_eq_wfc h.wfc (oldest_ne h fun he => by simp [he] at hhw) s hhw hs

end Liftbridge.Proofs.Log

/-! ### Look-ups for an arbitrary offset on a log with `Inv`, and `before` step by step
(for the small-step reader, Proofs/HWReader.lean) -/
namespace Liftbridge.Proofs.HWReader
open Liftbridge Liftbridge.Log Liftbridge.Log.CLog Liftbridge.Proofs.Log

/-- `findSegment` then `findEntry` for offset `o`, in a log satisfying the invariant: they fail only
if no retained record lies at or above `o`; otherwise they find the segment and slot where `o`
starts. -/
theorem locate {l : CLog} (inv : Inv l) (o : Int) :
    match findSegmentIdx l.segs o with
    | none => ∀ y ∈ l.abs, y.offset < o
    | some j => ∃ x, l.segs[j]? = some x ∧ o < x.nextOffset ∧
        (∀ j' s, j' < j → l.segs[j']? = some s → s.nextOffset ≤ o) ∧
        match x.findEntryIdx o with
        | none => ∀ y ∈ l.abs, y.offset < o
        | some k => k < x.recs.length ∧ (∀ a ∈ x.recs.take k, a.offset < o) ∧
            ∀ a ∈ x.recs.drop k, o ≤ a.offset := by
  rcases findSegmentIdx_cases inv.wfc o with ⟨hi, hall⟩ | ⟨pre, x, post, hsp, hi, hon, hpre⟩
  · rw [hi]
    exact inv.wfc.lt_of_next_le (fun _ ha => ha) hall
  · have okx := inv.wfc.segOK (s := x) (by simp [hsp])
    rw [hi]
    refine ⟨x, getElem?_split hsp, hon, fun j' s hj hs => ?_, ?_⟩
    · rw [hsp, List.getElem?_append_left hj] at hs
      exact hpre s (List.mem_of_getElem? hs)
    rcases findEntryIdx_cases okx o with ⟨hk, hlt⟩ | ⟨rp, r, rq, hr, hk, hro, hrp, hrq⟩
    · -- no record of `x` reaches `o < x.nextOffset`: `x` is empty, hence the last segment
      have hemp : x.recs = [] := by
        rcases okx.next_cases with ⟨h, _⟩ | ⟨init, z, h, hz⟩
        · exact h
        · have := hlt z (by simp [h]); omega
      rw [hk]
      cases post with
      | nil =>
        intro y hy
        rw [abs, hsp, List.flatMap_append, List.flatMap_cons, hemp] at hy
        exact inv.wfc.lt_of_next_le (fun a ha => by simp [hsp, ha]) hpre y (by simpa using hy)
      | cons b post =>
        have := inv.link pre.length x b (by simp [hsp]) (by simp [hsp])
        have := ((inv.wfc.split hsp).2 b List.mem_cons_self).2
        exact absurd hemp (SegOK.recs_ne_nil (by omega))
    · rw [hk]
      dsimp only
      rw [hr, List.take_left' rfl, List.drop_left' rfl]
      refine ⟨by simp, hrp, fun a ha => ?_⟩
      rcases List.mem_cons.mp ha with rfl | ha
      · exact hro
      · have := hrq a ha; omega

theorem seg_split {α} {xs : List α} {i : Nat} {x : α} (h : xs[i]? = some x) :
    xs = xs.take i ++ x :: xs.drop (i + 1) := by
  obtain ⟨hi, rfl⟩ := List.getElem?_eq_some_iff.mp h
  rw [List.getElem_cons_drop, List.take_append_drop]

/-- Slot `k` of segment `h` (`sh`) is the read limit for the HW value `hw`: everything before it
is at or below `hw`, everything from it on is above (whether or not the HW message is retained).
The fields have the names of the limit fields of `Pos`, so that `{ m, p with … }` builds a `Pos`. -/
structure Lim (segs : List Seg) (hw : Int) (h k : Nat) (sh : Seg) : Prop where
  shAt : segs[h]? = some sh
  hwSlot_le : k ≤ sh.recs.length
  lower : ∀ j s, j < h → segs[j]? = some s → s.nextOffset ≤ hw
  lowerH : ∀ x ∈ sh.recs.take k, x.offset ≤ hw
  upperH : ∀ x ∈ sh.recs.drop k, hw < x.offset
  nextH : hw < sh.nextOffset

/-- `getHWPos` answers the read limit, and fails only for a HW above every retained record.
`hwPos_of_mem` is the case in which `hw` is the offset of a retained record: there no `link` is
needed (it holds on cleaned logs), the position is named and the limit is a cut of the flat log. -/
theorem hwPos_cases {l : CLog} (inv : Inv l) (hw : Int) :
    match hwPos l.segs hw with
    | .ok (i, k) => ∃ sh, Lim l.segs hw i k sh
    | .err e => (∀ y ∈ l.abs, y.offset < hw) ∧ (e = "segment-not-found" ∨ e = "entry-not-found")
    | .panic => False := by
  have h := locate inv hw
  unfold hwPos
  cases hf : findSegmentIdx l.segs hw <;> rw [hf] at h
  · exact ⟨h, .inl rfl⟩
  · obtain ⟨x, hx, hn, hpre, h⟩ := h
    simp only [hx]
    cases he : x.findEntryIdx hw <;> rw [he] at h
    · exact ⟨h, .inr rfl⟩
    · rename_i i k
      obtain ⟨hk, htake, hdrop⟩ := h
      have okx := inv.wfc.segOK (List.mem_of_getElem? hx)
      -- `x.recs[k]` is the first record at or above the HW; the records after it lie above it
      have hget : x.recs[k]? = some x.recs[k] := List.getElem?_eq_getElem hk
      have hd := List.drop_eq_getElem_cons hk
      have hge : hw ≤ x.recs[k].offset := hdrop _ (hd ▸ List.mem_cons_self)
      have hafter := (sorted_split (seg_split hget ▸ okx.sorted)).2
      simp only [hget, Gen.Log.hwGoneCheck, Bool.true_and]
      by_cases hgt : x.recs[k].offset > hw <;> simp only [hgt, decide_true, decide_false, if_true, Bool.false_eq_true, if_false]
      · refine ⟨x, hx, by omega, hpre, fun a ha => ?_, fun a ha => ?_, hn⟩
        · have := htake a ha; omega
        · rw [hd] at ha
          rcases List.mem_cons.mp ha with rfl | ha
          · exact hgt
          · have := hafter a ha; omega
      · refine ⟨x, hx, by omega, hpre, fun a ha => ?_, fun a ha => ?_, hn⟩
        · rw [List.take_add_one, hget] at ha
          rcases List.mem_append.mp ha with ha | ha
          · have := htake a ha; omega
          · cases List.mem_singleton.mp ha; omega
        · have := hafter a ha; omega


/-- The segment hop of `readLoop` on ANY snapshot that reaches beyond segment `i` lands on
segment `i + 1`. -/
theorem hop_next {segs : List Seg} (wf : WFC segs) {i n : Nat} {sg : Seg}
    (hs : segs[i]? = some sg) (hi : i + 1 < n) (hn : n ≤ segs.length) :
    findSegmentByBaseIdx (segs.take n) (sg.base + 1) = some (i + 1) := by
  have wft : WFC (segs.take n) := (List.take_append_drop n segs ▸ wf).of_append
  have hlen : i + 1 < (segs.take n).length := by rw [List.length_take]; omega
  rw [wft.hop ((List.getElem?_take_of_lt (by omega)).trans hs), if_pos hlen]

theorem abs_split {l : CLog} {i : Nat} {sg : Seg} (hs : l.segs[i]? = some sg) (k : Nat) :
    l.abs = before l.segs i k ++ (sg.recs.drop k ++ (l.segs.drop (i + 1)).flatMap Seg.recs) := by
  unfold abs
  rw [← before_append_after (List.getElem?_eq_some_iff.mp hs).1 k, after, hs]

theorem mem_before {segs : List Seg} {i k : Nat} {x : Rec} (h : x ∈ before segs i k) :
    (∃ j s, j < i ∧ segs[j]? = some s ∧ x ∈ s.recs) ∨ (∃ s, segs[i]? = some s ∧ x ∈ s.recs.take k) := by
  unfold before at h
  rcases List.mem_append.mp h with h | h
  · obtain ⟨s, hs, hx⟩ := List.mem_flatMap.mp h
    obtain ⟨j, hj, rfl⟩ := List.mem_take_iff_getElem.mp hs
    exact .inl ⟨j, _, by omega, List.getElem?_eq_getElem _, hx⟩
  · cases hs : segs[i]? with
    | none => simp [hs] at h
    | some s => exact .inr ⟨s, rfl, by simpa only [hs] using h⟩

theorem before_succ {segs : List Seg} {i k : Nat} {sg : Seg} {x : Rec} (hs : segs[i]? = some sg)
    (hx : sg.recs[k]? = some x) : before segs i (k + 1) = before segs i k ++ [x] := by
  simp [before, hs, List.take_add_one, hx]

theorem before_hop {segs : List Seg} {i k : Nat} {sg : Seg} (hs : segs[i]? = some sg)
    (hk : sg.recs.length ≤ k) : before segs (i + 1) 0 = before segs i k := by
  unfold before
  rw [List.take_add_one, hs]
  cases segs[i + 1]? <;> simp [List.take_of_length_le hk]

end Liftbridge.Proofs.HWReader
