/- Specification of the `sort.Search` mirror, and list facts shared by the commit-log proofs. -/
import Liftbridge.Base
namespace Liftbridge.Proofs
open Liftbridge

/-- Loop invariant of `sort.Search` for a predicate monotone on `[0, n)`: with `p` false below
`i` and true on `[j, n)`, the result lies in `[i, j]`, `p` is false below it and true at it
(when it is `< n`). -/
theorem goSearchAux_spec (n : Nat) (p : Nat → Bool)
    (mono : ∀ i j, i ≤ j → j < n → p i = true → p j = true) (i j : Nat)
    (hij : i ≤ j) (hjn : j ≤ n)
    (hlo : ∀ k, k < i → p k = false)
    (hhi : ∀ k, j ≤ k → k < n → p k = true) :
    i ≤ goSearchAux p i j ∧ goSearchAux p i j ≤ j ∧
    (∀ k, k < goSearchAux p i j → p k = false) ∧
    (goSearchAux p i j < n → p (goSearchAux p i j) = true) := by
  fun_induction goSearchAux p i j with
  | case1 i j h m hm ih =>
    have hm' : m = (i + j) / 2 := rfl -- `m` is a let-variable; `omega` needs its value as an equation
    have := ih (by omega) (by omega) hlo (fun k hk hkn => mono m k hk hkn hm)
    exact ⟨this.1, by omega, this.2.2⟩
  | case2 i j h m hm ih =>
    have hm' : m = (i + j) / 2 := rfl
    -- `p` is false at `m`, hence (monotonicity) at every `k ≤ m`
    have := ih (by omega) hjn (fun k hk => by
      cases hpk : p k with
      | false => rfl
      | true => exact absurd (mono k m (by omega) (by omega) hpk) hm) hhi
    exact ⟨by omega, this.2⟩
  | case3 i j h =>
    obtain rfl : i = j := by omega
    exact ⟨Nat.le_refl _, Nat.le_refl _, hlo, hhi i (Nat.le_refl _)⟩

/-- For a predicate that is monotone on `[0, n)` (false … false true … true), `goSearch n p` is
the first index at which it holds, or `n`. -/
theorem goSearch_spec (n : Nat) (p : Nat → Bool)
    (mono : ∀ i j, i ≤ j → j < n → p i = true → p j = true) :
    goSearch n p ≤ n ∧ (∀ i, i < goSearch n p → p i = false) ∧
    (goSearch n p < n → p (goSearch n p) = true) :=
  (goSearchAux_spec n p mono 0 n (Nat.zero_le _) (Nat.le_refl _)
    (fun k hk => absurd hk (Nat.not_lt_zero _)) (fun k hk hkn => absurd hkn (by omega))).2

theorem goSearch_eq {n : Nat} {p : Nat → Bool}
    (mono : ∀ i j, i ≤ j → j < n → p i = true → p j = true) {k : Nat} (hk : k ≤ n)
    (hlo : ∀ i, i < k → p i = false) (hhi : k < n → p k = true) : goSearch n p = k := by
  obtain ⟨hle, hlo', hhi'⟩ := goSearch_spec n p mono
  rcases Nat.lt_trichotomy (goSearch n p) k with h | h | h
  · have := hhi' (by omega); simp [hlo _ h] at this
  · exact h
  · have := hhi (by omega); simp [hlo' _ h] at this

/-- the result of `sort.Search` lies in `[i, j]` for ANY predicate (no monotonicity needed) -/
theorem goSearchAux_bounds (f : Nat → Bool) (i j : Nat) (h : i ≤ j) :
    i ≤ goSearchAux f i j ∧ goSearchAux f i j ≤ j := by
  fun_induction goSearchAux f i j with
  | case1 i j hij m hm ih => have := ih (by simp only [m]; omega); constructor <;> (simp only [m] at *; omega)
  | case2 i j hij m hm ih => have := ih (by simp only [m]; omega); constructor <;> (simp only [m] at *; omega)
  | case3 i j hij => omega

theorem goSearch_le (n : Nat) (f : Nat → Bool) : goSearch n f ≤ n := (goSearchAux_bounds f 0 n (Nat.zero_le _)).2

theorem eq_nil_or_snoc {α} (xs : List α) : xs = [] ∨ ∃ init last, xs = init ++ [last] :=
  (List.eq_nil_or_concat xs).imp id fun ⟨init, last, h⟩ => ⟨init, last, by rw [h, List.concat_eq_append]⟩

theorem findIdx?_split {α} {xs pre post : List α} {x : α} {q : α → Bool} (h : xs = pre ++ x :: post)
    (hx : q x = true) (hpre : ∀ a ∈ pre, q a = false) : xs.findIdx? q = some pre.length := by
  simp [h, List.findIdx?_append, List.findIdx?_eq_none_iff.mpr hpre, List.findIdx?_cons, hx]

/-- Either nothing satisfies `q`, or the list splits at the first element that does. -/
theorem findIdx?_cases {α} (xs : List α) (q : α → Bool) :
    (xs.findIdx? q = none ∧ ∀ a ∈ xs, q a = false) ∨
    ∃ pre x post, xs = pre ++ x :: post ∧ xs.findIdx? q = some pre.length ∧ q x = true ∧
      ∀ a ∈ pre, q a = false := by
  cases h : xs.find? q with
  | none =>
    have hall : ∀ a ∈ xs, q a = false := fun a ha => by simpa using List.find?_eq_none.mp h a ha
    exact .inl ⟨List.findIdx?_eq_none_iff.mpr hall, hall⟩
  | some x =>
    obtain ⟨hq, pre, post, hs, hpre⟩ := List.find?_eq_some_iff_append.mp h
    have hpre : ∀ a ∈ pre, q a = false := fun a ha => by simpa using hpre a ha
    exact .inr ⟨pre, x, post, hs, findIdx?_split hs hq hpre, hq, hpre⟩

theorem pairwise_split {α} {R : α → α → Prop} {A B : List α} {r : α} (h : (A ++ r :: B).Pairwise R) :
    (∀ a ∈ A, R a r) ∧ (∀ b ∈ B, R r b) := by
  have := List.pairwise_append.mp h
  exact ⟨fun a ha => this.2.2 a ha r (by simp), (List.pairwise_cons.mp this.2.1).1⟩

theorem takeWhile_eq_filter_of_pairwise {α} (p : α → Bool) (xs : List α)
    (h : xs.Pairwise (fun a b => p b = true → p a = true)) : xs.takeWhile p = xs.filter p := by
  induction xs with
  | nil => rfl
  | cons a t ih =>
    have h' := List.pairwise_cons.mp h
    cases hp : p a with
    | true => simp [hp, ih h'.2]
    | false =>
      have : t.filter p = [] := List.filter_eq_nil_iff.mpr fun b hb hpb => by simp [h'.1 b hb hpb] at hp
      simp [hp, this]

end Liftbridge.Proofs
