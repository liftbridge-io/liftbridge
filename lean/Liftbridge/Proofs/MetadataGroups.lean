/-
The consumer-group component of the metadata model (Model/Metadata.lean: members with their
subscriptions, the keys of the subscriber heaps, the epoch) is the PROJECTION of the consumer-group
model of property C12 (Model/Groups.lean, which also carries the partition assignments and the
heap contents): every operation of the C12 model, seen through `Refines`, is the corresponding
operation of the metadata model.  So the C06 theorems speak about the same groups as the C12
theorems, and assignments cannot influence anything C06 observes.
-/
import Liftbridge.Model.Metadata
import Liftbridge.Proofs.Groups
import Liftbridge.Proofs.MetadataGroupOps

namespace Liftbridge.Proofs.MetadataGroups
open Liftbridge Liftbridge.Groups Liftbridge.Proofs.Groups

def keys (g : Groups.Group) : List String := g.subs.map (·.1)

/-- `lg` (metadata model) is what `g` (C12 model) looks like without assignments and heap contents. -/
structure Refines (lg : Metadata.Group) (g : Groups.Group) : Prop where
  members : lg.members = shape g.members
  keys : ∀ x, x ∈ lg.subKeys ↔ x ∈ keys g
  epoch : lg.epoch = g.epoch

theorem mem_keys_iff (l : Subs) (x : String) : x ∈ l.map (·.1) ↔ (sget l x).isSome := by
  induction l with
  | nil => simp [sget]
  | cons kv r ih =>
    obtain ⟨k, v⟩ := kv
    simp only [List.map_cons, List.mem_cons, sget]
    by_cases h : k = x
    · simp [h]
    · have h' : ¬ x = k := fun e => h e.symm
      simp [h, h', ih]

theorem mem_keys_sset (l : Subs) (t : String) (v : List String) (x : String) :
    x ∈ (sset l t v).map (·.1) ↔ (x = t ∨ x ∈ l.map (·.1)) := by
  rw [mem_keys_iff, mem_keys_iff, sget_sset]
  by_cases h : x = t <;> simp [h]

theorem mem_keys_sdel (l : Subs) (s : String) (x : String) :
    x ∈ (sdel l s).map (·.1) ↔ (x ≠ s ∧ x ∈ l.map (·.1)) := by
  rw [mem_keys_iff, mem_keys_iff, sget_sdel]
  by_cases h : x = s <;> simp [h]

theorem keys_sset_of_some : ∀ (l : Subs) {t : String} {ids : List String} (v : List String), sget l t = some ids →
    (sset l t v).map (·.1) = l.map (·.1)
  | (k, w) :: r, t, ids, v, h => by
    by_cases hk : k = t
    · simp [sset, hk]
    · simp only [sget, if_neg hk] at h
      simp [sset, hk, keys_sset_of_some r v h]

/-- What `Refines` reads of a C12 group. -/
def light (g : Groups.Group) : List (String × List String) × List String × Nat := (shape g.members, keys g, g.epoch)

theorem Refines.of_light {lg : Metadata.Group} {g g' : Groups.Group} (h : Refines lg g) (e : light g' = light g) :
    Refines lg g' := by
  simp only [light, Prod.mk.injEq] at e
  exact ⟨e.1 ▸ h.members, e.2.1 ▸ h.keys, e.2.2 ▸ h.epoch⟩

theorem light_balance (parts : String → Nat) (t : String) (g : Groups.Group) : light (balance parts t g) = light g := by
  have hep : (balance parts t g).epoch = g.epoch := by
    unfold balance; split
    · rfl
    · split <;> rfl
  rw [light, balance_shape, keys, balance_subs, hep]
  rfl

theorem light_foldl {f : Groups.Group → String → Groups.Group} (hf : ∀ g t, light (f g t) = light g) :
    ∀ (ts : List String) (g : Groups.Group), light (ts.foldl f g) = light g
  | [], _ => rfl
  | t :: ts, g => (light_foldl hf ts (f g t)).trans (hf g t)

theorem mem_keys_pushAll (X : String) (ts : List String) (subs : Subs) (x : String) :
    x ∈ (ts.foldl (pushS X) subs).map (·.1) ↔ (x ∈ subs.map (·.1) ∨ x ∈ ts) := by
  induction ts generalizing subs with
  | nil => simp
  | cons t r ih => rw [List.foldl_cons, ih, pushS, mem_keys_sset, List.mem_cons, or_comm (a := x = t), or_assoc]

/-- `Refines` does not see the rebalances of `AddMember`, only the new member and its heap entries. -/
theorem light_addMember (parts : String → Nat) (id : String) (streams : List String) (g : Groups.Group) :
    light (Groups.addMember parts id streams g) = light (joined id (sortDedup streams) g) := by
  rw [addMember_eq]
  exact light_foldl (fun g t => light_balance parts t g) _ _

theorem shape_addMember (parts : String → Nat) (id : String) (streams : List String) (g : Groups.Group) :
    shape (Groups.addMember parts id streams g).members = shape g.members ++ [(id, sortDedup streams)] :=
  (congrArg (·.1) (light_addMember parts id streams g)).trans (by simp [light, joined, shape])

theorem shape_any (ms : List Cons) (id : String) :
    (shape ms).any (fun m => decide (m.1 = id)) = ms.any (fun c => decide (c.id = id)) := by
  simp [shape, List.any_map, Function.comp_def]

theorem refines_addMember (parts : String → Nat) {lg : Metadata.Group} {g : Groups.Group} (id : String)
    (streams : List String) (h : Refines lg g) (hnew : g.members.any (fun c => decide (c.id = id)) = false) :
    Refines (Metadata.addMember lg (id, streams)) (Groups.addMember parts id streams g) := by
  refine Refines.of_light (g := joined id (sortDedup streams) g) ⟨?_, fun x => ?_, h.epoch⟩ (light_addMember ..)
  · have : lg.members.any (fun m => decide (m.1 = id)) = false := by rw [h.members, shape_any]; exact hnew
    simp only [Metadata.addMember, Metadata.upsertMember]
    rw [this, h.members]
    simp [joined, shape]
  · simp only [Metadata.addMember]
    rw [Proofs.Metadata.mem_unionKeys, h.keys x]
    exact (mem_keys_pushAll ..).symm

/-- **JoinConsumerGroup.** -/
theorem join_refines (parts : String → Nat) {lg : Metadata.Group} {g g' : Groups.Group} (id : String)
    (streams : List String) (e : Nat) (h : Refines lg g) (hok : Groups.join parts g id streams e = .ok g') :
    Refines { Metadata.addMember lg (id, streams) with epoch := e } g' := by
  unfold Groups.join at hok
  split at hok
  · cases hok
  · split at hok
    · cases hok
    · next hnm =>
      injection hok with hok
      subst hok
      obtain ⟨m, k, _⟩ := refines_addMember parts id streams h (by simpa using hnm)
      exact ⟨m, k, rfl⟩

/-- One step of `removeConsumer` keeps identities, subscriptions, heap keys and the epoch. -/
theorem light_removeStep (parts : String → Nat) (cons : Cons) (g : Groups.Group) (t : String) :
    light (removeStep parts cons g t) = light g := by
  unfold removeStep
  cases hs : sget g.subs t with
  | none => rfl
  | some ids =>
    have h1 : light { g with subs := sset g.subs t (ids.filter (· ≠ cons.id)) } = light g := by
      simp only [light, keys, keys_sset_of_some g.subs _ hs]
    simp only
    split
    · exact (light_balance parts t _).trans h1
    · exact h1

theorem shape_filter (ms : List Cons) (id : String) :
    shape (ms.filter (fun c => decide (c.id ≠ id))) = (shape ms).filter (fun m => decide (m.1 ≠ id)) := by
  unfold shape
  rw [List.filter_map]
  rfl

/-- **LeaveConsumerGroup** (also a liveness expiry). -/
theorem leave_refines (parts : String → Nat) {lg : Metadata.Group} {g g' : Groups.Group} (id : String) (e : Nat)
    (h : Refines lg g) (hok : Groups.leave parts g id e = .ok g') :
    Refines { lg with members := lg.members.filter (fun m => decide (m.1 ≠ id)), epoch := e } g' := by
  unfold Groups.leave at hok
  split at hok
  · cases hok
  · split at hok
    · cases hok
    · next cons _ =>
      injection hok with hok
      subst hok
      obtain ⟨m, k, _⟩ := h.of_light (light_foldl (light_removeStep parts cons) cons.streams g)
      exact ⟨by rw [m]; exact (shape_filter _ id).symm, k, rfl⟩

/-- Under the C12 invariant "some member is subscribed to `s`" (what the metadata model tests) is
"the heap of `s` is not empty" (what `StreamDeleted` tests). -/
theorem subscribed_iff_heap (parts : String → Nat) {lg : Metadata.Group} {g : Groups.Group} (s : String)
    (hinv : Inv parts g) (h : Refines lg g) (ids : List String) (hs : sget g.subs s = some ids) :
    Metadata.subscribed lg s = !ids.isEmpty := by
  have hsub : subsOf' g.subs s = ids := by simp [subsOf', hs]
  cases hids : ids with
  | nil =>
    refine Proofs.Metadata.not_subscribed_iff.2 fun x hx hxs => ?_
    rcases hinv.b2 x (h.members ▸ hx) s hxs with h1 | ⟨_, h2⟩
    · rw [hsub, hids] at h1; cases h1
    · cases h2
  | cons i rest =>
    rcases hinv.b1 s i (by rw [hsub, hids]; simp) with ⟨x, hx, _, hx2⟩ | ⟨_, h2⟩
    · exact Proofs.Metadata.subscribed_iff.2 ⟨x, h.members ▸ hx, hx2⟩
    · cases h2

/-- **StreamDeleted** (refused when the epoch is stale: the group stays as it was on both sides).
The metadata model's switch must say what the C12 model does with an empty heap (extracted fact
`Gen.Groups.emptyHeapKeepsEpoch`); the statement holds for either value of that fact. -/
theorem deleted_refines (parts : String → Nat) (cfg : Metadata.Cfg)
    (hcfg : cfg.emptyHeapNoEpoch = Gen.Groups.emptyHeapKeepsEpoch)
    {lg : Metadata.Group} {g : Groups.Group} (s : String) (e : Nat)
    (hinv : Inv parts g) (h : Refines lg g) :
    Refines (Metadata.notifyGroup cfg s e lg) (Groups.applyOp parts g (.deleted s e)) := by
  unfold Metadata.notifyGroup Groups.applyOp Groups.step Groups.streamDeleted
  rw [hcfg]
  rw [h.epoch]
  by_cases hg : Gen.Groups.epochDeletedCmp.evalNat e g.epoch = true
  · simp only [hg, if_true]; exact h
  · simp only [hg, Bool.false_eq_true, if_false]
    have hc : lg.subKeys.contains s = (sget g.subs s).isSome := by
      rw [Bool.eq_iff_iff, List.contains_iff_mem, h.keys, keys, mem_keys_iff]
    cases hs : sget g.subs s with
    | none =>
      simp only [hc, hs, Option.isSome_none, Bool.false_eq_true, if_false]
      exact h
    | some ids =>
      rw [hs] at hc
      have hkeys : ∀ x, x ∈ lg.subKeys.filter (fun y => decide (y ≠ s)) ↔ x ∈ (sdel g.subs s).map (·.1) := by
        intro x
        rw [mem_keys_sdel, List.mem_filter, h.keys x, decide_eq_true_eq, and_comm, keys]
      rw [subscribed_iff_heap parts s hinv h ids hs]
      simp only [hc, Option.isSome_some, if_true, Bool.not_not]
      by_cases hb : (Gen.Groups.emptyHeapKeepsEpoch && ids.isEmpty) = true
      · -- empty heap: both sides only drop the heap key
        simp only [hb, if_true]
        exact ⟨h.members, hkeys, rfl⟩
      simp only [hb, Bool.false_eq_true, if_false]
      -- the rebalancing at the end moves assignments only
      refine Refines.of_light (g := ⟨g.members.map fun c => if c.id ∈ ids then c.dropStream s else c, sdel g.subs s, e⟩)
        ⟨?_, hkeys, rfl⟩ ?_
      · rw [h.members]
        simp only [shape, List.map_map]
        refine List.map_congr_left fun c hc' => ?_
        simp only [Function.comp]
        by_cases hid : c.id ∈ ids
        · simp [hid, dropStream_id, dropStream_streams]
        · -- a member subscribed to the stream is in its heap (invariant b2)
          simp only [hid, if_false]
          refine congrArg _ (List.filter_eq_self.2 fun x hx => decide_eq_true ?_)
          rintro rfl
          rcases hinv.b2 (c.id, c.streams) (mem_shape.2 ⟨c, hc', rfl, rfl⟩) x hx with h1 | ⟨_, h2⟩
          · unfold subsOf' at h1; rw [hs] at h1; exact hid h1
          · cases h2
      · have hl := light_foldl (f := fun g t => balance parts t g) (fun g t => light_balance parts t g)
        simp only [light, Prod.mk.injEq] at hl ⊢
        exact ⟨(hl _ _).1, (hl _ _).2.1, trivial⟩

/-- **newConsumerGroup**: a group built from a protobuf (create op or snapshot). -/
theorem mkGroup_refines (parts : String → Nat) (gp : Metadata.GroupP) (r : Bool)
    (hnd : (gp.members.map (·.1)).Nodup) :
    Refines (Metadata.mkGroup gp r)
      (gp.members.foldl (fun g m => Groups.addMember parts m.1 m.2 g) (Group.new gp.epoch)) := by
  unfold Metadata.mkGroup
  have gen : ∀ (ms : List Metadata.Member) (lg : Metadata.Group) (g : Groups.Group), Refines lg g →
      ((shape g.members).map (·.1) ++ ms.map (·.1)).Nodup →
      Refines (ms.foldl Metadata.addMember lg) (ms.foldl (fun g m => Groups.addMember parts m.1 m.2 g) g) := by
    intro ms
    induction ms with
    | nil => intro lg g h _; exact h
    | cons a ms ih =>
      intro lg g h hn
      have hnew : g.members.any (fun c => decide (c.id = a.1)) = false := Bool.eq_false_iff.2 fun hany => by
        obtain ⟨c, hc, hc1⟩ := List.any_eq_true.1 hany
        exact Proofs.not_mem_of_nodup_append_cons hn
          (List.mem_map.2 ⟨(c.id, c.streams), mem_shape.2 ⟨c, hc, rfl, rfl⟩, of_decide_eq_true hc1⟩)
      refine ih _ _ (refines_addMember parts a.1 a.2 h hnew) ?_
      rw [shape_addMember, List.map_append]
      simpa [List.append_assoc] using hn
  exact gen _ _ _ ⟨rfl, fun x => by simp [keys, Group.new], rfl⟩ (by simpa [shape, Group.new] using hnd)

end Liftbridge.Proofs.MetadataGroups
