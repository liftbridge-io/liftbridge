/-
Lemmas for Props/C07.lean (Model/Failover.lean: ReportLeader / ShrinkISR / ExpandISR /
electNewPartitionLeader and the FSM's RemoveFromISR, AddToISR, ChangeLeader on the controller).
`Move` lists the ways a step is taken, for every configuration of the code (`step_move`); the three
things carried along a run are each one case analysis over it: leadership terms between two moments
(`After`, any configuration), the invariant `Inv` (four of the repairs) and the history invariant
`WitOk` (repaired code). Then what a triggering report and an applied leader change tell
(`step_triggered`, `quorum_count`, `commit_change_applied`).
-/
import Liftbridge.Model.Failover

namespace Liftbridge.Proofs.Failover
open Liftbridge Liftbridge.Failover

section
variable {α : Type} {f : PKey → Option α} {k x : PKey} {v : Option α} {a : α}

@[simp] theorem upd_same : upd f k v k = v := if_pos rfl

theorem upd_other (h : x ≠ k) : upd f k v x = f x := if_neg h

theorem upd_some (h : upd f k v x = some a) : (x = k ∧ v = some a) ∨ (x ≠ k ∧ f x = some a) := by
  unfold upd at h
  split at h
  · exact .inl ⟨‹_›, h⟩
  · exact .inr ⟨‹_›, h⟩

theorem upd_none_some (h : upd f k none x = some a) : x ≠ k ∧ f x = some a :=
  (upd_some h).resolve_left nofun

end

theorem mem_sins {l : List Id} {x y : Id} : y ∈ sins l x ↔ y ∈ l ∨ y = x := by
  unfold sins
  split
  · rename_i h; exact ⟨.inl, fun hy => hy.elim id (· ▸ h)⟩
  · simp

theorem nodup_sins {l : List Id} (x : Id) (h : l.Nodup) : (sins l x).Nodup := by
  unfold sins
  split
  · exact h
  · rename_i hx
    exact List.nodup_append.2 ⟨h, by simp, fun a ha b hb hab => hx (by simp_all)⟩

theorem mem_sdel {l : List Id} {x y : Id} : y ∈ sdel l x ↔ y ∈ l ∧ y ≠ x := by
  simp [sdel]

theorem nodup_sdel {l : List Id} (x : Id) (h : l.Nodup) : (sdel l x).Nodup :=
  h.sublist List.filter_sublist

/-- The followers of a duplicate-free in-sync set that contains the leader are one fewer. -/
theorem length_followers {isr : List Id} {leader : Id} (hnd : isr.Nodup) (hl : leader ∈ isr) :
    (isr.filter (fun x => decide (x ≠ leader))).length + 1 = isr.length := by
  have h := List.length_eq_countP_add_countP (fun x => decide (x ≠ leader)) (l := isr)
  have hc : isr.count leader = 1 := by rw [hnd.count, if_pos hl]
  simp [List.count_eq_countP, List.countP_eq_length_filter, Bool.beq_eq_decide_eq] at h hc ⊢
  omega

/-! ### the decision points of the code -/

/-- `!=` on both components: the request's pair is not the partition's current one. The three
regenerated tests of the incoming requests and `staleAtCommit` all unfold to this. -/
theorem stale_iff (pt : Part) (l : Id) (e : Nat) :
    stale .ne .ne pt l e = true ↔ (l ≠ pt.leader ∨ e ≠ pt.leaderEpoch) := by
  simp [stale, cmpId, Cmp.evalNat]

theorem current_of_not_stale {pt : Part} {l : Id} {e : Nat} (h : ¬ stale .ne .ne pt l e = true) :
    pt.leader = l ∧ pt.leaderEpoch = e := by
  simp [stale, cmpId, Cmp.evalNat] at h
  exact ⟨h.1.symm, h.2.symm⟩

theorem mem_candidates (pt : Part) (c : Id) : c ∈ candidates pt ↔ c ∈ pt.isr ∧ c ≠ pt.leader := by
  simp [candidates, Gen.Failover.electSkipCmp, cmpId]

theorem elect_cases (pt : Part) (choice : Id) :
    elect pt choice = .noCandidates ∨ elect pt choice = .illegal ∨
      elect pt choice = .triggered choice ∧ choice ∈ pt.isr ∧ choice ≠ pt.leader := by
  unfold elect
  split
  · exact .inl rfl
  · split
    · exact .inl rfl
    · split
      · rename_i hm; exact .inr (.inr ⟨rfl, (mem_candidates pt _).1 hm⟩)
      · exact .inr (.inl rfl)

theorem applyShrink_eq (pt : Part) (r : Id) (idx : Nat) :
    applyShrink pt r idx =
      if idx ≤ pt.epoch then .same
      else if r ∈ pt.replicas then .changed { pt with isr := sdel pt.isr r, epoch := idx } else .fail := by
  simp [applyShrink, Gen.Failover.idemShrinkCmp, Cmp.evalNat]

theorem applyExpand_eq (pt : Part) (r : Id) (idx : Nat) :
    applyExpand pt r idx =
      if idx ≤ pt.epoch then .same
      else if r ∈ pt.replicas then .changed { pt with isr := sins pt.isr r, epoch := idx } else .fail := by
  simp [applyExpand, Gen.Failover.idemExpandCmp, Cmp.evalNat]

theorem applyChange_eq (pt : Part) (c : Id) (idx : Nat) :
    applyChange pt c idx =
      if idx ≤ pt.epoch then .same
      else if idx < pt.leaderEpoch then .fail
      else .changed { pt with leader := c, leaderEpoch := idx, epoch := idx } := by
  simp [applyChange, Gen.Failover.idemChangeCmp, Gen.Failover.setLeaderCmp, Cmp.evalNat]

/-- The witnesses of partition `p` once `r` has reported. -/
def tally (s : Ctl) (p : PKey) (r : Id) : List Id := sins ((s.fos p).getD ⟨[], false⟩).witnesses r

theorem mem_tally {s : Ctl} {p : PKey} {r w : Id} :
    w ∈ tally s p r ↔ w = r ∨ ∃ fo, s.fos p = some fo ∧ w ∈ fo.witnesses := by
  rw [tally, mem_sins, or_comm]
  cases s.fos p <;> simp

/-! ### what a step does -/

/-- Outcomes of a step that found nothing to do. -/
def idle : Out → Bool
  | .refused _ | .illegal | .notArmed | .idempotent => true
  | _ => false

/-- Why an apply function returns an error. -/
def Fails (pt : Part) (idx : Nat) : Op → Prop
  | .shrink _ r _ _ | .expand _ r _ _ => r ∉ pt.replicas
  | .change .. => idx < pt.leaderEpoch

/-- `Move cfg s st o s'`: the ways a live controller takes a step, for every configuration of the
code, each with those facts the code has established at that point on which a proof below rests.
What is carried along a run (`After`, `Inv`, `WitOk`) is proved from these rules, not from the
operations of the model, which `step_move` unfolds once. -/
inductive Move (cfg : Cfg) (s : Ctl) : Step → Out → Ctl → Prop
  | stay {st o} : idle o = true → Move cfg s st o s
  | create {p rs l g} : s.parts p = none → l ∈ rs → rs.Nodup →
      Move cfg s (.create p rs l g) .done
        { s with parts := upd s.parts p (some ⟨rs, rs, l, s.index + 1 + g, s.index + 1 + g⟩),
                 index := s.index + 1 + g }
  | remove {p g} :
      Move cfg s (.remove p g) .done
        { s with parts := upd s.parts p none, fos := upd s.fos p none, index := s.index + 1 + g }
  | recorded {p r l e c pt} : s.parts p = some pt → pt.leader = l → pt.leaderEpoch = e →
      Move cfg s (.report p r l e c) .recorded { s with fos := upd s.fos p (some ⟨tally s p r, true⟩) }
  /-- the report completes the quorum: the entry goes (as found: stays, disarmed) and a leader
  change to the chosen in-sync follower is proposed if there is one -/
  | quorum {p r l e c pt o fl} : s.parts p = some pt → pt.leader = l → pt.leaderEpoch = e →
      reports cfg pt (tally s p r) > quorum pt →
      (o = .noCandidates ∧ fl = s.inflight ∨
        o = .triggered c ∧ fl = s.inflight ++ [.change p c l e] ∧ c ∈ pt.isr ∧ c ≠ pt.leader) →
      Move cfg s (.report p r l e c) o
        { s with fos := if cfg.dropOnTrigger then upd s.fos p none else upd s.fos p (some ⟨tally s p r, false⟩),
                 inflight := fl }
  | reqShrink {p r l e pt} : s.parts p = some pt → pt.leader = l → pt.leaderEpoch = e →
      (cfg.replicaOnly = true → r ∈ pt.replicas) → (cfg.shrinkNotLeader = true → r ≠ pt.leader) →
      Move cfg s (.reqShrink p r l e) .accepted { s with inflight := s.inflight ++ [.shrink p r l e] }
  | reqExpand {p r l e pt} : s.parts p = some pt → pt.leader = l → pt.leaderEpoch = e →
      (cfg.replicaOnly = true → r ∈ pt.replicas) →
      Move cfg s (.reqExpand p r l e) .accepted { s with inflight := s.inflight ++ [.expand p r l e] }
  /-- the proposal is refused by the precondition, or the partition has seen the index -/
  | skipped {k g o} : idle o = true → Move cfg s (.commit k g) o { s with inflight := s.inflight.eraseIdx k }
  | crash {k g op pt} : s.inflight[k]? = some op → s.parts op.part = some pt →
      (cfg.underLock = true → pt.leader = op.leader ∧ pt.leaderEpoch = op.epoch) →
      Fails pt (s.index + 1 + g) op →
      Move cfg s (.commit k g) .panic { s with inflight := s.inflight.eraseIdx k, crashed := true }
  | isrChanged {k g p r l e pt isr'} :
      (s.inflight[k]? = some (.shrink p r l e) ∧ isr' = sdel pt.isr r ∨
        s.inflight[k]? = some (.expand p r l e) ∧ isr' = sins pt.isr r) →
      s.parts p = some pt → (cfg.underLock = true → pt.leader = l ∧ pt.leaderEpoch = e) →
      pt.epoch < s.index + 1 + g → r ∈ pt.replicas →
      Move cfg s (.commit k g) .applied
        { s with inflight := s.inflight.eraseIdx k,
                 parts := upd s.parts p (some { pt with isr := isr', epoch := s.index + 1 + g }),
                 index := s.index + 1 + g }
  /-- a new term begins at the index of the entry, and (`dropOnChange`) the failover entry goes -/
  | leaderChanged {k g p c ol oe pt} : s.inflight[k]? = some (.change p c ol oe) → s.parts p = some pt →
      (cfg.underLock = true → (pt.leader = ol ∧ pt.leaderEpoch = oe) ∧ c ∈ pt.isr) →
      Move cfg s (.commit k g) .applied
        { s with inflight := s.inflight.eraseIdx k,
                 parts := upd s.parts p
                   (some { pt with leader := c, leaderEpoch := s.index + 1 + g, epoch := s.index + 1 + g }),
                 index := s.index + 1 + g,
                 fos := if cfg.dropOnChange then upd s.fos p none else s.fos }
  | expired {p} :
      Move cfg s (.expire p) .done { s with fos := upd s.fos p none }
  | lost : Move cfg s .lostLeadership .done { s with fos := fun _ => none }

theorem current_at_commit {cfg : Cfg} {pt : Part} {l : Id} {e : Nat}
    (h : ¬ (cfg.underLock && staleAtCommit pt l e) = true) (hu : cfg.underLock = true) :
    pt.leader = l ∧ pt.leaderEpoch = e :=
  current_of_not_stale fun hs => h (by rw [hu]; exact hs)

theorem step_move (cfg : Cfg) {s : Ctl} (halive : s.crashed = false) (st : Step) :
    Move cfg s st (step cfg s st).2 (step cfg s st).1 := by
  unfold step
  rw [halive]
  simp only [Bool.false_eq_true, if_false]
  cases st with
  | create p rs l g =>
    simp only
    unfold create
    split
    · exact .stay rfl
    · split
      · rename_i hp hc; exact .create hp hc.1 hc.2
      · exact .stay rfl
  | remove p g =>
    simp only
    unfold remove
    split
    · exact .stay rfl
    · exact .remove
  | report p r l e c =>
    simp only
    unfold report
    split
    · exact .stay rfl
    · rename_i pt hp
      simp only
      split
      · exact .stay rfl
      · rename_i hst
        obtain ⟨hl, he⟩ := current_of_not_stale hst
        split
        · rename_i hq
          replace hq : reports cfg pt (tally s p r) > quorum pt := by
            simpa [Gen.Failover.quorumCmp, Cmp.evalNat, tally] using hq
          rcases elect_cases pt c with hel | hel | ⟨hel, hc⟩ <;> rw [hel]
          · exact .quorum hp hl he hq (.inl ⟨rfl, rfl⟩)
          · exact .stay rfl
          · exact .quorum hp hl he hq (.inr ⟨rfl, by rw [hl, he], hc⟩)
        · exact .recorded hp hl he
  | reqShrink p r l e =>
    simp only
    unfold reqShrink
    split
    · exact .stay rfl
    · rename_i pt hp
      split
      · exact .stay rfl
      · rename_i hst
        obtain ⟨hl, he⟩ := current_of_not_stale hst
        split
        · exact .stay rfl
        · rename_i hrep
          split
          · exact .stay rfl
          · rename_i hlead
            exact .reqShrink hp hl he (fun hc => by simpa [hc] using hrep) (fun hc => by simpa [hc] using hlead)
  | reqExpand p r l e =>
    simp only
    unfold reqExpand
    split
    · exact .stay rfl
    · rename_i pt hp
      split
      · exact .stay rfl
      · rename_i hst
        obtain ⟨hl, he⟩ := current_of_not_stale hst
        split
        · exact .stay rfl
        · rename_i hrep
          exact .reqExpand hp hl he (fun hc => by simpa [hc] using hrep)
  | commit k g =>
    simp only
    unfold commit
    split
    · exact .stay rfl
    · rename_i op hk
      cases op with
      | shrink p r l e =>
        simp only [commitOp]
        split
        · exact .skipped rfl
        · rename_i pt hp
          split
          · exact .skipped rfl
          · rename_i hst
            rw [applyShrink_eq]
            by_cases hid : s.index + 1 + g ≤ pt.epoch
            · rw [if_pos hid]; exact .skipped rfl
            · rw [if_neg hid]
              by_cases hr : r ∈ pt.replicas
              · rw [if_pos hr]; exact .isrChanged (.inl ⟨hk, rfl⟩) hp (current_at_commit hst) (by omega) hr
              · rw [if_neg hr]; exact .crash hk hp (current_at_commit hst) hr
      | expand p r l e =>
        simp only [commitOp]
        split
        · exact .skipped rfl
        · rename_i pt hp
          split
          · exact .skipped rfl
          · rename_i hst
            rw [applyExpand_eq]
            by_cases hid : s.index + 1 + g ≤ pt.epoch
            · rw [if_pos hid]; exact .skipped rfl
            · rw [if_neg hid]
              by_cases hr : r ∈ pt.replicas
              · rw [if_pos hr]; exact .isrChanged (.inr ⟨hk, rfl⟩) hp (current_at_commit hst) (by omega) hr
              · rw [if_neg hr]; exact .crash hk hp (current_at_commit hst) hr
      | change p c ol oe =>
        simp only [commitOp]
        split
        · exact .skipped rfl
        · rename_i pt hp
          split
          · exact .skipped rfl
          · rename_i hst
            split
            · exact .skipped rfl
            · rename_i hcand
              rw [applyChange_eq]
              by_cases hid : s.index + 1 + g ≤ pt.epoch
              · rw [if_pos hid]; exact .skipped rfl
              · rw [if_neg hid]
                by_cases hlt : s.index + 1 + g < pt.leaderEpoch
                · rw [if_pos hlt]; exact .crash hk hp (current_at_commit hst) hlt
                · rw [if_neg hlt]
                  exact .leaderChanged hk hp fun hu => ⟨current_at_commit hst hu, by simpa [hu] using hcand⟩
  | expire p =>
    simp only
    unfold expire
    split
    · split
      · exact .expired
      · exact .stay rfl
    · exact .stay rfl
  | lostLeadership => exact .lost

/-! ### leadership terms -/

def SameTerm (s : Ctl) (p : PKey) (b : Part) : Prop :=
  ∃ a, s.parts p = some a ∧ a.leader = b.leader ∧ a.leaderEpoch = b.leaderEpoch ∧ a.replicas = b.replicas ∧
    a.epoch ≤ b.epoch

/-- Partition `b` compared with state `s` of some earlier moment: still the same leadership term, or
a term (possibly of a new incarnation of the stream) that began after `s`. -/
def Since (s : Ctl) (p : PKey) (b : Part) : Prop := SameTerm s p b ∨ s.index < b.leaderEpoch

theorem SameTerm.refl {s : Ctl} {p : PKey} {b : Part} (h : s.parts p = some b) : SameTerm s p b :=
  ⟨b, h, rfl, rfl, rfl, Nat.le_refl _⟩

def After (s s' : Ctl) : Prop := s.index ≤ s'.index ∧ ∀ p b, s'.parts p = some b → Since s p b

theorem After.refl (s : Ctl) : After s s := ⟨Nat.le_refl _, fun _ _ hb => .inl (.refl hb)⟩

theorem After.trans {s s' s'' : Ctl} (h1 : After s s') (h2 : After s' s'') : After s s'' := by
  refine ⟨Nat.le_trans h1.1 h2.1, fun p b hb => ?_⟩
  rcases h2.2 p b hb with ⟨c, hc, e1, e2, e3, e4⟩ | hnew
  · rcases h1.2 p c hc with ⟨a, ha, f1, f2, f3, f4⟩ | hnew
    · exact .inl ⟨a, ha, f1.trans e1, f2.trans e2, f3.trans e3, Nat.le_trans f4 e4⟩
    · exact .inr (e2 ▸ hnew)
  · exact .inr (Nat.lt_of_le_of_lt h1.1 hnew)

theorem after_soft {s s' : Ctl} (hp : s'.parts = s.parts) (hi : s'.index = s.index) : After s s' :=
  ⟨Nat.le_of_eq hi.symm, fun _ _ hb => .inl (.refl (hp ▸ hb))⟩

theorem after_upd {s s' : Ctl} {p : PKey} {v : Option Part} (hp : s'.parts = upd s.parts p v)
    (hidx : s.index ≤ s'.index) (hv : ∀ b, v = some b → Since s p b) : After s s' := by
  refine ⟨hidx, fun q b hq => ?_⟩
  rcases upd_some (hp ▸ hq) with ⟨rfl, hv'⟩ | ⟨_, hq'⟩
  · exact hv b hv'
  · exact .inl (.refl hq')

/-- Only `create`, `remove` and an applied `commit` touch partitions or the index; an ISR change
continues the term of its partition, a leader change and a creation begin one beyond the old index. -/
theorem Move.after {cfg : Cfg} {s s' : Ctl} {st : Step} {o : Out} (hm : Move cfg s st o s') : After s s' := by
  cases hm with
  | create | leaderChanged =>
    exact after_upd rfl (by simp only; omega) fun b hb => by cases hb; exact .inr (by simp only; omega)
  | remove => exact after_upd rfl (by simp only; omega) nofun
  | isrChanged _ hp _ hlt =>
    exact after_upd rfl (by simp only; omega) fun b hb => by
      cases hb; exact .inl ⟨_, hp, rfl, rfl, rfl, Nat.le_of_lt hlt⟩
  | _ => exact after_soft rfl rfl

theorem step_after (cfg : Cfg) (s : Ctl) (st : Step) : After s (step cfg s st).1 := by
  cases h : s.crashed with
  | true => simp only [step, h, if_true]; exact .refl s
  | false => exact (step_move cfg h st).after

/-- Well-formedness of one partition at Raft index `index`. -/
structure PartOk (pt : Part) (index : Nat) : Prop where
  leader_isr : pt.leader ∈ pt.isr
  isr_rep : ∀ x ∈ pt.isr, x ∈ pt.replicas
  isr_nodup : pt.isr.Nodup
  le_e : pt.leaderEpoch ≤ pt.epoch
  e_idx : pt.epoch ≤ index

/-- What an in-flight request still guarantees IF the pair it was checked against is current. -/
def OpOk (s : Ctl) : Op → Prop
  | .shrink p r l e => e ≤ s.index ∧ ∀ pt, s.parts p = some pt → pt.leader = l → pt.leaderEpoch = e → r ∈ pt.replicas ∧ r ≠ pt.leader
  | .expand p r l e => e ≤ s.index ∧ ∀ pt, s.parts p = some pt → pt.leader = l → pt.leaderEpoch = e → r ∈ pt.replicas
  | .change _ c ol oe => oe ≤ s.index ∧ c ≠ ol

structure Inv (s : Ctl) : Prop where
  parts : ∀ p pt, s.parts p = some pt → PartOk pt s.index
  fo_part : ∀ p fo, s.fos p = some fo → ∃ pt, s.parts p = some pt
  fo_nodup : ∀ p fo, s.fos p = some fo → fo.witnesses.Nodup
  fo_armed : ∀ p fo, s.fos p = some fo → fo.armed = true
  ops : ∀ op ∈ s.inflight, OpOk s op
  alive : s.crashed = false

theorem inv_init : Inv Ctl.init := by
  constructor <;> intros <;> simp_all [Ctl.init]

theorem PartOk.mono {pt : Part} {i j : Nat} (h : PartOk pt i) (hij : i ≤ j) : PartOk pt j :=
  { h with e_idx := Nat.le_trans h.e_idx hij }

theorem PartOk.leaderEpoch_le {pt : Part} {i : Nat} (h : PartOk pt i) : pt.leaderEpoch ≤ i :=
  Nat.le_trans h.le_e h.e_idx

theorem OpOk.of_after {s s' : Ctl} {op : Op} (h : OpOk s op) (ha : After s s') : OpOk s' op := by
  cases op with
  | change p c ol oe => exact ⟨Nat.le_trans h.1 ha.1, h.2⟩
  | shrink p r l e | expand p r l e =>
    refine ⟨Nat.le_trans h.1 ha.1, fun b hb hl he => ?_⟩
    rcases ha.2 p b hb with ⟨a, ha, h1, h2, h3, _⟩ | hnew
    · simpa only [h1, h3] using h.2 a ha (h1.trans hl) (h2.trans he)
    · have := h.1; omega

theorem OpOk.frame {s s' : Ctl} {op : Op} (h : OpOk s op) (hp : s'.parts = s.parts) (hi : s'.index = s.index) :
    OpOk s' op :=
  h.of_after (after_soft hp hi)

/-! ### how the invariant survives the elementary state changes -/

theorem inv_fos {s : Ctl} (h : Inv s) (f : PKey → Option FStat)
    (hf : ∀ p fo, f p = some fo → s.fos p = some fo ∨
      (∃ pt, s.parts p = some pt) ∧ fo.witnesses.Nodup ∧ fo.armed = true) :
    Inv { s with fos := f } :=
  ⟨h.parts,
   fun p fo hp => (hf p fo hp).elim (h.fo_part p fo) (·.1),
   fun p fo hp => (hf p fo hp).elim (h.fo_nodup p fo) (·.2.1),
   fun p fo hp => (hf p fo hp).elim (h.fo_armed p fo) (·.2.2),
   fun op hop => (h.ops op hop).frame rfl rfl, h.alive⟩

theorem inv_fos_erase {s : Ctl} (h : Inv s) (p : PKey) : Inv { s with fos := upd s.fos p none } :=
  inv_fos h _ fun _ _ hq => .inl (upd_none_some hq).2

theorem inv_inflight {s : Ctl} (h : Inv s) (fl : List Op) (hfl : ∀ op ∈ fl, op ∈ s.inflight ∨ OpOk s op) :
    Inv { s with inflight := fl } :=
  ⟨h.parts, h.fo_part, h.fo_nodup, h.fo_armed,
   fun op hop => ((hfl op hop).elim (h.ops op) id).frame rfl rfl, h.alive⟩

theorem inv_push {s : Ctl} (h : Inv s) (op : Op) (hop : OpOk s op) :
    Inv { s with inflight := s.inflight ++ [op] } :=
  inv_inflight h _ fun o ho => (List.mem_append.1 ho).imp_right fun ho => by
    cases List.mem_singleton.1 ho; exact hop

theorem inv_erase {s : Ctl} (h : Inv s) (k : Nat) : Inv { s with inflight := s.inflight.eraseIdx k } :=
  inv_inflight h _ fun _ ho => .inl ((List.eraseIdx_sublist ..).subset ho)

theorem inv_upd_part {s : Ctl} (h : Inv s) {p : PKey} {v : Option Part} {idx : Nat}
    (ha : After s { s with parts := upd s.parts p v, index := idx })
    (hv : ∀ b, v = some b → PartOk b idx) (hfo : v = none → s.fos p = none) :
    Inv { s with parts := upd s.parts p v, index := idx } := by
  refine ⟨fun q b hq => ?_, fun q fo hq => ?_, h.fo_nodup, h.fo_armed,
    fun op hop => (h.ops op hop).of_after ha, h.alive⟩
  · rcases upd_some hq with ⟨_, hv'⟩ | ⟨_, hq'⟩
    · exact hv b hv'
    · exact (h.parts q b hq').mono ha.1
  · by_cases hqp : q = p
    · subst hqp
      cases v with
      | none => rw [hfo rfl] at hq; cases hq
      | some b => exact ⟨b, upd_same⟩
    · simpa only [upd_other hqp] using h.fo_part q fo hq

/-! ### every step preserves the invariant (repaired code) -/

theorem tally_nodup {s : Ctl} (h : Inv s) (p : PKey) (r : Id) : (tally s p r).Nodup := by
  apply nodup_sins
  cases hf : s.fos p with
  | none => exact List.nodup_nil
  | some fo => exact h.fo_nodup p fo hf

/-- The invariant rests on four of the repairs: it needs neither `dropOnChange` nor `followerOnly`.
Under the lock the pair a request was checked against is current when it is applied, so what the
check established (`OpOk`) holds of the partition the entry is applied to: no apply function fails,
the leader stays in the ISR, the ISR within the replicas. -/
theorem Move.inv {cfg : Cfg} (hd : cfg.dropOnTrigger = true) (hu : cfg.underLock = true)
    (hn : cfg.shrinkNotLeader = true) (hr : cfg.replicaOnly = true) {s s' : Ctl} {st : Step} {o : Out}
    (h : Inv s) (hm : Move cfg s st o s') : Inv s' := by
  have ha := hm.after
  cases hm with
  | stay => exact h
  | create _ hl hnd =>
    exact inv_upd_part h ha (fun b hb => by cases hb; exact ⟨hl, fun _ hx => hx, hnd, Nat.le_refl _, Nat.le_refl _⟩)
      nofun
  | remove => exact inv_upd_part (inv_fos_erase h _) ha nofun fun _ => upd_same
  | recorded hp =>
    exact inv_fos h _ fun q fo hq => (upd_some hq).elim
      (fun hq => by cases hq.2; exact .inr ⟨hq.1 ▸ ⟨_, hp⟩, tally_nodup h _ _, rfl⟩) (.inl ·.2)
  | quorum hp hl he _ hfl =>
    simp only [hd, if_true]
    rcases hfl with ⟨_, rfl⟩ | ⟨_, rfl, hc⟩
    · exact inv_fos_erase h _
    · exact inv_push (inv_fos_erase h _) _ ⟨he ▸ (h.parts _ _ hp).leaderEpoch_le, hl ▸ hc.2⟩
  | reqShrink hp _ he hr' hn' =>
    refine inv_push h _ ⟨he ▸ (h.parts _ _ hp).leaderEpoch_le, fun pt' hp' _ _ => ?_⟩
    cases hp.symm.trans hp'
    exact ⟨hr' hr, hn' hn⟩
  | reqExpand hp _ he hr' =>
    refine inv_push h _ ⟨he ▸ (h.parts _ _ hp).leaderEpoch_le, fun pt' hp' _ _ => ?_⟩
    cases hp.symm.trans hp'
    exact hr' hr
  | skipped => exact inv_erase h _
  | @crash k g op pt hk hp hcur hf =>
    have hop := h.ops op (List.mem_of_getElem? hk)
    have hpo := h.parts _ pt hp
    exfalso
    cases op with
    | shrink p r l e => exact hf (hop.2 pt hp (hcur hu).1 (hcur hu).2).1
    | expand p r l e => exact hf (hop.2 pt hp (hcur hu).1 (hcur hu).2)
    | change p c ol oe =>
      have : s.index + 1 + g < pt.leaderEpoch := hf
      have := hpo.leaderEpoch_le
      omega
  | @isrChanged k g p r l e pt isr' hop hp hcur hlt hr' =>
    have hpo := h.parts p pt hp
    refine inv_upd_part (inv_erase h k) ha (fun b hb => ?_) nofun
    cases hb
    rcases hop with ⟨hk, rfl⟩ | ⟨hk, rfl⟩
    · have hne := ((h.ops _ (List.mem_of_getElem? hk)).2 pt hp (hcur hu).1 (hcur hu).2).2
      exact ⟨mem_sdel.2 ⟨hpo.leader_isr, hne.symm⟩, fun x hx => hpo.isr_rep x (mem_sdel.1 hx).1,
        nodup_sdel r hpo.isr_nodup, Nat.le_trans hpo.le_e (Nat.le_of_lt hlt), Nat.le_refl _⟩
    · exact ⟨mem_sins.2 (.inl hpo.leader_isr), fun x hx => (mem_sins.1 hx).elim (hpo.isr_rep x) (· ▸ hr'),
        nodup_sins r hpo.isr_nodup, Nat.le_trans hpo.le_e (Nat.le_of_lt hlt), Nat.le_refl _⟩
  | @leaderChanged k g p c ol oe pt hk hp hcur =>
    have hpo := h.parts p pt hp
    refine inv_fos (inv_upd_part (v := some _) (inv_erase h k) ha (fun b hb => ?_) nofun) _
      fun q fo hq => .inl <| by
        split at hq
        · exact (upd_none_some hq).2
        · exact hq
    cases hb
    exact ⟨(hcur hu).2, hpo.isr_rep, hpo.isr_nodup, Nat.le_refl _, Nat.le_refl _⟩
  | expired => exact inv_fos_erase h _
  | lost => exact inv_fos h _ nofun

theorem inv_step_of {cfg : Cfg} (hd : cfg.dropOnTrigger = true) (hu : cfg.underLock = true)
    (hn : cfg.shrinkNotLeader = true) (hr : cfg.replicaOnly = true) {s : Ctl} (h : Inv s) (st : Step) :
    Inv (step cfg s st).1 :=
  (step_move cfg h.alive st).inv hd hu hn hr h

theorem inv_step {s : Ctl} (h : Inv s) (st : Step) : Inv (step Cfg.fixed s st).1 :=
  inv_step_of rfl rfl rfl rfl h st

theorem runH_fst (cfg : Cfg) (steps : List Step) : ∀ (s : Ctl) (h : List (Step × Out)),
    (runH cfg s h steps).1 = (runH cfg s [] steps).1 := by
  induction steps with
  | nil => exact fun _ _ => rfl
  | cons st rest ih => exact fun s h => (ih _ ((st, _) :: h)).trans (ih _ [(st, _)]).symm

theorem run_nil (cfg : Cfg) (s : Ctl) : run cfg s [] = s := rfl

theorem run_cons (cfg : Cfg) (s : Ctl) (st : Step) (rest : List Step) :
    run cfg s (st :: rest) = run cfg (step cfg s st).1 rest := by
  simp only [run, runH]
  exact runH_fst cfg rest _ _

theorem run_append (cfg : Cfg) (xs ys : List Step) : ∀ s : Ctl, run cfg s (xs ++ ys) = run cfg (run cfg s xs) ys := by
  induction xs with
  | nil => intro s; rfl
  | cons x xs ih => intro s; simp only [List.cons_append, run_cons]; exact ih _

theorem run_after (cfg : Cfg) (ys : List Step) : ∀ s : Ctl, After s (run cfg s ys) := by
  induction ys with
  | nil => exact .refl
  | cons st rest ih => intro s; rw [run_cons]; exact (step_after cfg s st).trans (ih _)

/-! ### the witnesses of a failover entry all reported the current leader within the window -/

/-- Every witness stored for a partition is one of the `reporters` of the partition's current
(leader, leader epoch) in the history. -/
def WitOk (s : Ctl) (h : List (Step × Out)) : Prop :=
  ∀ p fo pt, s.fos p = some fo → s.parts p = some pt →
    ∀ w ∈ fo.witnesses, w ∈ reporters p pt.leader pt.leaderEpoch h

section
variable {s s' : Ctl} {h : List (Step × Out)} {x : Step × Out}

theorem witOk_init : WitOk Ctl.init [] := fun _ _ _ hfo => nomatch hfo

theorem WitOk.tally (hw : WitOk s h) {p : PKey} {pt : Part} (hp : s.parts p = some pt) (r : Id) :
    ∀ w ∈ tally s p r, w ∈ r :: reporters p pt.leader pt.leaderEpoch h := by
  intro w hw'
  rcases mem_tally.1 hw' with rfl | ⟨fo, hf, hwf⟩
  · exact List.mem_cons_self
  · exact List.mem_cons_of_mem _ (hw p fo pt hf hp w hwf)

theorem reporters_other {p : PKey} {l : Id} {e : Nat} (h : List (Step × Out))
    (hc : classify p l e x = .other) : reporters p l e (x :: h) = reporters p l e h := by
  simp [reporters, hc]

theorem reporters_rep {p : PKey} {l : Id} {e : Nat} {r : Id} (h : List (Step × Out))
    (hc : classify p l e x = .rep r) : reporters p l e (x :: h) = r :: reporters p l e h := by
  simp [reporters, hc]

theorem classify_idle {st : Step} {o : Out} (ho : idle o = true) (q : PKey) (l : Id) (e : Nat) :
    classify q l e (st, o) = .other := by
  cases o <;> cases ho <;> cases st <;> simp [classify, accepted]

/-- Every entry that is there after the step was there before, its partition is in the same term, and
the step is neither a report for it nor the end of its window. -/
theorem witOk_frame (hw : WitOk s h)
    (hk : ∀ q, s'.fos q = none ∨
      (s'.fos q = s.fos q ∧ ∀ b, s'.parts q = some b → SameTerm s q b) ∧ ∀ l e, classify q l e x = .other) :
    WitOk s' (x :: h) := by
  intro q fo b hfo hb w hw'
  rcases hk q with hn | ⟨⟨hf, ht⟩, hc⟩
  · rw [hn] at hfo; cases hfo
  · obtain ⟨a, ha, h1, h2, _⟩ := ht b hb
    rw [reporters_other h (hc _ _), ← h1, ← h2]
    exact hw q fo a (hf ▸ hfo) ha w hw'

theorem witOk_same (hw : WitOk s h)
    (hf : s'.fos = s.fos) (hp : s'.parts = s.parts) (hc : ∀ q l e, classify q l e x = .other) :
    WitOk s' (x :: h) :=
  witOk_frame hw fun q => .inr ⟨⟨congrFun hf q, fun _ hb => .refl (hp ▸ hb)⟩, hc q⟩

/-- Partition `p` loses its entry; nothing else is concerned. -/
theorem witOk_drop (hw : WitOk s h) (p : PKey)
    (hp : s'.fos p = none)
    (hq : ∀ q, q ≠ p → s'.fos q = s.fos q ∧ s'.parts q = s.parts q ∧ ∀ l e, classify q l e x = .other) :
    WitOk s' (x :: h) :=
  witOk_frame hw fun q =>
    if hqp : q = p then .inl (hqp ▸ hp)
    else .inr ⟨⟨(hq q hqp).1, fun _ hb => .refl ((hq q hqp).2.1 ▸ hb)⟩, (hq q hqp).2.2⟩

theorem Move.witOk {st : Step} {o : Out} (hi : Inv s) (hw : WitOk s h) (hm : Move Cfg.fixed s st o s') :
    WitOk s' ((st, o) :: h) := by
  cases hm with
  | stay ho => exact witOk_same hw rfl rfl (classify_idle ho)
  | skipped ho => exact witOk_same hw rfl rfl (classify_idle ho)
  | reqShrink | reqExpand | crash => exact witOk_same hw rfl rfl fun _ _ _ => rfl
  | @create p _ _ _ hp =>
    have hf : s.fos p = none := by
      cases hf : s.fos p with
      | none => rfl
      | some fo => obtain ⟨a, ha⟩ := hi.fo_part p fo hf; rw [hp] at ha; cases ha
    exact witOk_drop hw p hf fun q hqp => ⟨rfl, upd_other hqp, fun _ _ => rfl⟩
  | @remove p =>
    exact witOk_drop hw p upd_same fun q hqp =>
      ⟨upd_other hqp, upd_other hqp, fun _ _ => by simp [classify, Ne.symm hqp]⟩
  | @recorded p r _ _ _ _ hp hl he =>
    subst hl he
    intro q fo b hfo hb w hw'
    rcases upd_some hfo with ⟨rfl, hv⟩ | ⟨hqp, hq'⟩
    · cases hv
      cases hp.symm.trans hb
      rw [reporters_rep (r := r) h (by simp [classify, accepted])]
      exact hw.tally hp r w hw'
    · rw [reporters_other h (by simp [classify, Ne.symm hqp])]
      exact hw q fo b hq' hb w hw'
  | @quorum p | @expired p =>
    exact witOk_drop hw p upd_same fun q hqp =>
      ⟨upd_other hqp, rfl, fun _ _ => by simp [classify, Ne.symm hqp]⟩
  | @isrChanged _ _ p _ _ _ pt _ _ hp _ hlt =>
    exact witOk_frame hw fun q => .inr ⟨⟨rfl, fun b hb => (upd_some hb).elim
      (fun hq => by cases hq.2; exact hq.1 ▸ ⟨pt, hp, rfl, rfl, rfl, Nat.le_of_lt hlt⟩) (.refl ·.2)⟩, fun _ _ => rfl⟩
  | @leaderChanged _ _ p =>
    exact witOk_drop hw p upd_same fun q hqp => ⟨upd_other hqp, upd_other hqp, fun _ _ => rfl⟩
  | lost => exact fun _ _ _ hfo => nomatch hfo

theorem witOk_step (hi : Inv s) (hw : WitOk s h) (st : Step) :
    WitOk (step Cfg.fixed s st).1 ((st, (step Cfg.fixed s st).2) :: h) :=
  (step_move Cfg.fixed hi.alive st).witOk hi hw

end

theorem runH_ok (steps : List Step) : ∀ {s : Ctl} {h : List (Step × Out)}, Inv s → WitOk s h →
    Inv (runH Cfg.fixed s h steps).1 ∧ WitOk (runH Cfg.fixed s h steps).1 (runH Cfg.fixed s h steps).2 := by
  induction steps with
  | nil => exact fun hi hw => ⟨hi, hw⟩
  | cons st rest ih => exact fun hi hw => ih (inv_step hi st) (witOk_step hi hw st)

theorem inv_run (steps : List Step) : Inv (run Cfg.fixed Ctl.init steps) :=
  (runH_ok steps inv_init witOk_init).1

/-- Two moments of a history at which the partition exists: it is still in the same leadership term
(same leader, same leader epoch, partition epoch not smaller), or in one that began after every
index the earlier moment had seen. -/
theorem terms_ordered {xs ys : List Step} {p : PKey} {a b : Part}
    (ha : (run Cfg.fixed Ctl.init xs).parts p = some a)
    (hb : (run Cfg.fixed Ctl.init (xs ++ ys)).parts p = some b) :
    (a.leader = b.leader ∧ a.leaderEpoch = b.leaderEpoch ∧ a.epoch ≤ b.epoch) ∨
    (a.leaderEpoch ≤ a.epoch ∧ a.epoch < b.leaderEpoch) := by
  have hA := (inv_run xs).parts p a ha
  rw [run_append] at hb
  rcases (run_after Cfg.fixed ys _).2 p b hb with ⟨a', ha', h1, h2, _, h3⟩ | hnew
  · cases ha'.symm.trans ha
    exact .inl ⟨h1, h2, h3⟩
  · exact .inr ⟨hA.le_e, Nat.lt_of_le_of_lt hA.e_idx hnew⟩

/-! ### what a triggering report and an applied leader change tell -/

theorem step_triggered {cfg : Cfg} {s : Ctl} {p : PKey} {r l : Id} {e : Nat} {choice c : Id}
    (h : (step cfg s (.report p r l e choice)).2 = .triggered c) :
    ∃ pt, s.parts p = some pt ∧ pt.leader = l ∧ pt.leaderEpoch = e ∧
      reports cfg pt (tally s p r) > quorum pt ∧ c ∈ pt.isr ∧ c ≠ pt.leader := by
  cases ha : s.crashed with
  | true => simp [step, ha] at h
  | false =>
    have hm := step_move cfg ha (.report p r l e choice)
    rw [h] at hm
    generalize (step cfg s (.report p r l e choice)).1 = s' at hm
    cases hm with
    | stay ho => cases ho
    | quorum hp hl he hq hfl =>
      rcases hfl with ⟨h', _⟩ | ⟨h', _, hc⟩ <;> cases h'
      exact ⟨_, hp, hl, he, hq, hc⟩

/-- The counting step of `quorum_ok`: `ws` duplicate-free, all of them reporters `R`; the number
of in-sync followers among `ws` exceeds `(|isr| - 1) / 2` ⇒ more than half of the followers are
in `R`. -/
theorem quorum_count {pt : Part} {ws R : List Id} (hl : pt.leader ∈ pt.isr) (hnd : pt.isr.Nodup)
    (hws : ws.Nodup) (hR : ∀ w ∈ ws, w ∈ R)
    (hq : (ws.filter (isWitness pt)).length > quorum pt) :
    2 * ((followers pt).filter (fun f => decide (f ∈ R))).length > (followers pt).length := by
  have hA : (ws.filter (isWitness pt)).length ≤ ((followers pt).filter (fun f => decide (f ∈ R))).length := by
    refine (hws.sublist List.filter_sublist).length_le_of_subset fun w hw => ?_
    obtain ⟨hw1, hw2⟩ := List.mem_filter.1 hw
    simp only [isWitness, Bool.and_eq_true, decide_eq_true_eq] at hw2
    simp only [followers, List.mem_filter, decide_eq_true_eq]
    exact ⟨⟨hw2.2, hw2.1⟩, hR w hw1⟩
  have hF : (followers pt).length + 1 = pt.isr.length := length_followers hnd hl
  unfold quorum at hq
  simp only [Gen.Failover.quorumSub, Gen.Failover.quorumDiv] at hq
  omega

/-- A leader change that is applied under the lock met the state it was decided on. -/
theorem commit_change_applied {cfg : Cfg} (hu : cfg.underLock = true) {s : Ctl} (halive : s.crashed = false)
    {k g : Nat} {p : PKey} {c ol : Id} {oe : Nat}
    (hk : s.inflight[k]? = some (.change p c ol oe))
    (h : (step cfg s (.commit k g)).2 = .applied) :
    ∃ pt, s.parts p = some pt ∧ c ∈ pt.isr ∧ pt.leader = ol ∧ pt.leaderEpoch = oe ∧
      (step cfg s (.commit k g)).1.parts p =
        some { pt with leader := c, leaderEpoch := s.index + 1 + g, epoch := s.index + 1 + g } := by
  have hm := step_move cfg halive (.commit k g)
  rw [h] at hm
  generalize (step cfg s (.commit k g)).1 = s' at hm ⊢
  cases hm with
  | stay ho | skipped ho => cases ho
  | isrChanged hop => rcases hop with ⟨hk', _⟩ | ⟨hk', _⟩ <;> cases hk.symm.trans hk'
  | leaderChanged hk' hp hcur =>
    cases hk.symm.trans hk'
    exact ⟨_, hp, (hcur hu).2, (hcur hu).1.1, (hcur hu).1.2, upd_same⟩

theorem commitOp_stale {cfg : Cfg} (hlock : cfg.underLock = true) (s : Ctl) (idx : Nat) (op : Op) (pt : Part)
    (hp : s.parts op.part = some pt) (hst : op.leader ≠ pt.leader ∨ op.epoch ≠ pt.leaderEpoch) :
    commitOp cfg s idx op = (s, .refused .stale) := by
  have hs : staleAtCommit pt op.leader op.epoch = true := (stale_iff pt _ _).2 hst
  cases op with
  | shrink p r l e | expand p r l e | change p c l e =>
    simp only [commitOp, show s.parts p = some pt from hp, hlock, show staleAtCommit pt l e = true from hs,
      Bool.and_self, if_true]


end Liftbridge.Proofs.Failover
