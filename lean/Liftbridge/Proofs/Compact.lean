/- `InvC`, the invariant of logs that may have been cleaned (offset gaps between segments), and
the lemmas about cleaning (retention, compaction, a clean racing with appends) over it. At the end,
what its users build on: what `InvC` says about the active segment and the ends of the flat log
(namespace `Subscribe`) and that the writer's operations keep it (namespace `Cursors`). -/
import Liftbridge.Model.Compact
import Liftbridge.Proofs.Log
import Liftbridge.Proofs.LogRead
import Liftbridge.Proofs.Retention
namespace Liftbridge.Proofs.Compact
open Liftbridge Liftbridge.Log Liftbridge.Log.CLog Liftbridge.Compact Liftbridge.Proofs.Log

/-- Invariant of every log state reachable with cleaning: like `Inv`, but consecutive segments
need not be linked exactly (compaction and retention leave offset gaps); instead every segment
but the last holds at least one record (segments emptied by compaction are removed). -/
structure InvC (l : CLog) : Prop where
  nonempty : l.segs ≠ []
  sorted : l.abs.Pairwise (fun a b => a.offset < b.offset)
  base_le : ∀ s ∈ l.segs, 0 ≤ s.base ∧ ∀ r ∈ s.recs, s.base ≤ r.offset
  chain : l.segs.Pairwise (fun a b => a.nextOffset ≤ b.base ∧ a.base < b.base)
  inner_nonempty : ∀ s ∈ l.segs.dropLast, s.recs ≠ []

theorem InvC.wfc {l : CLog} (h : InvC l) : WFC l.segs := ⟨h.sorted, h.base_le, h.chain⟩

theorem InvC.of_wfc {l : CLog} (hne : l.segs ≠ []) (wf : WFC l.segs)
    (hin : ∀ s ∈ l.segs.dropLast, s.recs ≠ []) : InvC l :=
  ⟨hne, wf.sorted, wf.base_le, wf.chain, hin⟩

/-- The rewritten inner segments: retained records only, emptied segments removed. -/
def cleaned (hw : Int) (segs init : List Seg) : List Seg :=
  (init.map fun s => { s with recs := s.recs.filter (retain hw segs) }).filter
    (fun s => !s.recs.isEmpty)

theorem compact_fst_nil (hw : Int) : (compact hw []).1 = [] := by
  simp [compact, Gen.Compact.skipCmp, Cmp.evalNat]

theorem compact_fst_snoc {hw : Int} {segs init : List Seg} {last : Seg} (hs : segs = init ++ [last]) :
    (compact hw segs).1 = cleaned hw segs init ++ [last] := by
  have hlast : segs.getLast? = some last := by simp [hs]
  have hdrop : segs.dropLast = init := by simp [hs]
  by_cases hlen : segs.length ≤ 1
  · obtain rfl : init = [] := by cases init <;> simp_all
    simp [compact, cleaned, Gen.Compact.skipCmp, Cmp.evalNat, hs]
  · simp [compact, cleaned, Gen.Compact.skipCmp, Cmp.evalNat, hlen, hlast, hdrop]

theorem compact_snd_none {hw : Int} {segs : List Seg} (h : (compact hw segs).2 = none) :
    (compact hw segs).1 = segs := by
  unfold compact at h ⊢
  split
  · rfl
  · split
    · rfl
    · simp_all

theorem compact_getLast? (hw : Int) (segs : List Seg) :
    (compact hw segs).1.getLast? = segs.getLast? := by
  rcases eq_nil_or_snoc segs with rfl | ⟨init, last, h⟩
  · rw [compact_fst_nil]
  · rw [compact_fst_snoc h, h]; simp

theorem flatMap_cleaned (hw : Int) (segs init : List Seg) :
    (cleaned hw segs init).flatMap Seg.recs = (init.flatMap Seg.recs).filter (retain hw segs) := by
  have drop_empty : ∀ xs : List Seg,
      (xs.filter (fun s => !s.recs.isEmpty)).flatMap Seg.recs = xs.flatMap Seg.recs := by
    intro xs
    induction xs with
    | nil => rfl
    | cons a t ih => by_cases h : a.recs = [] <;> simp [h, ih]
  rw [cleaned, drop_empty, List.flatMap_map, List.filter_flatMap]

theorem mem_cleaned {hw : Int} {segs init : List Seg} {s' : Seg} (h : s' ∈ cleaned hw segs init) :
    (∃ s ∈ init, s' = { s with recs := s.recs.filter (retain hw segs) }) ∧ s'.recs ≠ [] := by
  obtain ⟨h1, h2⟩ := List.mem_filter.mp h
  obtain ⟨s, hs, rfl⟩ := List.mem_map.mp h1
  exact ⟨⟨s, hs, rfl⟩, by simpa using h2⟩

theorem nextOffset_filter_le {s : Seg} (ok : SegOK s) (p : Rec → Bool) :
    ({ s with recs := s.recs.filter p } : Seg).nextOffset ≤ s.nextOffset := by
  rcases (ok.sublist (List.filter_sublist (p := p))).next_cases with ⟨_, hn⟩ | ⟨init, z, hz, hn⟩
  · rw [hn]; exact ok.base_le_next
  · have hz' : z ∈ s.recs.filter p := by rw [show s.recs.filter p = init ++ [z] from hz]; simp
    have := ok.lt_next z (List.mem_filter.mp hz').1
    omega

/-- Every rewritten segment keeps its base and ends no later than before. -/
theorem wfc_cleaned {hw : Int} {segs init rest : List Seg} (wf : WFC (init ++ rest)) :
    WFC (cleaned hw segs init ++ rest) := by
  have hch := List.pairwise_append.mp wf.chain
  have hnext : ∀ a ∈ init, ({ a with recs := a.recs.filter (retain hw segs) } : Seg).nextOffset ≤
      a.nextOffset := fun a ha => nextOffset_filter_le (wf.segOK (by simp [ha])) _
  refine ⟨?_, ?_, List.pairwise_append.mpr ⟨?_, hch.2.1, ?_⟩⟩
  · have := wf.sorted
    rw [List.flatMap_append] at this ⊢
    rw [flatMap_cleaned]
    exact this.sublist (List.Sublist.append List.filter_sublist (List.Sublist.refl _))
  · intro s' hs'
    rcases List.mem_append.mp hs' with hs' | hs'
    · obtain ⟨⟨s, hs, rfl⟩, -⟩ := mem_cleaned hs'
      have ok := (wf.segOK (s := s) (by simp [hs])).sublist (List.filter_sublist (p := retain hw segs))
      exact ⟨ok.base_nonneg, ok.base_le⟩
    · exact wf.base_le s' (by simp [hs'])
  · refine List.Pairwise.sublist List.filter_sublist (List.pairwise_map.mpr ?_)
    exact hch.1.imp_of_mem fun ha _ hab => ⟨Int.le_trans (hnext _ ha) hab.1, hab.2⟩
  · intro a' ha' b hb
    obtain ⟨⟨a, ha, rfl⟩, -⟩ := mem_cleaned ha'
    have hab := hch.2.2 a ha b hb
    exact ⟨Int.le_trans (hnext a ha) hab.1, hab.2⟩

theorem inner_cleaned {hw : Int} {segs init rest : List Seg} (hr : rest ≠ [])
    (hin : ∀ s ∈ (init ++ rest).dropLast, s.recs ≠ []) :
    ∀ s ∈ (cleaned hw segs init ++ rest).dropLast, s.recs ≠ [] := by
  rw [List.dropLast_append_of_ne_nil hr] at hin ⊢
  intro s hs
  rcases List.mem_append.mp hs with hs | hs
  · exact (mem_cleaned hs).2
  · exact hin s (List.mem_append_right _ hs)

def cleanedSegs (lim : Retention.Limits) (ttl : Int) (c : Bool) (hw : Int) (old : List Seg) : List Seg :=
  if c then (compact hw (Retention.clean lim ttl old)).1 else Retention.clean lim ttl old

theorem clean_ne_nil (lim : Retention.Limits) (ttl : Int) {old : List Seg} (h : old ≠ []) :
    Retention.clean lim ttl old ≠ [] :=
  let ⟨_, _, hne, _⟩ := Retention.clean_pass lim ttl old; hne h

theorem cleanedSegs_shape (lim : Retention.Limits) (ttl : Int) (c : Bool) (hw : Int) {old : List Seg}
    (h : old ≠ []) :
    ∃ P init last, old = P ++ (init ++ [last]) ∧
      cleanedSegs lim ttl c hw old =
        (if c then cleaned hw (init ++ [last]) init else init) ++ [last] := by
  obtain ⟨P, hP, hne, -⟩ := Retention.clean_pass lim ttl old
  obtain ⟨init, last, hs⟩ := (eq_nil_or_snoc _).resolve_left (hne h)
  refine ⟨P, init, last, by rw [← hs]; exact hP, ?_⟩
  cases c <;> simp [cleanedSegs, hs, compact_fst_snoc (hw := hw) (rfl : init ++ [last] = _)]

theorem cleanedSegs_ne_nil (lim : Retention.Limits) (ttl : Int) (c : Bool) (hw : Int)
    {old : List Seg} (h : old ≠ []) : cleanedSegs lim ttl c hw old ≠ [] := by
  obtain ⟨P, init, last, -, hc⟩ := cleanedSegs_shape lim ttl c hw h
  simp [hc]

theorem cleanedSegs_getLast? (lim : Retention.Limits) (ttl : Int) (c : Bool) (hw : Int)
    {old : List Seg} (h : old ≠ []) : (cleanedSegs lim ttl c hw old).getLast? = old.getLast? := by
  obtain ⟨P, init, last, ho, hc⟩ := cleanedSegs_shape lim ttl c hw h
  rw [hc, ho, ← List.append_assoc, List.getLast?_concat, List.getLast?_concat]

theorem cleanedSegs_flatMap_sublist (lim : Retention.Limits) (ttl : Int) (c : Bool) (hw : Int)
    {old : List Seg} (h : old ≠ []) :
    ((cleanedSegs lim ttl c hw old).flatMap Seg.recs).Sublist (old.flatMap Seg.recs) := by
  obtain ⟨P, init, last, ho, hc⟩ := cleanedSegs_shape lim ttl c hw h
  rw [hc, ho, List.flatMap_append, List.flatMap_append, List.flatMap_append]
  refine (List.Sublist.append ?_ (List.Sublist.refl _)).trans (List.sublist_append_right _ _)
  cases c
  · exact List.Sublist.refl _
  · rw [if_pos rfl, flatMap_cleaned]; exact List.filter_sublist

/-- The segment-list part of the invariant for `cleanedSegs … O ++ D`, given it for `O ++ D`
(`D`: the segments rolled during the clean, `[]` without a race). The last cleaned segment is the
untouched last segment of `O`, so the junction is the original one. -/
theorem wfc_inner_cleanedSegs (lim : Retention.Limits) (ttl : Int) (c : Bool) (hw : Int) {O D : List Seg}
    (hO : O ≠ []) (wf : WFC (O ++ D)) (hin : ∀ s ∈ (O ++ D).dropLast, s.recs ≠ []) :
    WFC (cleanedSegs lim ttl c hw O ++ D) ∧
      ∀ s ∈ (cleanedSegs lim ttl c hw O ++ D).dropLast, s.recs ≠ [] := by
  obtain ⟨P, init, last, ho, hc⟩ := cleanedSegs_shape lim ttl c hw hO
  have e : O ++ D = P ++ (init ++ (last :: D)) := by simp [ho]
  rw [e] at wf hin
  have hin' : ∀ s ∈ (init ++ (last :: D)).dropLast, s.recs ≠ [] := fun s hs =>
    hin s (by rw [List.dropLast_append_of_ne_nil (by simp)]; exact List.mem_append_right _ hs)
  have e' : cleanedSegs lim ttl c hw O ++ D =
      (if c then cleaned hw (init ++ [last]) init else init) ++ (last :: D) := by simp [hc]
  rw [e']
  cases c
  · exact ⟨wf.of_append_right, hin'⟩
  · exact ⟨wfc_cleaned wf.of_append_right, inner_cleaned (by simp) hin'⟩

/-- The clean works on its snapshot, the first `n` segments; the segments rolled meanwhile follow. -/
theorem cleanLogDuring_segs (lim : Retention.Limits) (ttl : Int) (c : Bool) (n : Nat) (l1 : CLog)
    (hold : l1.segs.take n ≠ []) :
    (cleanLogDuring lim ttl c n l1).segs =
      cleanedSegs lim ttl c l1.hw (l1.segs.take n) ++ l1.segs.drop n := by
  obtain ⟨s0, t, hs⟩ := List.exists_cons_of_ne_nil (clean_ne_nil lim ttl hold)
  unfold cleanLogDuring cleanedSegs
  cases c
  · simp [hs]
  · simp only [if_true]
    generalize hc : compact l1.hw (Retention.clean lim ttl (l1.segs.take n)) = p
    obtain ⟨out, _ | ep⟩ := p
    · obtain rfl : out = Retention.clean lim ttl (l1.segs.take n) := by
        simpa [hc] using compact_snd_none (hw := l1.hw) (segs := Retention.clean lim ttl (l1.segs.take n))
          (by rw [hc])
      simp [hs]
    · rfl

theorem cleanLogDuring_hw (lim : Retention.Limits) (ttl : Int) (c : Bool) (n : Nat) (l1 : CLog) :
    (cleanLogDuring lim ttl c n l1).hw = l1.hw := by
  unfold cleanLogDuring
  dsimp only
  split
  · split
    · rfl
    · split <;> rfl
  · split <;> rfl

theorem invC_cleanLogDuring (lim : Retention.Limits) (ttl : Int) (c : Bool) (n : Nat) (l1 : CLog)
    (h : InvC l1) (hold : l1.segs.take n ≠ []) : InvC (cleanLogDuring lim ttl c n l1) := by
  have hsegs := cleanLogDuring_segs lim ttl c n l1 hold
  obtain ⟨wf, hin⟩ := wfc_inner_cleanedSegs lim ttl c l1.hw hold
    (by rw [List.take_append_drop]; exact h.wfc) (by rw [List.take_append_drop]; exact h.inner_nonempty)
  refine InvC.of_wfc (fun he => ?_) (hsegs ▸ wf) (hsegs ▸ hin)
  rw [hsegs] at he
  exact cleanedSegs_ne_nil lim ttl c l1.hw hold (List.append_eq_nil_iff.mp he).1

theorem cleanLog_eq_during (lim : Retention.Limits) (ttl : Int) (c : Bool) (l : CLog) :
    cleanLog lim ttl c l = cleanLogDuring lim ttl c l.segs.length l := by
  simp [cleanLog, cleanLogDuring]

theorem cleanLog_hw (lim : Retention.Limits) (ttl : Int) (c : Bool) (l : CLog) :
    (cleanLog lim ttl c l).hw = l.hw := by
  rw [cleanLog_eq_during, cleanLogDuring_hw]

theorem cleanLog_segs (lim : Retention.Limits) (ttl : Int) (c : Bool) (l : CLog) (hne : l.segs ≠ []) :
    (cleanLog lim ttl c l).segs = cleanedSegs lim ttl c l.hw l.segs := by
  rw [cleanLog_eq_during, cleanLogDuring_segs _ _ _ _ _ (by simpa using hne), List.take_length,
    List.drop_length, List.append_nil]

theorem invC_cleanLog' (l : CLog) (lim : Retention.Limits) (ttl : Int) (c : Bool) (h : InvC l) :
    InvC (cleanLog lim ttl c l) := by
  rw [cleanLog_eq_during]
  exact invC_cleanLogDuring lim ttl c _ l h (by simpa using h.nonempty)

/-! ### Compaction alone (`cleanLog` without retention limits) -/

theorem compactLog_segs (l : CLog) :
    (cleanLog ⟨0, 0, 0⟩ 0 true l).segs = (compact l.hw l.segs).1 := by
  by_cases hne : l.segs = []
  · simp [cleanLog, Retention.clean_none, hne, compact, Gen.Compact.skipCmp, Cmp.evalNat]
  · simp [cleanLog_segs _ _ _ l hne, cleanedSegs, Retention.clean_none]

theorem compactLog_active (l : CLog) : (cleanLog ⟨0, 0, 0⟩ 0 true l).active = l.active := by
  unfold active
  rw [compactLog_segs, compact_getLast?]

theorem compactLog_inner (l : CLog) :
    (cleanLog ⟨0, 0, 0⟩ 0 true l).segs.dropLast.flatMap Seg.recs =
      (l.segs.dropLast.flatMap Seg.recs).filter (retain l.hw l.segs) := by
  rcases eq_nil_or_snoc l.segs with h | ⟨init, last, h⟩
  · simp [compactLog_segs, h, compact_fst_nil]
  · rw [compactLog_segs, compact_fst_snoc h, List.dropLast_concat, flatMap_cleaned, h,
      List.dropLast_concat]

theorem compactLog_abs (l : CLog) :
    (cleanLog ⟨0, 0, 0⟩ 0 true l).abs =
      (l.segs.dropLast.flatMap Seg.recs).filter (retain l.hw l.segs) ++ l.active.recs := by
  rw [abs_inner_active, compactLog_inner, compactLog_active]

theorem survivors_sublist (l : CLog) : (cleanLog ⟨0, 0, 0⟩ 0 true l).abs.Sublist l.abs := by
  rw [compactLog_abs, abs_inner_active l]
  exact List.Sublist.append List.filter_sublist (List.Sublist.refl _)

theorem kept_of_retain (l : CLog) (r : Rec) (hr : r ∈ l.abs) (hret : retain l.hw l.segs r = true) :
    r ∈ (cleanLog ⟨0, 0, 0⟩ 0 true l).abs := by
  rw [compactLog_abs]
  rw [abs_inner_active] at hr
  rcases List.mem_append.mp hr with hr | hr
  · exact List.mem_append_left _ (List.mem_filter.mpr ⟨hr, hret⟩)
  · exact List.mem_append_right _ hr

theorem retain_keyless (hw : Int) (segs : List Seg) (r : Rec) (hk : r.body.key = none) :
    retain hw segs r = true := by
  simp [retain, hk]

theorem retain_above_hw (hw : Int) (segs : List Seg) (r : Rec) (h : hw ≤ r.offset) :
    retain hw segs r = true := by
  unfold retain
  split
  · rfl
  · simp [Gen.Compact.retainHWCmp, Cmp.evalInt, h]

theorem compactLog_nextOffset (l : CLog) : (cleanLog ⟨0, 0, 0⟩ 0 true l).nextOffset = l.nextOffset := by
  unfold CLog.nextOffset
  rw [compactLog_active]

/-- On a list of sorted segments the key scan sees exactly the records at or below the HW. -/
theorem mem_scanned {hw : Int} {segs : List Seg} (hsort : ∀ s ∈ segs, Sorted s.recs) {r : Rec} :
    r ∈ scanned hw segs ↔ r ∈ segs.flatMap Seg.recs ∧ r.offset ≤ hw := by
  have hseg : ∀ s ∈ segs, (r ∈ s.recs.takeWhile (fun r => !(Gen.Compact.scanStopCmp.evalInt r.offset hw)) ↔
      r ∈ s.recs ∧ r.offset ≤ hw) := fun s hs => by
    rw [takeWhile_eq_filter_of_pairwise _ _ ((hsort s hs).imp fun hab => by
      simp only [Gen.Compact.scanStopCmp, Cmp.evalInt, Bool.not_eq_true', decide_eq_false_iff_not]; omega)]
    simp [Gen.Compact.scanStopCmp, Cmp.evalInt]
  simp only [scanned, List.mem_flatMap]
  exact ⟨fun ⟨s, hs, hr⟩ => ⟨⟨s, hs, ((hseg s hs).mp hr).1⟩, ((hseg s hs).mp hr).2⟩,
    fun ⟨⟨s, hs, hr⟩, hle⟩ => ⟨s, hs, (hseg s hs).mpr ⟨hr, hle⟩⟩⟩

/-- A fold that starts with the first element and then keeps the larger one computes the maximum
(the `LoadOrStore` / `set` loop of `scanKeys`). -/
theorem foldl_latest_eq_max (f : Option Int → Rec → Option Int) (h0 : ∀ r, f none r = some r.offset)
    (h1 : ∀ o r, f (some o) r = some (max o r.offset)) (L : List Rec) :
    L.foldl f none = (L.map Rec.offset).max? := by
  have step : ∀ (L : List Rec) (o : Int), L.foldl f (some o) = some ((L.map Rec.offset).foldl max o) := by
    intro L
    induction L with
    | nil => exact fun _ => rfl
    | cons r L ih => exact fun o => by rw [List.foldl_cons, h1, ih]; rfl
  cases L with
  | nil => rfl
  | cons r L => rw [List.foldl_cons, h0, step, List.map_cons, List.max?_cons']

/-- What `retain` decides on a log with sorted segments: no key, at or above the HW, or no
committed record of the same key has a larger offset. -/
def Keep (A : List Rec) (hw : Int) (r : Rec) : Prop :=
  r.body.key = none ∨ hw ≤ r.offset ∨
    ∀ r' ∈ A, r'.body.key = r.body.key → r'.offset ≤ hw → r'.offset ≤ r.offset

theorem Keep.mono {A B : List Rec} {hw : Int} {r : Rec} (hsub : ∀ x ∈ B, x ∈ A) (h : Keep A hw r) :
    Keep B hw r :=
  h.imp id (Or.imp id fun h r' hr' => h r' (hsub r' hr'))

theorem retain_iff {hw : Int} {segs : List Seg} (hsort : ∀ s ∈ segs, Sorted s.recs) {r : Rec}
    (hr : r ∈ segs.flatMap Seg.recs) :
    retain hw segs r = true ↔ Keep (segs.flatMap Seg.recs) hw r := by
  unfold Keep
  cases hk : r.body.key with
  | none => simp [retain, hk]
  | some k =>
    have hret : retain hw segs r = true ↔
        (r.offset = (latestFor hw segs k).getD 0 ∨ hw ≤ r.offset) := by
      simp [retain, hk, Gen.Compact.retainLatestCmp, Gen.Compact.retainHWCmp, Cmp.evalInt]
    rw [hret]
    simp only [reduceCtorEq, false_or]
    by_cases hge : hw ≤ r.offset
    · simp [hge]
    · -- `latestFor` is the largest offset among the committed records of the key, and `r` is one of them
      have hmax : latestFor hw segs k =
          (((scanned hw segs).filter (fun r => r.body.key = some k)).map Rec.offset).max? :=
        foldl_latest_eq_max _ (fun _ => rfl) (fun o r => by simp only []; split <;> congr 1 <;> omega) _
      have hmem : ∀ o, o ∈ ((scanned hw segs).filter (fun r => r.body.key = some k)).map Rec.offset ↔
          ∃ r' ∈ segs.flatMap Seg.recs, r'.offset ≤ hw ∧ r'.body.key = some k ∧ r'.offset = o := by
        simp [mem_scanned hsort, and_assoc]
      have hin := (hmem r.offset).mpr ⟨r, hr, by omega, hk, rfl⟩
      rw [hmax]
      cases h : (((scanned hw segs).filter (fun r => r.body.key = some k)).map Rec.offset).max? with
      | none => rw [List.max?_eq_none_iff.mp h] at hin; cases hin
      | some m =>
        obtain ⟨hm, hle⟩ := List.max?_eq_some_iff.mp h
        obtain ⟨r0, hr0, hle0, hk0, rfl⟩ := (hmem m).mp hm
        have := hle _ hin
        simp only [Option.getD_some, hge, or_false, false_or]
        exact ⟨fun he r' hr' hk' hle' => he ▸ hle _ ((hmem _).mpr ⟨r', hr', hle', hk', rfl⟩),
          fun hall => by have := hall r0 hr0 hk0 hle0; omega⟩

theorem InvC.seg_sorted {l : CLog} (h : InvC l) : ∀ s ∈ l.segs, Sorted s.recs :=
  fun _ hs => (h.wfc.segOK hs).sorted

theorem latest_kept' (l : CLog) (h : InvC l) (r : Rec) (hr : r ∈ l.abs)
    (hl : ∃ k, r.body.key = some k ∧ r.offset ≤ l.hw ∧
      ∀ r' ∈ l.abs, r'.body.key = some k → r'.offset ≤ l.hw → r'.offset ≤ r.offset) :
    r ∈ (cleanLog ⟨0, 0, 0⟩ 0 true l).abs := by
  obtain ⟨k, hk, -, hall⟩ := hl
  exact kept_of_retain l r hr ((retain_iff h.seg_sorted hr).mpr
    (Or.inr (Or.inr fun r' hr' hk' hle => hall r' hr' (by rw [hk', hk]) hle)))

theorem InvC.oldest_ne {l : CLog} (h : InvC l) (hne : l.abs ≠ []) : l.oldest ≠ -1 :=
  oldest_ne_of h.wfc h.inner_nonempty hne

end Liftbridge.Proofs.Compact

/-! ### What `InvC` says about the active segment and the ends of the flat log -/
namespace Liftbridge.Proofs.Subscribe
open Liftbridge Liftbridge.Log Liftbridge.Log.CLog Liftbridge.Proofs.Compact Liftbridge.Proofs.Log

theorem invC_activeOK {l : CLog} (h : InvC l) : SegOK l.active := h.wfc.activeOK h.nonempty

theorem invC_lt_next {l : CLog} (h : InvC l) : ∀ r ∈ l.abs, r.offset < l.nextOffset :=
  h.wfc.abs_lt_next h.nonempty

theorem invC_offset_nonneg {l : CLog} (h : InvC l) : ∀ r ∈ l.abs, 0 ≤ r.offset :=
  h.wfc.offset_nonneg

theorem notLastNe {l : CLog} (h : InvC l) {pre post : List Seg} {x b : Seg}
    (hs : l.segs = pre ++ x :: b :: post) : x.recs ≠ [] := by
  apply h.inner_nonempty
  rw [hs, List.dropLast_append_of_ne_nil (by simp), List.dropLast_cons_of_ne_nil (by simp)]
  simp

theorem sorted_le_getLast {xs : List Rec} (hs : Sorted xs) {z : Rec} (hz : xs.getLast? = some z) :
    ∀ r ∈ xs, r.offset ≤ z.offset := by
  obtain ⟨init, rfl⟩ := List.getLast?_eq_some_iff.mp hz
  intro r hr
  rcases List.mem_append.mp hr with hr | hr
  · have := (sorted_split hs).1 r hr; omega
  · simp at hr; subst hr; exact Int.le_refl _

end Liftbridge.Proofs.Subscribe

/-! ### `InvC` under the writer's operations (roll, size-based roll, write) and under changes that
leave the segment list alone; the fields a roll or a clean does not touch -/
namespace Liftbridge.Proofs.Cursors
open Liftbridge Liftbridge.Log Liftbridge.Log.CLog Liftbridge.Compact Liftbridge.Proofs.Log
open Liftbridge.Proofs.Compact

theorem invC_of_segs_eq {l l' : CLog} (h : InvC l) (e : l'.segs = l.segs) : InvC l' :=
  InvC.of_wfc (e ▸ h.nonempty) (e ▸ h.wfc) (e ▸ h.inner_nonempty)

theorem oldest_cases {l : CLog} (h : InvC l) (ho : l.oldest ≠ -1) :
    ∃ r0 rest, l.abs = r0 :: rest ∧ l.oldest = r0.offset := by
  rw [oldest_eq h.inner_nonempty] at ho ⊢
  cases habs : l.abs with
  | nil => simp [habs] at ho
  | cons r0 rest => exact ⟨r0, rest, rfl, rfl⟩

theorem invC_roll {l : CLog} (h : InvC l) (hne : l.active.recs ≠ []) : InvC l.roll := by
  refine InvC.of_wfc (by simp [CLog.roll]) (h.wfc.roll h.nonempty hne) ?_
  show ∀ s ∈ (l.segs ++ [({ base := l.newest + 1, recs := [] } : Seg)]).dropLast, s.recs ≠ []
  rw [List.dropLast_concat, segs_eq_dropLast_active h.nonempty]
  intro s hs
  rcases List.mem_append.mp hs with hs | hs
  · exact h.inner_nonempty s hs
  · cases List.mem_singleton.mp hs; exact hne

theorem invC_checkSplit {l : CLog} (h : InvC l) (hm : 0 < l.maxSegBytes) : InvC l.checkSplit := by
  unfold checkSplit; split
  · rename_i hn
    refine invC_roll h fun he => ?_
    simp [needSplit, Gen.Log.splitCmp, Cmp.evalInt, Seg.position, he] at hn
    omega
  · exact h

theorem invC_write {l l' : CLog} {rs : List Rec} {offs : List Int} (h : InvC l)
    (hsorted : Sorted rs) (hge : ∀ r ∈ rs, l.nextOffset ≤ r.offset)
    (hw : l.write rs = .ok (l', offs)) : InvC l' := by
  rw [write_eq l (write_ok_ne hw)] at hw
  cases hw
  refine InvC.of_wfc (by simp) (h.wfc.write h.nonempty hsorted hge) ?_
  show ∀ s ∈ (l.segs.dropLast ++ [{ l.active with recs := l.active.recs ++ rs }]).dropLast, s.recs ≠ []
  rw [List.dropLast_concat]
  exact h.inner_nonempty

theorem checkSplit_fields (l : CLog) :
    l.checkSplit.maxSegBytes = l.maxSegBytes ∧ l.checkSplit.hw = l.hw ∧
    l.checkSplit.readonly = l.readonly ∧ l.checkSplit.occ = l.occ := by
  unfold checkSplit; split <;> simp [CLog.roll]

theorem cleanLog_fields (lim : Retention.Limits) (ttl : Int) (c : Bool) (l : CLog) :
    (cleanLog lim ttl c l).maxSegBytes = l.maxSegBytes ∧
    (cleanLog lim ttl c l).readonly = l.readonly ∧ (cleanLog lim ttl c l).occ = l.occ := by
  unfold cleanLog
  dsimp only
  split
  · split
    · exact ⟨rfl, rfl, rfl⟩
    · split <;> exact ⟨rfl, rfl, rfl⟩
  · split <;> exact ⟨rfl, rfl, rfl⟩

end Liftbridge.Proofs.Cursors
