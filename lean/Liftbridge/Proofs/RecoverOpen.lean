/-
C05: what opening a segment does to a log file with an unindexed tail (the state left by a
crash between the log write and the index write, or by a torn write), on the repaired code
(`validateOnOpen`): the tail is cut off and log, index and in-memory counters agree again. Hence
`WriteMessageSet` is crash-atomic (`write_crash_atomic`); also: suffixed segments start empty
(`run_suffixedM`) and an index that does not belong to its log is rebuilt
(`open_rebuilds_stale_index`).
What a procedure does to the files is ONE statement `Run m fs P Q` (returns only with `Q`, dies only
with `P`, from the file system `fs` and any budget), proved by reading the program forward; the
statements about runs `m s = .ok a s'` / `.crashed s'` are read off with `Run.ok` / `Run.crashed`.
-/
import Liftbridge.Model.Recover
import Liftbridge.Proofs.Recover
import Liftbridge.Proofs.RecoverHW

namespace Liftbridge.Proofs.Recover
open Liftbridge Liftbridge.Log Liftbridge.Recover

theorem lookupF_insertF_self {α} (f : FName) (v : α) : ∀ l : List (FName × α), lookupF f (insertF f v l) = some v
  | [] => by simp [insertF, lookupF]
  | (g, w) :: rest => by
    unfold insertF
    split
    · simp [lookupF]
    · split
      · simp [lookupF]
      · simp [lookupF, *, lookupF_insertF_self f v rest]

theorem lookupF_insertF_ne {α} (f g : FName) (v : α) (hne : g ≠ f) :
    ∀ l : List (FName × α), lookupF g (insertF f v l) = lookupF g l := by
  intro l
  induction l with
  | nil => simp [insertF, lookupF, Ne.symm hne]
  | cons p rest ih =>
    obtain ⟨k, w⟩ := p
    unfold insertF
    split
    · subst k; simp [lookupF, Ne.symm hne]
    · split
      · simp [lookupF, Ne.symm hne]
      · simp only [lookupF, ih]

theorem lookupF_eraseF_self {α} (f : FName) : ∀ l : List (FName × α), lookupF f (eraseF f l) = none
  | [] => rfl
  | (g, w) :: rest => by
    have ih := lookupF_eraseF_self f rest
    unfold eraseF at ih ⊢
    by_cases h : g = f <;> simp [List.filter, h, lookupF] <;> simpa using ih

/-! ### a forward calculus for the crash monad, on the file system -/

/-- Started on the file system `fs` (whatever budget is left), `m` returns `a` only with a file
system satisfying `Q a`, and is killed or fails only with one satisfying `P`. -/
def Run {α} (m : M α) (fs : FS) (P : FS → Prop) (Q : α → FS → Prop) : Prop :=
  ∀ s, s.fs = fs → Sat (fun s' => P s'.fs) (fun a s' => Q a s'.fs) (m s)

section
variable {α β : Type} {m : M α} {f : α → M β} {fs : FS} {P : FS → Prop} {Q Q' : α → FS → Prop} {R : β → FS → Prop}
  {s s' : St}

theorem Run.ok {a : α} (h : Run m s.fs P Q) (hrun : m s = .ok a s') : Q a s'.fs := by
  have := h s rfl; rwa [hrun] at this

theorem Run.crashed (h : Run m s.fs P Q) (hrun : m s = .crashed s') : P s'.fs := by
  have := h s rfl; rwa [hrun] at this

theorem Run.imp (h : Run m fs P Q) (hQ : ∀ a fs', Q a fs' → Q' a fs') : Run m fs P Q' :=
  fun s hs => (h s hs).imp (fun _ h => h) fun _ _ => hQ _ _

/-- The file system on which the rest of the program starts is the one the first part left. -/
theorem run_bind (h : Run m fs P fun a fs1 => Run (f a) fs1 P R) : Run (m >>= f) fs P R :=
  fun s hs => sat_bind (h s hs) fun _ s1 h1 => h1 s1 rfl

/-- Calling a procedure whose behaviour is known. -/
theorem run_call (hm : Run m fs P Q) (hf : ∀ a fs1, Q a fs1 → Run (f a) fs1 P R) : Run (m >>= f) fs P R :=
  run_bind (hm.imp hf)

theorem run_pure {a : α} (h : Q a fs) : Run (pure a : M α) fs P Q := fun _ hs => by subst hs; exact h

theorem run_tick {g : St → St} {Q : Unit → FS → Prop} (hP : P fs)
    (hQ : ∀ s : St, s.fs = fs → Q () (g { s with budget := s.budget - 1, steps := s.steps + 1 }).fs) : Run (tick g) fs P Q := by
  intro s hs
  unfold tick
  split
  · subst hs; exact hP
  · exact hQ s hs

/-- An effect is atomic: the process dies before it or it has happened. -/
theorem run_eff {e : Eff} {Q : Unit → FS → Prop} (hQ : Q () (e.apply fs)) (hP : P fs := by trivial) : Run (eff e) fs P Q :=
  run_tick hP fun _ hs => by subst hs; exact hQ

theorem run_mark {n : String} {Q : Unit → FS → Prop} (hQ : Q () fs) (hP : P fs := by trivial) : Run (mark n) fs P Q :=
  run_tick hP fun _ hs => by subst hs; exact hQ

/-! A straight-line block is read off the program: one `…_then` per primitive, `run_call` for a
procedure whose behaviour is known; the file system the rest starts on is written out. -/

theorem run_eff_then {e : Eff} {f : Unit → M β} (h : Run (f ()) (e.apply fs) P R) (hP : P fs := by trivial) :
    Run (eff e >>= f) fs P R :=
  run_bind (run_eff h hP)

theorem run_mark_then {n : String} {f : Unit → M β} (h : Run (f ()) fs P R) (hP : P fs := by trivial) :
    Run (mark n >>= f) fs P R :=
  run_bind (run_mark h hP)

theorem run_getFS_then {f : FS → M β} (h : Run (f fs) fs P R) : Run (getFS >>= f) fs P R :=
  run_bind fun _ hs => by subst hs; exact h

end

def recsSize (rs : List Rec) : Nat := (rs.map Rec.size).sum

theorem rec_size_pos (r : Rec) : 0 < r.size := by
  simp [Rec.size, Log.msgSetHeaderLen, Gen.Log.msgSetHeaderLen]; omega

theorem recsSize_cons (r : Rec) (rs : List Rec) : recsSize (r :: rs) = r.size + recsSize rs := by
  simp [recsSize]

theorem chunksSize_cons (c : Chunk) (cs : List Chunk) : chunksSize (c :: cs) = c.size + chunksSize cs := by
  simp [chunksSize]

theorem chunksSize_append (a b : List Chunk) : chunksSize (a ++ b) = chunksSize a + chunksSize b := by
  simp [chunksSize]

theorem chunksSize_msgs (rs : List Rec) : chunksSize (rs.map Chunk.msg) = recsSize rs := by
  induction rs with
  | nil => rfl
  | cons r rest ih => rw [List.map_cons, chunksSize_cons, recsSize_cons, ih]; rfl

theorem msgs_positive (rs : List Rec) : ∀ c ∈ rs.map Chunk.msg, 0 < c.size := by
  intro c hc
  obtain ⟨r, _, rfl⟩ := List.mem_map.mp hc
  exact rec_size_pos r

theorem chunkAt_past (c : Chunk) (cs : List Chunk) {p : Nat} (hp : 0 < p) (hc : c.size ≤ p) :
    chunkAt (c :: cs) p = chunkAt cs (p - c.size) := by
  cases p with
  | zero => omega
  | succ p => simp [chunkAt, hc]

/-- Walking over whole records: the chunk at the end of a prefix of records is the next chunk. -/
theorem chunkAt_skip (rs : List Rec) (rest : List Chunk) :
    chunkAt (rs.map Chunk.msg ++ rest) (recsSize rs) = chunkAt rest 0 := by
  induction rs with
  | nil => rfl
  | cons r tl ih =>
    have := rec_size_pos r
    rw [List.map_cons, List.cons_append, recsSize_cons, chunkAt_past _ _ (by omega) (by simp [Chunk.size])]
    simpa [Chunk.size] using ih

theorem entriesFrom_length (rs : List Rec) : ∀ p, (Seg.entriesFrom p rs).length = rs.length := by
  induction rs with
  | nil => intro p; rfl
  | cons r tl ih => intro p; simp [Seg.entriesFrom, ih]

theorem entriesFrom_append (a b : List Rec) : ∀ p,
    Seg.entriesFrom p (a ++ b) = Seg.entriesFrom p a ++ Seg.entriesFrom (p + recsSize a) b := by
  induction a with
  | nil => intro p; simp [Seg.entriesFrom, recsSize]
  | cons r tl ih => intro p; simp [Seg.entriesFrom, ih, recsSize_cons, Nat.add_assoc]

theorem entriesFrom_nonzero (rs : List Rec) : ∀ p, ∀ e ∈ Seg.entriesFrom p rs, entryIsZero e = false := by
  induction rs with
  | nil => intro p e he; simp [Seg.entriesFrom] at he
  | cons r tl ih =>
    intro p e he
    rcases List.mem_cons.mp he with rfl | h
    · have := rec_size_pos r
      simp [entryIsZero]; omega
    · exact ih _ e h

theorem entriesFrom_getLast (a : List Rec) (r : Rec) (p : Nat) :
    (Seg.entriesFrom p (a ++ [r])).getLast? = some { offset := r.offset, ts := r.ts, pos := p + recsSize a, size := r.size } := by
  simp [entriesFrom_append, Seg.entriesFrom]

theorem idxWF_entries (rs : List Rec) (size : Nat) (h : rs.length ≤ size) :
    IdxWF { slots := Seg.entriesFrom 0 rs, size := size } :=
  ⟨by simpa [entriesFrom_length] using h, entriesFrom_nonzero rs 0⟩

theorem tearRev_zero (cs : List Chunk) : tearRev cs 0 = cs := by
  cases cs <;> rfl

theorem tearRev_past (c : Chunk) (cs : List Chunk) {n : Nat} (hn : 0 < n) (hc : c.size ≤ n) :
    tearRev (c :: cs) n = tearRev cs (n - c.size) := by
  cases n with
  | zero => omega
  | succ n => simp [tearRev, hc]

theorem tearRev_exact : ∀ (l x : List Chunk), (∀ c ∈ l, 0 < c.size) → tearRev (l ++ x) (chunksSize l) = x
  | [], x, _ => by cases x <;> simp [tearRev, chunksSize]
  | c :: tl, x, h => by
    have := h c List.mem_cons_self
    rw [List.cons_append, chunksSize_cons, tearRev_past _ _ (by omega) (by omega), Nat.add_sub_cancel_left]
    exact tearRev_exact tl x fun c' hc' => h c' (List.mem_cons_of_mem _ hc')

theorem chunksSize_reverse (l : List Chunk) : chunksSize l.reverse = chunksSize l := by
  simp [chunksSize, List.sum_reverse]

/-- `log.Truncate(size of the indexed records)` removes exactly the tail. -/
theorem truncLog_tail (rs : List Rec) (t : List Chunk) (ht : ∀ c ∈ t, 0 < c.size) :
    (tearRev (rs.map Chunk.msg ++ t).reverse (chunksSize (rs.map Chunk.msg ++ t) - recsSize rs)).reverse = rs.map Chunk.msg := by
  have h1 : chunksSize (rs.map Chunk.msg ++ t) - recsSize rs = chunksSize t.reverse := by
    rw [chunksSize_append, chunksSize_msgs, chunksSize_reverse]; omega
  rw [h1, List.reverse_append, tearRev_exact _ _ (fun c hc => ht c (List.mem_reverse.mp hc))]
  simp

/-- Log file, index file and the in-memory counters of a segment agree on the records `rs`. -/
structure AlignedSeg (fs : FS) (seg : MSeg) (rs : List Rec) : Prop where
  log : fs.log? seg.fname = some (rs.map Chunk.msg)
  idx : ∃ ix, fs.idx? seg.fname = some ix ∧ ix.slots = Seg.entriesFrom 0 rs ∧ rs.length ≤ ix.size
  position : seg.position = recsSize rs
  idxPos : seg.idxPos = rs.length
  lastOffset : seg.lastOffset = (match rs.getLast? with | some r => r.offset | none => -1)
  firstOffset : seg.firstOffset = (match rs.head? with | some r => r.offset | none => -1)

theorem log?_apply_idx (fs : FS) (g : FName) (e : Eff)
    (h : ∀ f cs, e ≠ .createLog f ∧ e ≠ .writeLog f cs) (h2 : ∀ a b, e ≠ .renameLog a b) (h3 : ∀ f, e ≠ .removeLog f)
    (h4 : ∀ f n, e ≠ .truncLog f n ∧ e ≠ .tear f n) : (e.apply fs).log? g = fs.log? g := by
  cases e <;> simp only [Eff.apply, FS.log?] <;> (repeat' split) <;> first
    | rfl
    | (exfalso; first | exact (h _ []).1 rfl | exact (h _ _).2 rfl | exact h2 _ _ rfl | exact h3 _ rfl | exact (h4 _ _).1 rfl | exact (h4 _ _).2 rfl)


section
variable {sh : Shape} {base : Int} {sfx : Sfx} {rs recs : List Rec} {t : List Chunk} {fs : FS} {seg : MSeg}
  {P : FS → Prop}

theorem idxOf_some {fs : FS} {f : FName} {ix : IdxFile} (h : fs.idx? f = some ix) : idxOf fs f = ix := by
  simp [idxOf, h]

/-- What `newIndex` leaves: every log as it was, the index there with the slots it had (none if
it was missing); the size may grow (an empty file is pre-allocated). -/
def NewIdx (fs : FS) (f : FName) (fs' : FS) : Prop :=
  (∀ g, fs'.log? g = fs.log? g) ∧
  ∃ ix, fs'.idx? f = some ix ∧ ix.slots = (idxOf fs f).slots ∧ (idxOf fs f).size ≤ ix.size

theorem run_newIndexM (f : FName) (fs : FS) : Run (newIndexM f) fs (fun _ => True) fun _ => NewIdx fs f := by
  unfold newIndexM
  refine run_eff_then ?_
  have hl : ∀ g, ((Eff.createIdx f).apply fs).log? g = fs.log? g := by
    intro g; simp only [Eff.apply]; split <;> rfl
  have hi : ((Eff.createIdx f).apply fs).idx? f = some (idxOf fs f) := by
    cases hi : fs.idx? f <;> simp only [Eff.apply, idxOf, hi]
    · exact lookupF_insertF_self _ _ _
    · rfl
  generalize (Eff.createIdx f).apply fs = fs1 at hl hi ⊢
  refine run_mark_then (run_getFS_then ?_)
  rw [hi]
  dsimp only
  split
  · rename_i hz
    refine run_eff_then (run_mark ?_)
    simp only [Eff.apply, hi, hz, if_true]
    exact ⟨hl, _, lookupF_insertF_self _ _ _, rfl, hz ▸ Nat.zero_le _⟩
  · exact run_pure ⟨hl, _, hi, rfl, Nat.le_refl _⟩

/-- Log file = the records `rs` then `t`; index file = the entries of `rs` (any size that fits). -/
structure Files (fs : FS) (f : FName) (rs : List Rec) (t : List Chunk) : Prop where
  log : fs.log? f = some (rs.map Chunk.msg ++ t)
  idx : ∃ ix, fs.idx? f = some ix ∧ ix.slots = Seg.entriesFrom 0 rs ∧ rs.length ≤ ix.size

theorem Files.newIdx {f : FName} {fs1 : FS} (hf : Files fs f rs t) (h : NewIdx fs f fs1) : Files fs1 f rs t := by
  obtain ⟨ix, hix, hslots, hfit⟩ := hf.idx
  obtain ⟨hlogs, ix1, hix1, hslots1, hsize1⟩ := h
  rw [idxOf_some hix] at hslots1 hsize1
  exact ⟨by rw [hlogs]; exact hf.log, ix1, hix1, hslots1.trans hslots, by omega⟩

/-- `setupIndex` is `newIndex`, then the rest on what `newIndex` left. -/
theorem run_setupIndexM {Q : MSeg → FS → Prop}
    (h : ∀ fs1, NewIdx fs seg.fname fs1 → Run (setupRestM sh seg) fs1 (fun _ => True) Q) :
    Run (setupIndexM sh seg) fs (fun _ => True) Q :=
  run_call (run_newIndexM _ fs) fun _ => h

theorem truncLog_apply (fs : FS) (f : FName) (n : Nat) (c : List Chunk) (h : fs.log? f = some c) :
    ((Eff.truncLog f n).apply fs).log? f = some (tearRev c.reverse (chunksSize c - n)).reverse ∧
    (∀ g, ((Eff.truncLog f n).apply fs).idx? g = fs.idx? g) := by
  simp only [Eff.apply, h]
  exact ⟨lookupF_insertF_self _ _ _, fun g => rfl⟩

/-- `trimLog`: the log file is cut back to `stop` (`position` is the file size; cutting a file that
is not longer than `stop` changes nothing). -/
theorem run_trim {f : FName} {seg1 : MSeg} {c : List Chunk} {stop' : Nat} (stop : Nat) (hstop : stop' = stop)
    (hlog : fs.log? f = some c) (hpos : seg1.position = chunksSize c) :
    Run (if seg1.position > stop' then do eff (.truncLog f stop'); pure { seg1 with position := stop' } else pure seg1 : M MSeg)
      fs (fun _ => True) fun seg fs' =>
        fs'.log? f = some (tearRev c.reverse (chunksSize c - stop)).reverse ∧ (∀ g, fs'.idx? g = fs.idx? g) ∧
        seg = { seg1 with position := min seg1.position stop } := by
  subst hstop
  split
  · have := truncLog_apply fs f stop' c hlog
    exact run_eff_then (run_pure ⟨this.1, this.2, by rw [Nat.min_eq_right (by omega)]⟩)
  · apply run_pure
    have h0 : chunksSize c - stop' = 0 := by omega
    refine ⟨by rw [h0, tearRev_zero, List.reverse_reverse, hlog], fun _ => rfl, ?_⟩
    rw [Nat.min_eq_left (by omega)]

/-- The segment was opened under its name and log file, index file and counters agree on `rs`. -/
def Opened (base : Int) (sfx : Sfx) (rs : List Rec) (seg : MSeg) (fs' : FS) : Prop :=
  AlignedSeg fs' seg rs ∧ seg.fname = ⟨base, sfx⟩

/-- The end of `setupIndex` on the repaired code when the index position and last entry are those
of `rs`: the counters come from the last index entry, the tail `t` of the log file is cut off and
everything agrees on `rs`. -/
theorem run_setupFinM (hv : sh.validateOnOpen = true) (hf : Files fs ⟨base, sfx⟩ rs t) (ht : ∀ c ∈ t, 0 < c.size) :
    Run (setupFinM sh { base := base, sfx := sfx, position := chunksSize (rs.map Chunk.msg ++ t) } rs.length
      (Seg.entriesFrom 0 rs).getLast?) fs (fun _ => True) (Opened base sfx rs) := by
  obtain ⟨ix, hix, hslots, hfit⟩ := hf.idx
  have hmin : min (chunksSize (rs.map Chunk.msg ++ t)) (recsSize rs) = recsSize rs := by
    rw [chunksSize_append, chunksSize_msgs]; omega
  have hcut := truncLog_tail rs t ht
  unfold setupFinM
  refine run_getFS_then ?_
  simp only [hv, if_true]
  rcases List.eq_nil_or_concat rs with rfl | ⟨a, r, rfl⟩
  · refine (run_trim (recsSize []) rfl hf.log rfl).imp ?_
    rintro seg fs' ⟨hl, hi, rfl⟩
    exact ⟨⟨hl.trans (congrArg some hcut), ⟨ix, (hi _).trans hix, hslots, hfit⟩, hmin, rfl, rfl, rfl⟩, rfl⟩
  · rw [List.concat_eq_append] at *
    rw [entriesFrom_getLast]
    refine (run_trim (recsSize (a ++ [r])) (by simp [recsSize]) hf.log (by rfl)).imp ?_
    rintro seg fs' ⟨hl, hi, rfl⟩
    refine ⟨⟨hl.trans (congrArg some hcut), ⟨ix, (hi _).trans hix, hslots, hfit⟩, hmin, rfl, by simp, ?_⟩, rfl⟩
    show ((idxOf fs ⟨base, sfx⟩).slotAt base 0).offset = _
    cases a <;> simp [idxOf_some hix, IdxFile.slotAt, hslots, Seg.entriesFrom]

/-- `InitializePosition` on an index whose written slots are the entries of `rs` (offsets not below
the base): position `|rs|`, last entry = the entry of the last record. -/
theorem initPosition_entries (ix : IdxFile) (base : Int) (rs : List Rec)
    (hslots : ix.slots = Seg.entriesFrom 0 rs) (hfit : rs.length ≤ ix.size) (hbase : ∀ r ∈ rs, base ≤ r.offset) :
    initPosition ix base = .ok rs.length (Seg.entriesFrom 0 rs).getLast? := by
  have hwf : IdxWF ix := by cases ix; subst hslots; exact idxWF_entries rs _ hfit
  rw [initPosition_spec ix base hwf, hslots]
  rcases List.eq_nil_or_concat rs with rfl | ⟨a, r, rfl⟩
  · rfl
  · have hnc : Gen.Recover.corruptCmp.evalInt r.offset base = false := by
      have := hbase r (by simp)
      simp [Gen.Recover.corruptCmp, Cmp.evalInt]; omega
    rw [List.concat_eq_append, entriesFrom_getLast]
    simp [hnc, entriesFrom_length]

/-- The last index entry of `rs` describes the last record of the log `rs ++ t`. -/
theorem lastMatches_entries (fs : FS) (seg0 : MSeg) (rs : List Rec) (t : List Chunk)
    (hlog : fs.log? seg0.fname = some (rs.map Chunk.msg ++ t)) :
    lastMatches fs seg0 (Seg.entriesFrom 0 rs).getLast? = true := by
  rcases List.eq_nil_or_concat rs with rfl | ⟨a, r, rfl⟩
  · rfl
  · -- the entry's position is the end of the records before the last one
    have hat : chunkAt ((a ++ [r]).map Chunk.msg ++ t) (0 + recsSize a) = .msg r := by
      rw [List.map_append, List.append_assoc, Nat.zero_add, chunkAt_skip]
      rfl
    rw [List.concat_eq_append] at hlog ⊢
    simp only [entriesFrom_getLast, lastMatches, hlog, Option.getD_some, hat]
    simp

theorem lastMatches_log {fs fs' : FS} {seg0 : MSeg} (h : fs'.log? seg0.fname = fs.log? seg0.fname) (last : Option Entry) :
    lastMatches fs' seg0 last = lastMatches fs seg0 last := by
  unfold lastMatches; rw [h]

theorem run_setupRestM_reconciles (hv : sh.validateOnOpen = true)
    (hf : Files fs ⟨base, sfx⟩ rs t) (hbase : ∀ r ∈ rs, base ≤ r.offset) (ht : ∀ c ∈ t, 0 < c.size) :
    Run (setupRestM sh { base := base, sfx := sfx, position := chunksSize (rs.map Chunk.msg ++ t) }) fs (fun _ => True)
      (Opened base sfx rs) := by
  obtain ⟨ix, hix, hslots, hfit⟩ := hf.idx
  unfold setupRestM
  refine run_getFS_then ?_
  simp only [MSeg.fname, idxOf_some hix, initPosition_entries ix base rs hslots hfit hbase]
  have hm := lastMatches_entries fs { base := base, sfx := sfx, position := chunksSize (rs.map Chunk.msg ++ t) } rs t hf.log
  simp only [hm, Bool.not_true, Bool.and_false, Bool.false_eq_true, if_false]
  exact run_setupFinM hv hf ht

/-- Opening a segment on the repaired code reconciles log and index. Whatever follows the indexed
records `rs` in the log file — whole message sets whose index entries were never written (the
process died between `write(log)` and `writeEntries(index)`), or the incomplete bytes of a torn
write — is cut off, and the log file, the index file and the in-memory position, index position
and first/last offset agree on `rs`. -/
theorem run_open_reconciles (hv : sh.validateOnOpen = true)
    (hf : Files fs ⟨base, sfx⟩ rs t) (hbase : ∀ r ∈ rs, base ≤ r.offset) (ht : ∀ c ∈ t, 0 < c.size) :
    Run (setupIndexM sh { base := base, sfx := sfx, position := chunksSize (rs.map Chunk.msg ++ t) }) fs (fun _ => True)
      (Opened base sfx rs) :=
  run_setupIndexM fun _ h1 => run_setupRestM_reconciles hv (hf.newIdx h1) hbase ht

theorem AlignedSeg.files {fs : FS} {seg : MSeg} {rs : List Rec} (h : AlignedSeg fs seg rs) : Files fs seg.fname rs [] :=
  ⟨by simpa using h.log, h.idx⟩

theorem writeLog_apply (fs : FS) (f : FName) (c cs : List Chunk) (h : fs.log? f = some c) :
    ((Eff.writeLog f cs).apply fs).log? f = some (c ++ cs) ∧ (∀ g, ((Eff.writeLog f cs).apply fs).idx? g = fs.idx? g) := by
  simp only [Eff.apply, h]
  exact ⟨lookupF_insertF_self _ _ _, fun g => rfl⟩

theorem writeIdx_apply (fs : FS) (f : FName) (k : Nat) (es : List Entry) (ix : IdxFile) (h : fs.idx? f = some ix) :
    ((Eff.writeIdx f k es).apply fs).idx? f =
      some { slots := ix.slots.take k ++ es,
             size := if k + es.length ≥ ix.size then max (ix.size + idxSlots) (k + es.length) else ix.size } ∧
    (∀ g, ((Eff.writeIdx f k es).apply fs).log? g = fs.log? g) := by
  simp only [Eff.apply, h]
  exact ⟨lookupF_insertF_self _ _ _, fun g => rfl⟩

/-- `segment.write`: one effect; the counters it sets leave name and index position alone. -/
theorem run_writeLogM {es : List Entry} (hP : P fs) :
    Run (writeLogM seg recs es) fs P fun seg1 fs1 =>
      fs1 = (Eff.writeLog seg.fname (recs.map Chunk.msg)).apply fs ∧ seg1.fname = seg.fname ∧ seg1.idxPos = seg.idxPos := by
  unfold writeLogM
  refine run_eff_then (run_pure ⟨rfl, ?_, ?_⟩) hP <;> simp only [MSeg.fname] <;> split <;> (try split) <;> rfl

/-- `WriteMessageSet` on a segment that is aligned on `rs`, when `recs` are written with the entries
`commitLog.Append` computes for them: whenever the process dies it leaves the old files; or the
log with `recs` appended and the old index (the gap); or both written. -/
theorem run_writeM (hw : sh.writeLogFirst = true) (hal : AlignedSeg fs seg rs) :
    Run (writeM sh seg recs (Seg.entriesFrom seg.position recs)) fs
      (fun fs' => Files fs' seg.fname rs [] ∨ Files fs' seg.fname rs (recs.map Chunk.msg) ∨ Files fs' seg.fname (rs ++ recs) [])
      fun _ _ => True := by
  obtain ⟨ix, hi, hslots, hfit⟩ := hal.idx
  obtain ⟨hl1, hi1⟩ := writeLog_apply fs seg.fname _ (recs.map Chunk.msg) hal.log
  have gap : Files ((Eff.writeLog seg.fname (recs.map Chunk.msg)).apply fs) seg.fname rs (recs.map Chunk.msg) :=
    ⟨hl1, ix, by rw [hi1, hi], hslots, hfit⟩
  obtain ⟨hi3, hl3⟩ := writeIdx_apply _ seg.fname rs.length (Seg.entriesFrom seg.position recs) ix (by rw [hi1, hi])
  have both : Files ((Eff.writeIdx seg.fname rs.length (Seg.entriesFrom seg.position recs)).apply
      ((Eff.writeLog seg.fname (recs.map Chunk.msg)).apply fs)) seg.fname (rs ++ recs) [] := by
    refine ⟨by rw [hl3, gap.log]; simp, _, hi3, ?_, ?_⟩
    · rw [hslots, ← entriesFrom_length rs 0, List.take_length, entriesFrom_append, hal.position, Nat.zero_add]
    · show (rs ++ recs).length ≤ if _ then _ else _
      rw [entriesFrom_length, List.length_append]
      split
      · exact Nat.le_max_right _ _
      · omega
  unfold writeM
  simp only [hw, if_true]
  -- dies before the log write: old files; before the mark or the index write: the gap; after it: both
  refine run_call (run_writeLogM (.inl hal.files)) ?_
  rintro seg1 _ ⟨rfl, hname, hpos⟩
  unfold writeIdxM
  rw [hname, hpos, hal.idxPos]
  exact run_mark_then (run_eff_then (run_mark_then (run_pure trivial) (.inr (.inr both))) (.inr (.inl gap))) (.inr (.inl gap))

/-- `WriteMessageSet` is crash-atomic on the repaired code: a segment aligned on `rs` receives the
message set `recs`; the process is killed at ANY step of `WriteMessageSet`; a new process opens
the segment (position = file size). Then log, index and counters agree on `rs` (the append never
happened) or on `rs ++ recs` (it happened completely). -/
theorem write_crash_atomic {sh : Shape} (hw : sh.writeLogFirst = true) (hv : sh.validateOnOpen = true)
    {seg' : MSeg} {s s' s2 s3 : St} (hal : AlignedSeg s.fs seg rs)
    (hbase : ∀ r ∈ rs ++ recs, seg.base ≤ r.offset)
    (hcrash : writeM sh seg recs (Seg.entriesFrom seg.position recs) s = .crashed s') (hsame : s2.fs = s'.fs)
    (hopen : setupIndexM sh { base := seg.base, sfx := seg.sfx, position := s2.fs.logSize seg.fname } s2 = .ok seg' s3) :
    AlignedSeg s3.fs seg' rs ∨ AlignedSeg s3.fs seg' (rs ++ recs) := by
  have key : ∀ {rs' t}, Files s2.fs seg.fname rs' t → (∀ r ∈ rs', seg.base ≤ r.offset) → (∀ c ∈ t, 0 < c.size) →
      AlignedSeg s3.fs seg' rs' := by
    intro rs' t hf hb ht
    have hpos : s2.fs.logSize seg.fname = chunksSize (rs'.map Chunk.msg ++ t) := by simp [FS.logSize, hf.log]
    rw [hpos] at hopen
    exact ((run_open_reconciles hv hf hb ht).ok hopen).1
  have hrs : ∀ r ∈ rs, seg.base ≤ r.offset := fun r hr => hbase r (List.mem_append_left _ hr)
  rw [hsame] at key
  rcases (run_writeM hw hal).crashed hcrash with h | h | h
  · exact .inl (key h hrs (by simp))
  · exact .inl (key h hrs (msgs_positive recs))
  · exact .inr (key h hbase (by simp))

theorem run_effIf {c : Prop} [Decidable c] {e : Eff} {Q : Unit → FS → Prop} (hP : P fs)
    (hQ : Q () (if c then e.apply fs else fs)) : Run (if c then eff e else pure () : M Unit) fs P Q := by
  split <;> rename_i hc
  · rw [if_pos hc] at hQ; exact run_eff hQ hP
  · rw [if_neg hc] at hQ; exact run_pure hQ

theorem run_removeStaleM (f : FName) :
    Run (removeStaleM f) fs (fun _ => True) fun _ fs' => fs'.log? f = none ∧ fs'.idx? f = none := by
  unfold removeStaleM
  refine run_getFS_then (run_bind (run_effIf trivial (run_effIf trivial ?_)))
  cases hl : fs.log? f <;> cases hi : fs.idx? f <;>
    simp [Eff.apply, FS.log?, FS.idx?, lookupF_eraseF_self] <;> simp_all [FS.log?, FS.idx?]

/-- `newSegment` when neither file exists: an empty segment. -/
theorem run_newSegmentM_fresh (hv : sh.validateOnOpen = true)
    (hl : fs.log? ⟨base, sfx⟩ = none) (hi : fs.idx? ⟨base, sfx⟩ = none) :
    Run (newSegmentM sh base false sfx) fs (fun _ => True) (Opened base sfx []) := by
  unfold newSegmentM
  refine run_getFS_then ?_
  simp only [Bool.false_and, Bool.false_eq_true, if_false]
  have hl3 : ((Eff.createLog ⟨base, sfx⟩).apply fs).log? ⟨base, sfx⟩ = some ([].map Chunk.msg ++ []) := by
    simp only [Eff.apply, hl]; exact lookupF_insertF_self _ _ _
  have hi3 : ((Eff.createLog ⟨base, sfx⟩).apply fs).idx? ⟨base, sfx⟩ = none := by simp only [Eff.apply, hl]; exact hi
  refine run_eff_then (run_mark_then (run_getFS_then ?_))
  generalize (Eff.createLog ⟨base, sfx⟩).apply fs = fs3 at hl3 hi3 ⊢
  rw [show fs3.logSize ⟨base, sfx⟩ = chunksSize ([].map Chunk.msg ++ []) by simp [FS.logSize, hl3]]
  refine run_call (Q := Opened base sfx []) (run_setupIndexM fun fs1 h1 => ?_) fun seg fs' h => ?_
  · obtain ⟨hlogs, ix1, hix1, hslots1, -⟩ := h1
    rw [MSeg.fname, idxOf, hi3] at hslots1
    exact run_setupRestM_reconciles hv ⟨by rw [hlogs]; exact hl3, ix1, hix1, hslots1, Nat.zero_le _⟩ (by simp) (by simp)
  · exact run_mark_then (run_pure h)

/-- `Cleaned()` / `Truncated()` on the repaired code start from scratch: whatever files with that
name a crashed clean or truncate left behind, the new suffixed segment is empty — log file,
index file and counters. (The unrepaired code reopens them in append mode.) -/
theorem run_suffixedM (hr : sh.removeStaleSuffix = true) (hv : sh.validateOnOpen = true) :
    Run (suffixedM sh base sfx) fs (fun _ => True) (Opened base sfx []) := by
  unfold suffixedM
  simp only [hr, if_true]
  exact run_call (run_removeStaleM _) fun _ _ h => run_newSegmentM_fresh hv h.1 h.2

/-! ### A stale index (crash between the two renames of a segment replacement) -/

theorem leadingRecs_append (rs : List Rec) {t : List Chunk} (ht : leadingRecs t = []) :
    leadingRecs (rs.map Chunk.msg ++ t) = rs := by
  induction rs with
  | nil => exact ht
  | cons r tl ih => simp [leadingRecs, ih]

theorem run_rebuild_go (f : FName) : ∀ (es : List Entry) (k : Nat) (fs : FS) (ix : IdxFile),
    fs.idx? f = some ix → ix.slots.length = k → ix.slots.length ≤ ix.size →
    Run (rebuildIndexM.go f k es) fs (fun _ => True) fun _ fs' =>
      (∀ g, fs'.log? g = fs.log? g) ∧
      ∃ ix', fs'.idx? f = some ix' ∧ ix'.slots = ix.slots ++ es ∧ ix'.slots.length ≤ ix'.size
  | [], k, fs, ix, hi, _, hf => by
    unfold rebuildIndexM.go
    exact run_pure ⟨fun g => rfl, ix, hi, by simp, hf⟩
  | e :: rest, k, fs, ix, hi, hk, hf => by
    subst hk
    unfold rebuildIndexM.go
    obtain ⟨hi1, hl1⟩ := writeIdx_apply fs f ix.slots.length [e] ix hi
    rw [List.take_length] at hi1
    refine run_eff_then (run_mark_then ?_)
    refine (run_rebuild_go f rest _ _ _ hi1 (by simp) (by
      simp only [List.length_append, List.length_singleton]
      split
      · exact Nat.le_max_right _ _
      · omega)).imp ?_
    rintro _ fs' ⟨hl', ix', hi', hs', hf'⟩
    exact ⟨fun g => by rw [hl', hl1], ix', hi', by rw [hs']; simp, hf'⟩

/-- `rebuildIndex`, for any log content and any (or no) old index: the index holds the entries of
the leading whole records; no log is touched. -/
theorem run_rebuildIndexM {n : Nat} :
    Run (rebuildIndexM seg n) fs (fun _ => True) fun _ fs' =>
      (∀ g, fs'.log? g = fs.log? g) ∧
      ∃ ix, fs'.idx? seg.fname = some ix ∧
        ix.slots = Seg.entriesFrom 0 (leadingRecs ((fs.log? seg.fname).getD [])) ∧ ix.slots.length ≤ ix.size := by
  unfold rebuildIndexM
  refine run_eff_then (run_mark_then (run_eff_then ?_))
  have hl3 : ∀ g, ((Eff.removeIdx seg.fname).apply ((Eff.shrinkIdx seg.fname n).apply fs)).log? g = fs.log? g := by
    intro g; simp only [Eff.apply, FS.log?]; split <;> rfl
  have hi3 : ((Eff.removeIdx seg.fname).apply ((Eff.shrinkIdx seg.fname n).apply fs)).idx? seg.fname = none := by
    simp [Eff.apply, FS.idx?, lookupF_eraseF_self]
  generalize (Eff.removeIdx seg.fname).apply ((Eff.shrinkIdx seg.fname n).apply fs) = fs3 at hl3 hi3
  refine run_call (run_newIndexM _ _) ?_
  rintro _ fs4 ⟨hl4, ix4, hi4, hs4, -⟩
  rw [idxOf, hi3] at hs4
  refine run_getFS_then ?_
  refine (run_rebuild_go _ _ 0 fs4 ix4 hi4 (by rw [hs4]; rfl) (by rw [hs4]; exact Nat.zero_le _)).imp ?_
  rintro _ fs5 ⟨hl5, ix5, hi5, hs5, hf5⟩
  refine ⟨fun g => by rw [hl5, hl4, hl3], ix5, hi5, ?_, hf5⟩
  rw [hs5, hs4, hl4, hl3]; rfl

/-- The corrupt-index path of `setupIndex`. -/
theorem run_setupAgainM (hv : sh.validateOnOpen = true) {n : Nat}
    (hlog : fs.log? ⟨base, sfx⟩ = some (rs.map Chunk.msg ++ t)) (hlead : leadingRecs t = [])
    (hbase : ∀ r ∈ rs, base ≤ r.offset) (ht : ∀ c ∈ t, 0 < c.size) :
    Run (setupAgainM sh { base := base, sfx := sfx, position := chunksSize (rs.map Chunk.msg ++ t) } n) fs (fun _ => True)
      (Opened base sfx rs) := by
  unfold setupAgainM
  refine run_call run_rebuildIndexM ?_
  rintro _ fs2 ⟨hl2, ix2, hi2, hs2, hf2⟩
  rw [MSeg.fname, hlog, Option.getD_some, leadingRecs_append rs hlead] at hs2
  rw [hs2, entriesFrom_length] at hf2
  refine run_getFS_then ?_
  simp only [MSeg.fname] at hi2 ⊢
  rw [idxOf_some hi2, initPosition_entries ix2 base rs hs2 hf2 hbase]
  exact run_setupFinM hv ⟨by rw [hl2, hlog], ix2, hi2, hs2, hf2⟩ ht

/-- `setupIndex` with a well-formed index whose last entry is corrupt or does not match the log:
both lead to the rebuild. -/
theorem run_open_rebuilds (hv : sh.validateOnOpen = true) {ix : IdxFile}
    (hlog : fs.log? ⟨base, sfx⟩ = some (rs.map Chunk.msg ++ t)) (hlead : leadingRecs t = [])
    (hidx : fs.idx? ⟨base, sfx⟩ = some ix) (hwf : IdxWF ix)
    (hstale : lastMatches fs { base := base, sfx := sfx, position := chunksSize (rs.map Chunk.msg ++ t) } ix.slots.getLast? = false)
    (hbase : ∀ r ∈ rs, base ≤ r.offset) (ht : ∀ c ∈ t, 0 < c.size) :
    Run (setupIndexM sh { base := base, sfx := sfx, position := chunksSize (rs.map Chunk.msg ++ t) }) fs (fun _ => True)
      (Opened base sfx rs) := by
  refine run_setupIndexM fun fs1 h1 => ?_
  obtain ⟨hlogs1, ix1, hix1, hslots1, hsize1⟩ := h1
  simp only [MSeg.fname, idxOf_some hidx] at hix1 hslots1 hsize1
  have hwf1 : IdxWF ix1 := ⟨by rw [hslots1]; exact Nat.le_trans hwf.fits hsize1, by rw [hslots1]; exact hwf.nonzero⟩
  have hlog1 : fs1.log? ⟨base, sfx⟩ = some (rs.map Chunk.msg ++ t) := by rw [hlogs1]; exact hlog
  have hstale1 := (lastMatches_log (hlogs1 _) _).trans hstale
  unfold setupRestM
  refine run_getFS_then ?_
  simp only [MSeg.fname]
  rw [idxOf_some hix1, initPosition_spec ix1 base hwf1, hslots1]
  cases hl : ix.slots.getLast? with
  | none => rw [hl] at hstale1; cases hstale1
  | some e =>
    rw [hl] at hstale1
    dsimp only
    by_cases hc : Gen.Recover.corruptCmp.evalInt e.offset base = true
    · simp only [hc, if_true]
      exact run_setupAgainM hv hlog1 hlead hbase ht
    · simp only [hc, hv, hstale1, Bool.not_false, Bool.and_self, if_true, Bool.false_eq_true, if_false]
      exact run_setupAgainM hv hlog1 hlead hbase ht

end

/-- Opening a segment whose index does not belong to its log, on the repaired code: when the last
index entry does not describe the record at its position (or lies below the base offset), the
index is rebuilt from the log and everything agrees on the records of the log. This is the state
left by a crash between the two renames of `Replace` (new log under the old index). -/
theorem open_rebuilds_stale_index (sh : Shape) (hv : sh.validateOnOpen = true) (base : Int) (sfx : Sfx)
    (rs : List Rec) (ix : IdxFile) (s s' : St) (seg : MSeg)
    (hlog : s.fs.log? ⟨base, sfx⟩ = some (rs.map Chunk.msg))
    (hidx : s.fs.idx? ⟨base, sfx⟩ = some ix) (hwf : IdxWF ix)
    (hstale : lastMatches s.fs { base := base, sfx := sfx, position := chunksSize (rs.map Chunk.msg) } ix.slots.getLast? = false)
    (hbase : ∀ r ∈ rs, base ≤ r.offset)
    (hrun : setupIndexM sh { base := base, sfx := sfx, position := chunksSize (rs.map Chunk.msg) } s = .ok seg s') :
    AlignedSeg s'.fs seg rs ∧ seg.fname = ⟨base, sfx⟩ := by
  rw [← List.append_nil (rs.map Chunk.msg)] at hlog hstale hrun
  exact (run_open_rebuilds hv hlog rfl hidx hwf hstale hbase (by simp)).ok hrun
end Liftbridge.Proofs.Recover
