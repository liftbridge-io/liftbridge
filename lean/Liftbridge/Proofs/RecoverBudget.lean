/-
C05: no program of the crash monad looks at the number of steps it has left (`Prog.uniform`, one
induction over `Prog`). A run that returns or fails therefore does the same under every larger
budget, a workload that finishes within `n` steps has no crash step from `n` on, and `crashOK` at
EVERY step follows from its first `n` instances.
-/
import Liftbridge.Model.Recover
import Liftbridge.Proofs.RecoverProg

namespace Liftbridge.Proofs.Recover
open Liftbridge Liftbridge.Log Liftbridge.Recover

/-- The state with `d` more steps to run. -/
def more (s : St) (d : Nat) : St := { s with budget := s.budget + d }

/-- A run of `m` that returns or fails does the same with `d` more steps, and has `d` more left
(returned values satisfy `Q`). -/
structure Uniform {α} (m : M α) (Q : α → Prop := fun _ => True) : Prop where
  run : ∀ s d, match m s with
    | .ok a s' => Q a ∧ m (more s d) = .ok a (more s' d)
    | .fail e s' => m (more s d) = .fail e (more s' d)
    | .crashed _ => True

theorem uniform_bind {α β} {m : M α} {f : α → M β} {Q : α → Prop} {R : β → Prop}
    (hm : Uniform m Q) (hf : ∀ a, Q a → Uniform (f a) R) : Uniform (m >>= f) R := by
  refine ⟨fun s d => ?_⟩
  have h := hm.run s d
  show match M.bind m f s with
    | .ok a s' => R a ∧ M.bind m f (more s d) = .ok a (more s' d)
    | .fail e s' => M.bind m f (more s d) = .fail e (more s' d)
    | .crashed _ => True
  unfold M.bind
  cases hs : m s with
  | ok a s' => rw [hs] at h; rw [h.2]; exact (hf a h.1).run s' d
  | crashed s' => trivial
  | fail e s' => rw [hs] at h; rw [h]

/-- A primitive step whose action does not look at the budget. -/
theorem uniform_tick {f : St → St} (hf : ∀ s d, f (more s d) = more (f s) d) : Uniform (tick f) := by
  refine ⟨fun s d => ?_⟩
  unfold tick
  by_cases hb : s.budget = 0
  · simp [hb]
  · have hd : (more s d).budget ≠ 0 := by simp only [more]; omega
    simp only [hb, hd, if_false, true_and]
    rw [← hf]
    simp only [more]
    congr 3
    omega

theorem Prog.uniform {E : Eff → Prop} {α} {m : M α} {Q : α → Prop} (h : Prog E m Q) : Uniform m Q := by
  induction h with
  | pure h => exact ⟨fun _ _ => ⟨h, rfl⟩⟩
  | bind _ _ ihm ihf => exact uniform_bind ihm ihf
  | eff _ => exact uniform_tick fun _ _ => rfl
  | mark n => exact uniform_tick fun _ _ => rfl
  | getFS => exact ⟨fun _ _ => ⟨trivial, rfl⟩⟩
  | fail e => exact ⟨fun _ _ => rfl⟩
  | @mapFail _ m m' _ _ hg ih =>
    obtain ⟨g, hg⟩ := hg
    refine ⟨fun s d => ?_⟩
    have := ih.run s d
    rw [hg s, hg (more s d)]
    cases h : m s <;> simp only [h] at this <;> simp only [this] <;> trivial

theorem Uniform.weaken {α} {m : M α} {Q : α → Prop} (h : Uniform m Q) : Uniform m := by
  refine ⟨fun s d => ?_⟩
  have := h.run s d
  cases hs : m s <;> simp only [hs] at this ⊢
  · exact ⟨trivial, this.2⟩
  · exact this

theorem uniform_recoverM {cfg} : Uniform (recoverM cfg) := by
  obtain ⟨k, hk, hp⟩ := prog_recoverM (W := fun _ => True) cfg
  rw [hk]
  exact uniform_bind (Q := fun _ => True) ⟨fun _ _ => ⟨trivial, rfl⟩⟩ fun fs _ => (hp fs).uniform.weaken

theorem uniform_stepOp {m op} : Uniform (stepOp m op) := by
  cases op with
  | append => exact (prog_appendM (W := fun _ => True)).uniform.weaken
  | setHW => exact ⟨fun _ _ => ⟨trivial, rfl⟩⟩
  | checkpointHW => exact uniform_bind (prog_checkpointHWM (Int.le_refl _)).uniform fun _ _ => ⟨fun _ _ => ⟨trivial, rfl⟩⟩
  | truncate => exact (prog_truncateM (W := fun _ => True)).uniform.weaken
  | clean => exact (prog_cleanM (W := fun _ => True)).uniform.weaken
  | roll => exact (prog_rollM (W := fun _ => True)).uniform.weaken
  | reopen => exact uniform_bind (prog_closeM (Int.le_refl _)).uniform fun _ _ => uniform_recoverM

theorem uniform_runOps {m ops} : Uniform (runOps m ops) := by
  induction ops generalizing m with
  | nil => exact ⟨fun _ _ => ⟨trivial, rfl⟩⟩
  | cons _ _ ih =>
    -- the ghost step `opDone` takes no budget
    exact uniform_bind uniform_stepOp fun _ _ => uniform_bind (Q := fun _ => True) ⟨fun _ _ => ⟨trivial, rfl⟩⟩ fun _ _ => ih

theorem uniform_life {cfg ops} : Uniform (life cfg ops) :=
  uniform_bind uniform_recoverM fun _ _ => uniform_bind (Q := fun _ => True) ⟨fun _ _ => ⟨trivial, rfl⟩⟩ fun _ _ => uniform_runOps

/-- A workload that has finished (returned or failed) within `n` steps has no crash step from `n` on. -/
theorem crashAt_none {cfg : Cfg} {ops : List Op} {n k : Nat} (h : crashAt cfg ops n = none) (hk : n ≤ k) :
    crashAt cfg ops k = none := by
  obtain ⟨d, rfl⟩ := Nat.exists_eq_add_of_le hk
  have hu := (uniform_life (cfg := cfg) (ops := ops)).run { fs := {}, budget := n } d
  unfold crashAt at h ⊢
  rw [show ({ fs := {}, budget := n + d } : St) = more { fs := {}, budget := n } d from rfl]
  cases hl : life cfg ops { fs := {}, budget := n } with
  | crashed s => simp [hl] at h
  | ok a s => rw [hl] at hu; rw [hu.2]
  | fail e s => rw [hl] at hu; rw [hu]

/-- `crashOK` at EVERY step from its instances below `n`, for a workload that finishes within `n`
steps: from `n` on there is nothing to crash. -/
theorem crashOK_of_finished {cfg : Cfg} {ops : List Op} (n : Nat) (hn : crashAt cfg ops n = none)
    (h : ∀ k < n, crashOK cfg ops k = true) (k : Nat) : crashOK cfg ops k = true := by
  by_cases hk : k < n
  · exact h k hk
  · unfold crashOK
    rw [crashAt_none hn (Nat.le_of_not_lt hk)]

end Liftbridge.Proofs.Recover
