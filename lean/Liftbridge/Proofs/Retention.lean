/- Helper lemmas about `Liftbridge.Retention` (C09). -/
import Liftbridge.Model.Retention
import Liftbridge.Proofs.Search
namespace Liftbridge.Proofs.Retention
open Liftbridge Liftbridge.Log Liftbridge.Retention

theorem sum_map_nonneg (size : Seg → Int) (a : List Seg) (h : ∀ s ∈ a, 0 ≤ size s) :
    0 ≤ (a.map size).sum := by
  induction a with
  | nil => simp
  | cons x xs ih =>
    have h1 := h x (by simp)
    have h2 := ih (fun s hs => h s (by simp [hs]))
    simp only [List.map_cons, List.sum_cons]; omega

theorem msgSize_nonneg (s : Seg) : 0 ≤ msgSize s := by simp [msgSize]
theorem byteSize_nonneg (s : Seg) : 0 ≤ byteSize s := by simp [byteSize]

theorem applyAge_spec (ttl : Int) (segs : List Seg) :
    ∃ pre, segs = pre ++ applyAge ttl segs ∧ (∀ s ∈ pre, s.lastTs < ttl) ∧
      (segs ≠ [] → applyAge ttl segs ≠ []) ∧
      (1 < (applyAge ttl segs).length → ∀ s, (applyAge ttl segs).head? = some s → ttl ≤ s.lastTs) := by
  fun_induction applyAge ttl segs with
  | case1 => exact ⟨[], rfl, by simp, id, by simp⟩
  | case2 s => exact ⟨[], rfl, by simp, id, by simp⟩
  | case3 s s' rest h ih =>
    obtain ⟨pre, h1, h2, h3, h4⟩ := ih
    refine ⟨s :: pre, by rw [List.cons_append, ← h1], fun x hx => ?_, fun _ => h3 (by simp), h4⟩
    rcases List.mem_cons.mp hx with rfl | hx
    · simpa [Gen.Retention.ageCmp, Cmp.evalInt] using h
    · exact h2 x hx
  | case4 s s' rest h =>
    refine ⟨[], rfl, by simp, id, fun _ x hx => ?_⟩
    obtain rfl : s = x := by simpa using hx
    simpa [Gen.Retention.ageCmp, Cmp.evalInt] using h

theorem applyAge_id (ttl : Int) (segs : List Seg)
    (h : 1 < segs.length → ∀ s, segs.head? = some s → ttl ≤ s.lastTs) :
    applyAge ttl segs = segs := by
  match segs, h with
  | [], _ => rfl
  | [s], _ => rfl
  | s :: s' :: rest, h =>
    have := h (by simp) s rfl
    have hn : ¬ s.lastTs < ttl := by omega
    rw [applyAge]
    simp [Gen.Retention.ageCmp, Cmp.evalInt, hn]

/-! ### Count / byte stages (`keepBack`, `applyLimit` with `>`), for an arbitrary `size` -/

theorem keepBack_spec (limit : Int) (size : Seg → Int) (l : List Seg) (t : Int) :
    ∃ rest, l = keepBack .gt limit size l t ++ rest ∧
      (keepBack .gt limit size l t ≠ [] →
        t + ((keepBack .gt limit size l t).map size).sum ≤ limit) ∧
      (∀ s, rest.head? = some s →
        limit < t + ((keepBack .gt limit size l t).map size).sum + size s) := by
  induction l generalizing t with
  | nil => exact ⟨[], by simp [keepBack]⟩
  | cons x xs ih =>
    by_cases hx : limit < t + size x
    · refine ⟨x :: xs, ?_, ?_, ?_⟩ <;> simp [keepBack, Cmp.evalInt, hx]
    · obtain ⟨rest, h1, h2, h3⟩ := ih (t + size x)
      have hk : keepBack .gt limit size (x :: xs) t
          = x :: keepBack .gt limit size xs (t + size x) := by
        simp [keepBack, Cmp.evalInt, hx]
      rw [hk]
      simp only [List.map_cons, List.sum_cons]
      refine ⟨rest, by rw [List.cons_append, ← h1], fun _ => ?_, fun s hs => by have := h3 s hs; omega⟩
      by_cases hnil : keepBack .gt limit size xs (t + size x) = []
      · simp only [hnil, List.map_nil, List.sum_nil]; omega
      · have := h2 hnil; omega

theorem applyLimit_rev (cmp : Cmp) (limit : Int) (size : Seg → Int) (last : Seg)
    (revInit : List Seg) :
    applyLimit cmp limit size (last :: revInit).reverse
      = (keepBack cmp limit size revInit (size last)).reverse ++ [last] := by
  simp [applyLimit]

/-- Full description of one count/byte stage: the result is a non-empty suffix, within the limit
unless it is a single segment, and the segment just before it (if any) would break the limit. -/
theorem applyLimit_spec (limit : Int) (size : Seg → Int) (segs : List Seg) :
    ∃ pre, segs = pre ++ applyLimit .gt limit size segs ∧
      (segs ≠ [] → applyLimit .gt limit size segs ≠ []) ∧
      (1 < (applyLimit .gt limit size segs).length →
        ((applyLimit .gt limit size segs).map size).sum ≤ limit) ∧
      (∀ s, pre.getLast? = some s →
        limit < size s + ((applyLimit .gt limit size segs).map size).sum) := by
  obtain ⟨r, rfl⟩ : ∃ r, segs = r.reverse := ⟨segs.reverse, by simp⟩
  cases r with
  | nil => exact ⟨[], by simp [applyLimit]⟩
  | cons last revInit =>
    rw [applyLimit_rev]
    obtain ⟨rest, h1, h2, h3⟩ := keepBack_spec limit size revInit (size last)
    generalize keepBack .gt limit size revInit (size last) = kept at h1 h2 h3 ⊢
    subst h1
    refine ⟨rest.reverse, by simp, by simp, fun hl => ?_, fun s hs => ?_⟩
    · have := h2 (by rintro rfl; simp at hl)
      simp [List.sum_append]
      omega
    · have := h3 s (by simpa [List.getLast?_reverse] using hs)
      simp [List.sum_append]
      omega

/-! ### The stages of `clean` (age, messages, bytes, age again) -/

def stageA (lim : Limits) (ttl : Int) (segs : List Seg) : List Seg :=
  if 0 < lim.age then applyAge ttl segs else segs
def stageL (limit : Int) (size : Seg → Int) (segs : List Seg) : List Seg :=
  if 0 < limit then applyLimit .gt limit size segs else segs

theorem clean_eq (lim : Limits) (ttl : Int) (segs : List Seg) :
    clean lim ttl segs =
      stageA lim ttl (stageL lim.bytes byteSize (stageL lim.msgs msgSize (stageA lim ttl segs))) := by
  unfold clean stageA stageL
  simp only [Gen.Retention.ageOnCmp, Gen.Retention.msgsOnCmp, Gen.Retention.bytesOnCmp,
    Gen.Retention.msgsCmp, Gen.Retention.bytesCmp, Gen.Retention.ageSecondPass, Cmp.evalInt,
    gt_iff_lt, decide_eq_true_eq, Bool.true_and]
  split
  · rename_i h
    obtain ⟨hb, hm, ha⟩ := h
    simp [hb, hm, ha]
  · rfl

theorem clean_none (ttl : Int) (segs : List Seg) : clean ⟨0, 0, 0⟩ ttl segs = segs := by
  simp [clean]

/-- The pre-fix pipeline of `deleteCleaner.Clean`: age, messages, bytes — without the second age
pass (same extracted comparators). Props/C09 `old_pipeline_violates_age` shows on it why the
fourth stage is needed. -/
def cleanOld (lim : Limits) (ttl : Int) (segs : List Seg) : List Seg :=
  if lim.bytes = 0 ∧ lim.msgs = 0 ∧ lim.age = 0 then segs else
  let s1 := if Gen.Retention.ageOnCmp.evalInt lim.age 0 then applyAge ttl segs else segs
  let s2 := if Gen.Retention.msgsOnCmp.evalInt lim.msgs 0 then applyLimit Gen.Retention.msgsCmp lim.msgs msgSize s1 else s1
  if Gen.Retention.bytesOnCmp.evalInt lim.bytes 0 then applyLimit Gen.Retention.bytesCmp lim.bytes byteSize s2 else s2

def Pass (f : List Seg → List Seg) (V : Seg → List Seg → Prop) : Prop :=
  ∀ segs, ∃ pre, segs = pre ++ f segs ∧ (segs ≠ [] → f segs ≠ []) ∧
    ∀ s, pre.getLast? = some s → V s (f segs)

theorem Pass.suffix {f V} (h : Pass f V) (segs : List Seg) : f segs <:+ segs :=
  let ⟨pre, hp, _⟩ := h segs; ⟨pre, hp.symm⟩

/-- Two passes in a row are a pass: the last segment removed is the last one the second pass
removed, or, if that removed nothing, the last one of the first. -/
theorem Pass.comp {f g V W} (hf : Pass f V) (hg : Pass g W) :
    Pass (fun segs => g (f segs)) (fun s out => W s out ∨ V s out) := by
  intro segs
  obtain ⟨p, hp, hne, hv⟩ := hf segs
  obtain ⟨q, hq, hne', hw⟩ := hg (f segs)
  refine ⟨p ++ q, by rw [List.append_assoc, ← hq, ← hp], fun h => hne' (hne h), fun s hs => ?_⟩
  rw [List.getLast?_append] at hs
  cases hq' : q.getLast? with
  | some x =>
    obtain rfl : x = s := by simpa [hq'] using hs
    exact Or.inl (hw x hq')
  | none =>
    obtain rfl : q = [] := List.getLast?_eq_none_iff.mp hq'
    have e : g (f segs) = f segs := by simpa using hq.symm
    refine Or.inr ?_
    show V s (g (f segs))
    rw [e]
    exact hv s (by simpa using hs)

theorem stageA_pass (lim : Limits) (ttl : Int) :
    Pass (stageA lim ttl) (fun s _ => 0 < lim.age ∧ s.lastTs < ttl) := by
  intro segs
  unfold stageA
  split
  · rename_i h
    obtain ⟨pre, h1, h2, h3, -⟩ := applyAge_spec ttl segs
    exact ⟨pre, h1, h3, fun s hs => ⟨h, h2 s (List.mem_of_getLast? hs)⟩⟩
  · exact ⟨[], rfl, id, by simp⟩

theorem stageL_pass (limit : Int) (size : Seg → Int) :
    Pass (stageL limit size) (fun s out => 0 < limit ∧ limit < size s + (out.map size).sum) := by
  intro segs
  unfold stageL
  split
  · rename_i h
    obtain ⟨pre, h1, h2, -, h4⟩ := applyLimit_spec limit size segs
    exact ⟨pre, h1, h2, fun s hs => ⟨h, h4 s hs⟩⟩
  · exact ⟨[], rfl, id, by simp⟩

theorem clean_pass (lim : Limits) (ttl : Int) :
    Pass (clean lim ttl) (fun s out => (0 < lim.age ∧ s.lastTs < ttl) ∨
      (0 < lim.bytes ∧ lim.bytes < byteSize s + (out.map byteSize).sum) ∨
      (0 < lim.msgs ∧ lim.msgs < msgSize s + (out.map msgSize).sum) ∨
      (0 < lim.age ∧ s.lastTs < ttl)) := by
  have := (((stageA_pass lim ttl).comp (stageL_pass lim.msgs msgSize)).comp
    (stageL_pass lim.bytes byteSize)).comp (stageA_pass lim ttl)
  rwa [← funext (clean_eq lim ttl)] at this

/-- The last segment removed would break the limit together with what is left, all the more with
the rest. -/
theorem stageL_id (limit : Int) (size : Seg → Int) (hnn : ∀ s, 0 ≤ size s) (segs : List Seg)
    (h : 0 < limit → 1 < segs.length → (segs.map size).sum ≤ limit) : stageL limit size segs = segs := by
  obtain ⟨pre, hp, hne, hv⟩ := stageL_pass limit size segs
  generalize stageL limit size segs = out at hp hne hv ⊢
  subst hp
  rcases eq_nil_or_snoc pre with rfl | ⟨init, s, rfl⟩
  · rfl
  · exfalso
    obtain ⟨hl, hb⟩ := hv s (by simp)
    have ho := List.length_pos_iff.mpr (hne (by simp))
    have hsum := h hl (by simp; omega)
    have := sum_map_nonneg size init fun x _ => hnn x
    simp [List.sum_append] at hsum
    omega

theorem stageA_head (lim : Limits) (ttl : Int) (segs : List Seg) (ha : 0 < lim.age)
    (hl : 1 < (stageA lim ttl segs).length) :
    ∀ s, (stageA lim ttl segs).head? = some s → ttl ≤ s.lastTs := by
  unfold stageA at hl ⊢
  rw [if_pos ha] at hl ⊢
  obtain ⟨_, -, -, -, h4⟩ := applyAge_spec ttl segs
  exact h4 hl

theorem stageL_bound (limit : Int) (size : Seg → Int) (segs : List Seg) (h : 0 < limit)
    (hl : 1 < (stageL limit size segs).length) : ((stageL limit size segs).map size).sum ≤ limit := by
  unfold stageL at hl ⊢
  rw [if_pos h] at hl ⊢
  obtain ⟨_, -, -, h3, -⟩ := applyLimit_spec limit size segs
  exact h3 hl

theorem bound_suffix {size : Seg → Int} (hnn : ∀ s, 0 ≤ size s) {limit : Int} {out inp : List Seg}
    (hsuf : out <:+ inp) (hb : 1 < inp.length → (inp.map size).sum ≤ limit) (hl : 1 < out.length) :
    (out.map size).sum ≤ limit := by
  obtain ⟨p, rfl⟩ := hsuf
  have := hb (by simp; omega)
  have := sum_map_nonneg size p fun s _ => hnn s
  simp [List.sum_append] at *
  omega

theorem getLast?_of_split {segs pre res : List Seg} {k : Nat} {s : Seg}
    (h : segs = pre ++ res) (hk : res = segs.drop (k + 1)) (hs : segs[k]? = some s) :
    pre.getLast? = some s := by
  have hlt : k < segs.length := (List.getElem?_eq_some_iff.mp hs).1
  have hlen : res.length = segs.length - (k + 1) := by rw [hk, List.length_drop]
  have hlen2 : segs.length = pre.length + res.length := by rw [h, List.length_append]
  have hpre : pre.length = k + 1 := by omega
  rw [h, List.getElem?_append_left (by omega)] at hs
  rw [List.getLast?_eq_getElem?, hpre]
  simpa using hs

/-! ### Counterexample data for the pre-fix pipeline `cleanOld` -/

/-- A segment holding one message written at time `ts`. -/
def cexSeg (ts : Int) : Seg := ⟨0, [⟨0, ts, 0, ⟨none, none, []⟩⟩]⟩
/-- Oldest segment is young (last write 10), the two newer ones are old (last write 0). -/
def cexSegs : List Seg := [cexSeg 10, cexSeg 0, cexSeg 0]
/-- Age limit on, at most 2 messages, no byte limit. -/
def cexLim : Limits := ⟨0, 2, 1⟩
/-- `computeTTL` result used with `cexSegs`. -/
def cexTtl : Int := 5

end Liftbridge.Proofs.Retention
