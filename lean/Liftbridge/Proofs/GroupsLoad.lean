/-
C12, the load counter: `consumer.assignedCount` (model: `Cons.count`), the key of the least-loaded
heaps, equals the number of partitions the consumer holds over all streams after EVERY history
(`CInv`, part A), and — resting on it — two members that are subscribed to nothing but one and the
same stream hold numbers of its partitions that differ by at most one, whatever the history that
led there (`PAt`, part B: the balance clause of C12 for "a group consuming a single stream",
including groups that got there by stream deletions).
-/
import Liftbridge.Model.Groups
import Liftbridge.Proofs.Groups

namespace Liftbridge.Proofs.Groups
open Liftbridge Liftbridge.Groups

/-! ## A. the counter is exact -/

theorem asgTotal_append (a : Asg) (s : String) (p : Nat) :
    asgTotal (asgAppend a s p) = asgTotal a + 1 := by
  induction a with
  | nil => simp [asgAppend, asgTotal]
  | cons kv r ih => by_cases hk : kv.1 = s <;> simp [asgAppend, asgTotal, hk, ih] <;> omega

theorem keys_append (a : Asg) (s : String) (p : Nat) :
    (asgAppend a s p).map (·.1) = if s ∈ a.map (·.1) then a.map (·.1) else a.map (·.1) ++ [s] := by
  induction a with
  | nil => simp [asgAppend]
  | cons kv r ih =>
    by_cases hk : kv.1 = s
    · simp [asgAppend, hk]
    · simp only [asgAppend, hk, if_false, List.map_cons, List.mem_cons, ih, Ne.symm hk, false_or]
      split <;> rfl

theorem nodup_keys_append (a : Asg) (s : String) (p : Nat) (h : (a.map (·.1)).Nodup) :
    ((asgAppend a s p).map (·.1)).Nodup := by
  rw [keys_append]
  split
  · exact h
  · exact List.nodup_append.2 ⟨h, by simp, fun k hk _ hs e => ‹¬ _› (List.mem_singleton.1 hs ▸ e ▸ hk)⟩

theorem asgErase_not_key (a : Asg) (s : String) (h : s ∉ a.map (·.1)) : asgErase a s = a :=
  List.filter_eq_self.2 fun kv hkv => by
    have : kv.1 ≠ s := fun e => h (e ▸ List.mem_map_of_mem hkv)
    simpa using this

theorem asgOf_not_key (a : Asg) (s : String) (h : s ∉ a.map (·.1)) : asgOf a s = [] := by
  rw [← asgErase_not_key a s h, asgOf_erase, if_pos rfl]

theorem asgTotal_erase (a : Asg) (s : String) (h : (a.map (·.1)).Nodup) :
    asgTotal (asgErase a s) + (asgOf a s).length = asgTotal a := by
  induction a with
  | nil => rfl
  | cons kv r ih =>
    obtain ⟨k, v⟩ := kv
    simp only [List.map_cons, List.nodup_cons] at h
    have hc : asgErase ((k, v) :: r) s = if k = s then asgErase r s else (k, v) :: asgErase r s := by
      by_cases hk : k = s <;> simp [asgErase, hk]
    by_cases hk : k = s
    · -- the key occurs once: nothing is left to erase in the tail
      rw [hc, if_pos hk, asgErase_not_key r s (hk ▸ h.1)]
      simp [asgOf, asgTotal, hk]
      omega
    · have := ih h.2
      rw [hc, if_neg hk]
      simp [asgOf, asgTotal, hk]
      omega

/-- The load counter of one consumer is exact: it equals the number of partitions held over all
streams (and the assignment map has each stream once, as a Go map does). -/
structure COK (c : Cons) : Prop where
  keys : (c.asg.map (·.1)).Nodup
  count : c.count = (asgTotal c.asg : Int)

theorem cok_assign {c : Cons} (h : COK c) (s : String) (p : Nat) : COK (c.assignPartition s p) := by
  refine ⟨nodup_keys_append c.asg s p h.keys, ?_⟩
  simp only [Cons.assignPartition, asgTotal_append]
  have := h.count
  omega

theorem cok_remove {c : Cons} (h : COK c) (s : String) : COK (c.removeStreamAssignments s) := by
  refine ⟨nodup_map_filter _ h.keys, ?_⟩
  simp only [Cons.removeStreamAssignments]
  have h1 := h.count
  have h2 := asgTotal_erase c.asg s h.keys
  omega

/-- `StreamDeleted` keeps the counter exact — BECAUSE it drops the assignments through
`removeStreamAssignments` (`Gen.Groups.deletedLowersCount = true`). -/
theorem cok_drop {c : Cons} (h : COK c) (s : String) : COK (c.dropStream s) := by
  rw [dropStream_eq]
  exact ⟨(cok_remove h s).keys, (cok_remove h s).count⟩

/-! ### properties of single consumers

The state of a consumer is only ever changed by `assignPartition`, `removeStreamAssignments` and
`dropStream`: a property of consumers that these three preserve holds of every member after an
operation if it held before (and holds of the consumer a join creates). -/

structure Stable (P : Cons → Prop) : Prop where
  assign : ∀ c s p, P c → P (c.assignPartition s p)
  remove : ∀ c s, P c → P (c.removeStreamAssignments s)
  drop : ∀ c s, P c → P (c.dropStream s)

namespace Stable
variable {P : Cons → Prop} (hP : Stable P) (parts : String → Nat)
include hP

theorem balance (t : String) {g : Group} (h : ∀ m ∈ g.members, P m) :
    ∀ m ∈ (balance parts t g).members, P m := by
  rw [balance_eq]
  split
  · exact h
  · refine foldl_invariant (I := (∀ m ∈ ·, P m)) _ (fun ms p _ h => ?_) ?_
    · unfold assignStep
      split
      · refine List.forall_mem_map.2 fun c hc => ?_
        split
        · exact hP.assign c t p (h c hc)
        · exact h c hc
      · exact h
    · refine List.forall_mem_map.2 fun c hc => ?_
      split
      · exact hP.remove c t (h c hc)
      · exact h c hc

/-- The members of the state an operation builds before it rebalances. -/
theorem stage {g g₀ : Group} {op : Op} {ts : List String} (st : Stage g op ts g₀)
    (hnew : ∀ id streams e, op = .join id streams e →
      P { id := id, streams := sortDedup streams, asg := [], count := 0 })
    (h : ∀ m ∈ g.members, P m) : ∀ m ∈ g₀.members, P m := by
  cases st with
  | join X streams e _ =>
    exact List.forall_mem_append.2 ⟨h, List.forall_mem_singleton.2 (hnew X streams e rfl)⟩
  | leave cons e _ => exact fun m hm => h m (mem_dropX.1 hm).1
  | deleted s e ts _ =>
    refine List.forall_mem_map.2 fun c hc => ?_
    split
    · exact hP.drop c s (h c hc)
    · exact h c hc

theorem applyOp (g : Group) (op : Op)
    (hnew : ∀ id streams e, op = .join id streams e →
      P { id := id, streams := sortDedup streams, asg := [], count := 0 })
    (h : ∀ m ∈ g.members, P m) : ∀ m ∈ (applyOp parts g op).members, P m :=
  applyOp_cases (P := fun g : Group => ∀ m ∈ g.members, P m) h (fun _ _ _ _ => h)
    fun ts _ _ st => foldl_invariant (I := fun g : Group => ∀ m ∈ g.members, P m) ts
      (fun _ t _ => hP.balance parts t) (hP.stage st hnew h)

end Stable

theorem cok_new (id : String) (streams : List String) :
    COK { id := id, streams := streams, asg := [], count := 0 } := ⟨by simp, by simp [asgTotal]⟩

theorem cok_stable : Stable COK := ⟨fun _ s p h => cok_assign h s p, fun _ s h => cok_remove h s,
  fun _ s h => cok_drop h s⟩

def CInv (ms : List Cons) : Prop := ∀ m ∈ ms, COK m

theorem cinv_applyOp (parts : String → Nat) (g : Group) (op : Op) (h : CInv g.members) :
    CInv (applyOp parts g op).members :=
  cok_stable.applyOp parts g op (fun _ _ _ _ => cok_new _ _) h

theorem cinv_run (parts : String → Nat) (g : Group) (ops : List Op) (h : CInv g.members) :
    CInv (run parts g ops).members :=
  run_induction (I := fun g => CInv g.members) g ops (fun g op _ => cinv_applyOp parts g op) h

theorem cinv_new (e : Nat) : CInv (Group.new e).members := by
  intro m hm; simp [Group.new] at hm

/-! ## B. members subscribed to one and the same single stream are balanced -/

/-- The consumer is subscribed to `s` and to nothing else. -/
def Pure (s : String) (c : Cons) : Prop := s ∈ c.streams ∧ ∀ t ∈ c.streams, t = s

/-- Any two members subscribed to `s` only hold numbers of partitions of `s` that differ by at
most one. -/
def PAt (s : String) (ms : List Cons) : Prop :=
  ∀ a ∈ ms, ∀ b ∈ ms, Pure s a → Pure s b → (asgOf a.asg s).length ≤ (asgOf b.asg s).length + 1

theorem PAt.of_pure {s : String} {ms ms' : List Cons} (hp : PAt s ms)
    (h : ∀ a ∈ ms', Pure s a → a ∈ ms) : PAt s ms' :=
  fun a ha b hb hpa hpb => hp a (h a ha hpa) b (h b hb hpb) hpa hpb

/-- If only stream `t` has assignments, the total is what is held of `t`. -/
theorem asgTotal_single (a : Asg) (t : String) (hk : (a.map (·.1)).Nodup)
    (h : ∀ u, u ≠ t → asgOf a u = []) : asgTotal a = (asgOf a t).length := by
  induction a with
  | nil => rfl
  | cons kv r ih =>
    obtain ⟨k, v⟩ := kv
    simp only [List.map_cons, List.nodup_cons] at hk
    -- the tail has no entry for `k` and is looked up like the whole list for any other stream
    have hr : ∀ u, u ≠ t → asgOf r u = [] := fun u hu => by
      by_cases hku : k = u
      · exact hku ▸ asgOf_not_key r k hk.1
      · simpa [asgOf, hku] using h u hu
    have := ih hk.2 hr
    by_cases hkt : k = t
    · subst hkt
      simp [asgOf, asgTotal, this, asgOf_not_key r k hk.1]
    · have hv : v = [] := by simpa [asgOf] using h k hkt
      simp [asgOf, asgTotal, hkt, hv, this]

theorem count_of_single {c : Cons} {t : String} (hc : COK c) (hs : ∀ u ∈ c.streams, u = t)
    (hos : ∀ s, s ∉ c.streams → asgOf c.asg s = []) :
    c.count = ((asgOf c.asg t).length : Int) := by
  rw [hc.count, asgTotal_single c.asg t hc.keys fun u hu => hos u fun hm => hu (hs u hm)]

/-- `balanceAssignmentsForStream(t)` makes the consumers subscribed to `t` only balanced among
themselves, and does not touch the consumers subscribed to another stream only (streams still to
be rebalanced need not be balanced yet). -/
theorem pat_step {parts : String → Nat} {t : String} {ts : List String} {g : Group}
    (h : Pre parts (t :: ts) g) (hc : CInv g.members) {s : String}
    (hp : s ∈ t :: ts ∨ PAt s g.members) : s ∈ ts ∨ PAt s (balance parts t g).members := by
  have hh := h.heap t
  have hos' := h.step.only
  have hc' := cok_stable.balance parts t hc
  obtain ⟨F, hF, hT, _, hfair⟩ := balance_spec parts t g h.nodup hh h.only
  rw [hF] at hos' hc' ⊢
  have hpure : ∀ a, Pure s (F a) → Pure s a := fun a hpa => by
    unfold Pure at hpa ⊢; rwa [(hT a).streams] at hpa
  by_cases hst : s = t
  · -- sole subscribers of `t` are in its heap, and their counters are what they hold of `t`
    subst hst
    refine Or.inr fun a' ha' b' hb' hpa hpb => ?_
    obtain ⟨a, ha, rfl⟩ := List.mem_map.1 ha'
    obtain ⟨b, hb, rfl⟩ := List.mem_map.1 hb'
    have hca := count_of_single (hc' _ ha') hpa.2 (hos' _ ha')
    have hcb := count_of_single (hc' _ hb') hpb.2 (hos' _ hb')
    rcases hfair a ha b hb ((hh.mem_iff h.nodup ha).2 (hpure a hpa).1)
      ((hh.mem_iff h.nodup hb).2 (hpure b hpb).1) with h | h
    · simp [h]
    · omega
  · -- a sole subscriber of `s` is not in the heap of `t`, hence left alone
    refine hp.imp (fun hm => (List.mem_cons.1 hm).resolve_left hst) fun hp => hp.of_pure ?_
    intro a' ha' hpa
    obtain ⟨a, ha, rfl⟩ := List.mem_map.1 ha'
    rw [(hT a).out fun hai => hst ((hpure a hpa).2 t ((hh.mem_iff h.nodup ha).1 hai)).symm]
    exact ha

theorem pat_rebalances (parts : String → Nat) (ts : List String) (g : Group)
    (h : Pre parts ts g) (hc : CInv g.members) (s : String) (hp : s ∈ ts ∨ PAt s g.members) :
    PAt s (ts.foldl (fun g t => balance parts t g) g).members := by
  induction ts generalizing g with
  | nil => exact hp.resolve_left (by simp)
  | cons t r ih =>
    exact ih _ h.step (cok_stable.balance parts t hc) (pat_step h hc hp)

/-- Before the rebalances nobody has become a sole subscriber of a stream that is not about to be
rebalanced: a new consumer's streams all are, a leaving consumer only goes, and a consumer that
lost the deleted stream keeps only streams that are. -/
theorem Stage.pat {g g₀ : Group} {op : Op} {ts : List String} (st : Stage g op ts g₀)
    (hp : ∀ u, PAt u g.members) (u : String) : u ∈ ts ∨ PAt u g₀.members := by
  by_cases hu : u ∈ ts
  · exact Or.inl hu
  · refine Or.inr ((hp u).of_pure fun a ha hpa => ?_)
    cases st with
    | join X streams e _ =>
      exact (List.mem_append.1 ha).resolve_right fun ha => by
        rw [List.mem_singleton.1 ha] at hpa; exact hu hpa.1
    | leave cons e _ => exact (mem_dropX.1 ha).1
    | deleted s e ts hts =>
      obtain ⟨b, hb, rfl⟩ := List.mem_map.1 ha
      by_cases hbi : b.id ∈ subsOf' g.subs s
      · rw [if_pos hbi] at hpa
        obtain ⟨hub, hus⟩ := List.mem_filter.1 (dropStream_streams b s ▸ hpa.1)
        exact absurd (hts b hb hbi u hub (by simpa using hus)) hu
      · rw [if_neg hbi]
        exact hb

/-- What the histories preserve, carried together because balance among the sole subscribers of a
stream (`bal`) is kept only where the load counters are exact (`cnt`) and the heaps are (`inv`). -/
structure BInv (parts : String → Nat) (g : Group) : Prop where
  inv : Inv parts g
  cnt : CInv g.members
  bal : ∀ s, PAt s g.members

theorem binv_new (parts : String → Nat) (e : Nat) : BInv parts (Group.new e) :=
  ⟨inv_new parts e, cinv_new e, fun _ a ha => by simp [Group.new] at ha⟩

theorem binv_applyOp (parts : String → Nat) (g : Group) (op : Op) (h : BInv parts g) :
    BInv parts (applyOp parts g op) :=
  ⟨inv_applyOp parts g op h.inv, cinv_applyOp parts g op h.cnt,
    applyOp_cases (P := fun g : Group => ∀ s, PAt s g.members) h.bal (fun _ _ _ _ => h.bal)
    fun ts g₀ _ st s => pat_rebalances parts ts g₀ (st.pre h.inv)
      (cok_stable.stage st (fun _ _ _ _ => cok_new _ _) h.cnt) s (st.pat h.bal s)⟩

theorem binv_run (parts : String → Nat) (g : Group) (ops : List Op) (h : BInv parts g) :
    BInv parts (run parts g ops) :=
  run_induction g ops (fun g op _ => binv_applyOp parts g op) h

/-- Heaps are only created by joins, for the streams they name. -/
theorem sget_applyOp_none (parts : String → Nat) (g : Group) (op : Op) (t : String)
    (hj : ∀ id streams e, op = .join id streams e → t ∉ sortDedup streams)
    (h : sget g.subs t = none) : sget (applyOp parts g op).subs t = none := by
  have hdel : ∀ s, sget (sdel g.subs s) t = none := fun s => by rw [sget_sdel]; split <;> simp [h]
  refine applyOp_cases (P := fun g : Group => sget g.subs t = none) h (fun s _ _ _ => hdel s)
    fun ts g₀ e st => ?_
  refine foldl_invariant (I := fun g : Group => sget g.subs t = none) ts
    (fun g u _ h => by rw [balance_subs]; exact h) ?_
  cases st with
  | join X streams e _ =>
    refine foldl_invariant (I := fun subs => sget subs t = none) _ (fun subs u hu h => ?_) h
    rw [pushS, sget_sset, if_neg fun htu : t = u => hj X streams e rfl (htu ▸ hu)]
    exact h
  | leave cons e _ =>
    refine foldl_invariant (I := fun subs => sget subs t = none) _ (fun subs u _ h => ?_) h
    unfold popS
    split
    · exact h
    · -- `u` has a heap, `t` has none
      next hu => rw [sget_sset, if_neg fun e : t = u => by simp [e ▸ h] at hu]; exact h
  | deleted s e ts _ => exact hdel s

/-- A history all of whose joins name exactly the stream `s`: only `s` ever has a heap, every member
is subscribed to `s` or (after a deletion) to nothing, so the counters are what is held of `s`, and
the members subscribed to `s` are its sole subscribers. -/
theorem sinv_run (parts : String → Nat) (s : String) (e : Nat) (ops : List Op)
    (hss : SingleStream s ops) : SInv s (run parts (Group.new e) ops) := by
  have hnew : ∀ op ∈ ops, ∀ id streams e, op = .join id streams e → sortDedup streams = [s] :=
    fun op hop id streams e hj => by have := hss op hop; rwa [hj] at this
  have hsub : ∀ t, t ≠ s → sget (run parts (Group.new e) ops).subs t = none := fun t ht =>
    run_induction (I := fun g => sget g.subs t = none) _ ops
      (fun g op hop => sget_applyOp_none parts g op t fun id streams e hj => by
        simp [hnew op hop id streams e hj, ht])
      rfl
  have hstable : Stable fun m => m.streams = [s] ∨ m.streams = [] :=
    ⟨fun _ _ _ h => h, fun _ _ h => h, fun c t h => by
      rw [dropStream_streams]
      rcases h with h | h <;> rw [h]
      · by_cases hst : s = t <;> simp [hst]
      · simp⟩
  have hstr : ∀ m ∈ (run parts (Group.new e) ops).members, m.streams = [s] ∨ m.streams = [] :=
    run_induction (I := fun g => ∀ m ∈ g.members, m.streams = [s] ∨ m.streams = []) _ ops
      (fun g op hop => hstable.applyOp parts g op fun id streams e hj =>
        Or.inl (hnew op hop id streams e hj))
      (fun m hm => by simp [Group.new] at hm)
  have h := binv_run parts _ ops (binv_new parts e)
  have hsingle : ∀ m ∈ (run parts (Group.new e) ops).members, ∀ t ∈ m.streams, t = s :=
    fun m hm t ht => by rcases hstr m hm with h | h <;> simp_all
  have hcnt : CountOK s (run parts (Group.new e) ops).members :=
    fun m hm => count_of_single (h.cnt m hm) (hsingle m hm) (h.inv.only m hm)
  refine ⟨hsub, hstr, hcnt, fun a ha b hb hsa hsb => ?_⟩
  have := h.bal s a ha b hb ⟨hsa, hsingle a ha⟩ ⟨hsb, hsingle b hb⟩
  have := hcnt a ha
  have := hcnt b hb
  omega

end Liftbridge.Proofs.Groups
