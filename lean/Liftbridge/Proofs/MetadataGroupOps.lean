/-
Single consumer groups of the metadata model (Model/Metadata.lean) and lists of them, without any `State`: what
`StreamDeleted` does (`notifyGroup_cases`), what the other mutators keep, a group as a client sees it once a set `T`
of streams is hidden (`gobs T`: telling a group of a deletion = hiding one more name, `gobs_notify`), groups rebuilt
from a snapshot.  Proofs/Metadata.lean lifts this to states; Proofs/MetadataGroups.lean needs nothing else.
-/
import Liftbridge.Model.Metadata
import Liftbridge.Proofs.Lists
import Liftbridge.Proofs.Groups

namespace Liftbridge.Proofs.Metadata
open Liftbridge Liftbridge.Metadata

/-! ## one group -/

abbrev GObs := String × String × List Member

def filtT (T : List String) (l : List String) : List String := l.filter (fun x => !T.contains x)

/-- A group as a client sees it once the streams in `T` (tombstoned, to be purged) are gone; no epoch. -/
def gobs (T : List String) (g : Group) : GObs := (g.id, g.coordinator, g.members.map fun m => (m.1, filtT T m.2))

def dropStream (n : String) (o : GObs) : GObs := (o.1, o.2.1, o.2.2.map fun m => (m.1, m.2.filter (· ≠ n)))

def MemSub (g : Group) : Prop := ∀ m ∈ g.members, ∀ x ∈ m.2, x ∈ g.subKeys

def EpochLe (gs : List Group) (i : Nat) : Prop := ∀ g ∈ gs, g.epoch ≤ i

theorem epochLe_mono {gs : List Group} {i j : Nat} (h : EpochLe gs i) (hij : i ≤ j) : EpochLe gs j :=
  fun g hg => Nat.le_trans (h g hg) hij

theorem filtT_nil (l : List String) : filtT [] l = l := by simp [filtT]

theorem filtT_congr {T1 T2 : List String} {l : List String} (h : ∀ x ∈ l, (x ∈ T1 ↔ x ∈ T2)) :
    filtT T1 l = filtT T2 l :=
  List.filter_congr fun x hx => by simp [h x hx]

theorem filtT_cons (n : String) (T l : List String) : filtT (n :: T) l = (filtT T l).filter (· ≠ n) := by
  unfold filtT
  rw [List.filter_filter]
  exact List.filter_congr fun x _ => by simp

theorem gobs_congr {T1 T2 : List String} (g : Group) (h : ∀ m ∈ g.members, ∀ x ∈ m.2, (x ∈ T1 ↔ x ∈ T2)) :
    gobs T1 g = gobs T2 g := by
  unfold gobs
  rw [List.map_congr_left fun m hm => by rw [filtT_congr (h m hm)]]

theorem gobs_cons (n : String) (T : List String) (g : Group) : gobs (n :: T) g = dropStream n (gobs T g) := by
  simp only [gobs, dropStream, List.map_map, Function.comp_def, filtT_cons]

theorem gobs_of_obs (T : List String) {g g' : Group} (h : obsGroup g = obsGroup g') : gobs T g = gobs T g' := by
  injection h with h1 h2 _ h4
  simp only [gobs, h1, h2, h4]

theorem subscribed_iff {g : Group} {n : String} : subscribed g n = true ↔ ∃ m ∈ g.members, n ∈ m.2 := by
  simp [subscribed]

theorem not_subscribed_iff {g : Group} {n : String} : subscribed g n = false ↔ ∀ m ∈ g.members, n ∉ m.2 := by
  rw [← Bool.not_eq_true, subscribed_iff]
  exact ⟨fun h m hm hn => h ⟨m, hm, hn⟩, fun h ⟨m, hm, hn⟩ => h m hm hn⟩

/-- `StreamDeleted`: refused or no heap; an empty heap forgotten (with that repair); or the stream
dropped from every member and the epoch taken. -/
theorem notifyGroup_cases {cfg : Cfg} {n : String} {e : Nat} {g : Group} {P : Group → Prop}
    (h0 : Gen.Groups.epochDeletedCmp.evalNat e g.epoch = true ∨ n ∉ g.subKeys → P g)
    (h1 : subscribed g n = false → P { g with subKeys := g.subKeys.filter (· ≠ n) })
    (h2 : (cfg.emptyHeapNoEpoch = true → subscribed g n = true) →
      P { g with members := g.members.map (fun m => (m.1, m.2.filter (· ≠ n))),
                 subKeys := g.subKeys.filter (· ≠ n), epoch := e }) :
    P (notifyGroup cfg n e g) := by
  unfold notifyGroup
  split
  · next h => exact h0 (Or.inl h)
  · split
    · split
      · next h => exact h1 (by simp only [Bool.and_eq_true, Bool.not_eq_true'] at h; exact h.2)
      · next h => exact h2 fun hc => by simpa [hc] using h
    · next h => exact h0 (Or.inr (by simpa using h))

theorem notifyGroup_accepted {cfg : Cfg} {n : String} {e : Nat} {g : Group} {P : Group → Prop}
    (hsub : MemSub g) (he : g.epoch ≤ e)
    (h1 : subscribed g n = false → ∀ k, P { g with subKeys := k })
    (h2 : (cfg.emptyHeapNoEpoch = true → subscribed g n = true) →
      P { g with members := g.members.map (fun m => (m.1, m.2.filter (· ≠ n))),
                 subKeys := g.subKeys.filter (· ≠ n), epoch := e }) :
    P (notifyGroup cfg n e g) := by
  refine notifyGroup_cases (fun h => ?_) (fun h => h1 h _) h2
  rcases h with h | h
  · simp [Gen.Groups.epochDeletedCmp, Cmp.evalNat] at h; omega
  · exact h1 (not_subscribed_iff.2 fun m hm hn => h (hsub m hm n hn)) g.subKeys

theorem gobs_notify (cfg : Cfg) (T : List String) (n : String) (e : Nat) (g : Group) (hsub : MemSub g)
    (he : g.epoch ≤ e) : gobs T (notifyGroup cfg n e g) = gobs (n :: T) g := by
  refine notifyGroup_accepted (P := fun g' => gobs T g' = gobs (n :: T) g) hsub he (fun h _ => ?_) (fun _ => ?_)
  · refine gobs_congr g fun m hm x hx => ?_
    have : x ≠ n := fun e => not_subscribed_iff.1 h m hm (e ▸ hx)
    simp [this]
  · rw [gobs_cons]
    simp only [gobs, dropStream, List.map_map, Function.comp_def, filtT, List.filter_filter, Bool.and_comm]

theorem memSub_notify (cfg : Cfg) (n : String) (e : Nat) (g : Group) (h : MemSub g) :
    MemSub (notifyGroup cfg n e g) := by
  refine notifyGroup_cases (fun _ => h) (fun hn m hm x hx => ?_) (fun _ m hm x hx => ?_)
  · exact List.mem_filter.2 ⟨h m hm x hx, decide_eq_true fun e => not_subscribed_iff.1 hn m hm (e ▸ hx)⟩
  · obtain ⟨m0, hm0, rfl⟩ := List.mem_map.1 hm
    exact List.mem_filter.2 ⟨h m0 hm0 x (List.mem_filter.1 hx).1, (List.mem_filter.1 hx).2⟩

theorem epoch_notify (cfg : Cfg) (n : String) (e : Nat) {i : Nat} (hi : e ≤ i) (g : Group) (h : g.epoch ≤ i) :
    (notifyGroup cfg n e g).epoch ≤ i :=
  notifyGroup_cases (P := fun g' => g'.epoch ≤ i) (fun _ => h) (fun _ => h) (fun _ => hi)

theorem subscribed_notify (cfg : Cfg) (n : String) (e : Nat) (g : Group) (x : String)
    (h : subscribed g x = false) : subscribed (notifyGroup cfg n e g) x = false := by
  refine notifyGroup_cases (P := fun g' => subscribed g' x = false) (fun _ => h) (fun _ => h)
    (fun _ => not_subscribed_iff.2 fun m hm hx => ?_)
  obtain ⟨m0, hm0, rfl⟩ := List.mem_map.1 hm
  exact not_subscribed_iff.1 h m0 hm0 (List.mem_filter.1 hx).1

theorem not_subscribed_after_notify (cfg : Cfg) (n : String) (e : Nat) (g : Group) (hsub : MemSub g) (he : g.epoch ≤ e) :
    subscribed (notifyGroup cfg n e g) n = false := by
  refine notifyGroup_accepted (P := fun g' => subscribed g' n = false) hsub he (fun h _ => h)
    fun _ => not_subscribed_iff.2 fun m hm hx => ?_
  obtain ⟨m0, _, rfl⟩ := List.mem_map.1 hm
  simpa using (List.mem_filter.1 hx).2

theorem forall_notifyDeleted {Q : Group → Prop} {cfg : Cfg} {gs : List Group} {n : String} {e : Nat}
    (h : ∀ g ∈ gs, Q g) (hq : ∀ g, Q g → Q (notifyGroup cfg n e g)) : ∀ g ∈ notifyDeleted cfg gs n e, Q g := fun g hg => by
  obtain ⟨g0, h0, rfl⟩ := List.mem_map.1 hg
  exact hq g0 (h g0 h0)

theorem mem_unionKeys (ss : List String) : ∀ (k : List String) (x : String), x ∈ unionKeys k ss ↔ (x ∈ k ∨ x ∈ ss) := by
  induction ss with
  | nil => intro k x; simp [unionKeys]
  | cons a ss ih =>
    intro k x
    rw [show unionKeys k (a :: ss) = unionKeys (if k.contains a then k else k ++ [a]) ss from rfl, ih]
    split
    · next ha =>
      have : a ∈ k := by simpa using ha
      simp only [List.mem_cons]
      exact ⟨Or.imp_right Or.inr, fun h => h.elim Or.inl fun h => h.elim (fun e => Or.inl (e ▸ this)) Or.inr⟩
    · simp [or_assoc]

theorem mem_upsert {ms : List Member} {id : String} {v : List String} {m : Member}
    (h : m ∈ upsertMember ms id v) : m ∈ ms ∨ m = (id, v) := by
  unfold upsertMember at h
  split at h
  · obtain ⟨m0, h0, rfl⟩ := List.mem_map.1 h
    split
    · exact Or.inr rfl
    · exact Or.inl h0
  · simpa using h

theorem upsert_ids_nodup (ms : List Member) (id : String) (v : List String) (h : (ms.map (·.1)).Nodup) :
    ((upsertMember ms id v).map (·.1)).Nodup := by
  unfold upsertMember
  split
  · rw [map_ite_inv (fun m : Member => m.1) (·.1 = id) _ (fun _ h => h.symm)]
    exact h
  · next hany =>
    rw [List.map_append, List.nodup_append]
    refine ⟨h, by simp, fun a ha b hb hab => hany ?_⟩
    obtain ⟨m, hm, rfl⟩ := List.mem_map.1 ha
    exact List.any_eq_true.2 ⟨m, hm, by simpa [hab] using hb⟩

theorem memSub_addMember (g : Group) (m : Member) (h : MemSub g) : MemSub (addMember g m) := by
  intro m' hm' x hx
  refine (mem_unionKeys _ _ _).2 ?_
  rcases mem_upsert hm' with h1 | rfl
  · exact Or.inl (h m' h1 x hx)
  · exact Or.inr hx

theorem map_upsert (F : List String → List String) (ms : List Member) (id : String) (v : List String) :
    (upsertMember ms id v).map (fun m => (m.1, F m.2)) =
      upsertMember (ms.map (fun m => (m.1, F m.2))) id (F v) := by
  unfold upsertMember
  have hany : (ms.map fun m : Member => (m.1, F m.2)).any (fun m => decide (m.1 = id)) = ms.any (fun m => decide (m.1 = id)) := by
    rw [List.any_map]; rfl
  rw [hany]
  split
  · exact map_ite_map (fun m : Member => (m.1, F m.2)) (·.1 = id) (·.1 = id) (fun _ => (id, v)) (fun _ => (id, F v))
      (fun _ => Iff.rfl) (fun _ => rfl) ms
  · rw [List.map_append]; rfl

theorem gobs_addMember (T : List String) (g : Group) (cid : String) (ss : List String) (idx : Nat) :
    gobs T { addMember g (cid, ss) with epoch := idx } =
      ((gobs T g).1, (gobs T g).2.1, upsertMember (gobs T g).2.2 cid (filtT T (Groups.sortDedup ss))) := by
  simp only [gobs, addMember]
  rw [map_upsert (filtT T)]

theorem gobs_leave (T : List String) (g : Group) (cid : String) (idx : Nat) :
    gobs T { g with members := g.members.filter (·.1 ≠ cid), epoch := idx } =
      ((gobs T g).1, (gobs T g).2.1, (gobs T g).2.2.filter (·.1 ≠ cid)) := by
  simp only [gobs, List.filter_map]
  rfl

theorem obsGroup_addMember (g : Group) (cid : String) (ss : List String) (idx : Nat) :
    obsGroup { addMember g (cid, ss) with epoch := idx } =
      { obsGroup g with members := upsertMember (obsGroup g).members cid (Groups.sortDedup ss), epoch := idx } := rfl

theorem mkGroup_ind {P : Group → Prop} (gp : GroupP) (r : Bool)
    (h0 : P { id := gp.id, coordinator := gp.coordinator, epoch := gp.epoch, members := [], subKeys := [], recovered := r })
    (hadd : ∀ g, ∀ m ∈ gp.members, P g → P (addMember g m)) : P (mkGroup gp r) :=
  Proofs.foldl_invariant gp.members hadd h0

theorem memSub_mkGroup (gp : GroupP) (r : Bool) : MemSub (mkGroup gp r) :=
  mkGroup_ind gp r (fun _ hm => by cases hm) fun g m _ => memSub_addMember g m

theorem mkGroup_fields (gp : GroupP) (r : Bool) :
    (mkGroup gp r).id = gp.id ∧ (mkGroup gp r).coordinator = gp.coordinator ∧ (mkGroup gp r).epoch = gp.epoch :=
  mkGroup_ind (P := fun g => g.id = gp.id ∧ g.coordinator = gp.coordinator ∧ g.epoch = gp.epoch) gp r
    ⟨rfl, rfl, rfl⟩ fun _ _ _ h => h

theorem mkGroup_members (gp : GroupP) (r : Bool) :
    ∀ m ∈ (mkGroup gp r).members, ∃ m0 ∈ gp.members, m = (m0.1, Groups.sortDedup m0.2) :=
  mkGroup_ind (P := fun g => ∀ m ∈ g.members, ∃ m0 ∈ gp.members, m = (m0.1, Groups.sortDedup m0.2)) gp r
    (fun _ hm => by cases hm) fun g m0 h0 h m hm => by
      rcases mem_upsert hm with h1 | rfl
      · exact h m h1
      · exact ⟨m0, h0, rfl⟩

theorem memNodup_mkGroup (gp : GroupP) (r : Bool) : ((mkGroup gp r).members.map (·.1)).Nodup :=
  mkGroup_ind (P := fun g => (g.members.map (·.1)).Nodup) gp r List.nodup_nil fun g m _ h =>
    upsert_ids_nodup g.members m.1 _ h

theorem mkGroup_rec (gp : GroupP) (r : Bool) : mkGroup gp r = { mkGroup gp false with recovered := r } := by
  unfold mkGroup
  exact List.foldl_hom (fun g : Group => { g with recovered := r }) (g₁ := addMember) (g₂ := addMember)
    (init := ⟨gp.id, gp.coordinator, gp.epoch, [], [], false⟩) fun _ _ => rfl

/-! ## lists of groups: updates seen through a projection, notifications folded -/

theorem mem_updGroup {gs : List Group} {gid : String} {f : Group → Group} {x : Group}
    (hx : x ∈ updGroup gs gid f) : ∃ g ∈ gs, x = g ∨ x = f g := by
  obtain ⟨g, hg, rfl⟩ := List.mem_map.1 hx
  refine ⟨g, hg, ?_⟩
  split
  · exact Or.inr rfl
  · exact Or.inl rfl

theorem map_updGroup_congr {β : Type} {P P' : Group → β} {gs gs' : List Group} {f f' : Group → Group} (gid : String)
    (h : gs.map P = gs'.map P') (hid : ∀ g g', P g = P' g' → g.id = g'.id)
    (hf : ∀ g ∈ gs, ∀ g' ∈ gs', P g = P' g' → P (f g) = P' (f' g')) :
    (updGroup gs gid f).map P = (updGroup gs' gid f').map P' := by
  unfold updGroup
  rw [List.map_map, List.map_map]
  refine map_eq_map_of h fun g hg g' hg' e => ?_
  simp only [Function.comp, hid g g' e]
  split
  · exact hf g hg g' hg' e
  · exact e

/-- `hid` asks for `isEmpty` as well: the group goes with its last member. -/
theorem map_leaveGroup_congr {β : Type} {P P' : Group → β} {gs gs' : List Group} (gid cid : String) (idx : Nat)
    (h : gs.map P = gs'.map P') (hid : ∀ g g', P g = P' g' → g.id = g'.id ∧ g.members.isEmpty = g'.members.isEmpty)
    (hf : ∀ g g', P g = P' g' →
      P { g with members := g.members.filter (·.1 ≠ cid), epoch := idx } =
        P' { g' with members := g'.members.filter (·.1 ≠ cid), epoch := idx }) :
    (leaveGroup gs gid cid idx).map P = (leaveGroup gs' gid cid idx).map P' := by
  refine filter_map_eq_of (map_updGroup_congr gid h (fun g g' e => (hid g g' e).1) fun g _ g' _ => hf g g')
    fun g _ g' _ e => ?_
  rw [(hid g g' e).1, (hid g g' e).2]

theorem coordGuard_false {e i : Nat} (h : e ≤ i) : Gen.Metadata.coordEpochGuard.evalNat e (i + 1) = false := by
  simp [Gen.Metadata.coordEpochGuard, Cmp.evalNat]; omega

theorem map_gobs_notify (cfg : Cfg) (T : List String) (n : String) (e : Nat) (gs : List Group)
    (hsub : ∀ g ∈ gs, MemSub g) (he : EpochLe gs e) :
    (notifyDeleted cfg gs n e).map (gobs T) = gs.map (gobs (n :: T)) := by
  rw [notifyDeleted, List.map_map]
  exact List.map_congr_left fun g hg => gobs_notify cfg T n e g (hsub g hg) (he g hg)

theorem map_gobs_congr {T1 T2 : List String} (gs : List Group) (h : ∀ x, x ∈ T1 ↔ x ∈ T2) :
    gs.map (gobs T1) = gs.map (gobs T2) :=
  List.map_congr_left fun g _ => gobs_congr g fun _ _ x _ => h x

theorem purge_gobs (cfg : Cfg) (e : Nat) : ∀ (L : List String) (T0 : List String) (gs : List Group),
    (∀ g ∈ gs, MemSub g) → EpochLe gs e →
    (L.foldl (fun gs n => notifyDeleted cfg gs n e) gs).map (gobs T0) = gs.map (gobs (L ++ T0))
  | [], _, _, _, _ => rfl
  | n :: L, T0, gs, hsub, hep => by
    rw [List.foldl_cons, purge_gobs cfg e L T0 _ (forall_notifyDeleted hsub (memSub_notify cfg n e))
      (forall_notifyDeleted hep (epoch_notify cfg n e (Nat.le_refl e))), map_gobs_notify cfg _ n e gs hsub hep]
    exact map_gobs_congr _ fun x => by simp

/-! ## a group rebuilt from a snapshot -/

theorem foldl_addMember_fresh : ∀ (ms : List Member) (g : Group),
    (g.members.map (·.1) ++ ms.map (·.1)).Nodup →
    (ms.foldl addMember g).members = g.members ++ ms.map (fun m => (m.1, Groups.sortDedup m.2))
  | [], g, _ => by simp
  | a :: ms, g, hnd => by
    have ha : g.members.any (fun m => decide (m.1 = a.1)) = false := Bool.eq_false_iff.2 fun hany => by
      obtain ⟨m, hm, hm1⟩ := List.any_eq_true.1 hany
      exact not_mem_of_nodup_append_cons hnd (List.mem_map.2 ⟨m, hm, of_decide_eq_true hm1⟩)
    have hmem : (addMember g a).members = g.members ++ [(a.1, Groups.sortDedup a.2)] := by
      simp [addMember, upsertMember, ha]
    rw [List.foldl_cons, foldl_addMember_fresh ms (addMember g a) (by simpa [hmem] using hnd), hmem]
    simp

theorem obsGroup_restore (g : Group) (hnd : (g.members.map (·.1)).Nodup) (hs : ∀ m ∈ g.members, m.2.Pairwise (· < ·)) :
    obsGroup (mkGroup (snapGroup g) true) = obsGroup g := by
  obtain ⟨h1, h2, h3⟩ := mkGroup_fields (snapGroup g) true
  have h4 : (mkGroup (snapGroup g) true).members = g.members := by
    unfold mkGroup
    rw [foldl_addMember_fresh (snapGroup g).members _ (by simpa [snapGroup] using hnd)]
    simp only [snapGroup, List.nil_append]
    refine (List.map_congr_left fun m hm => ?_).trans (List.map_id _)
    rw [Proofs.Groups.sorted_ext _ _ (Proofs.Groups.sorted_sortDedup m.2) (hs m hm) (fun x => Proofs.Groups.mem_sortDedup x m.2)]
    rfl
  unfold obsGroup
  rw [h1, h2, h3, h4]
  rfl

/-! ## with the empty-heap repair the observable group is told, not the group -/

def subscribedO (o : GroupObs) (n : String) : Bool := o.members.any (fun m => m.2.contains n)

def notifyGO (n : String) (e : Nat) (o : GroupObs) : GroupObs :=
  if subscribedO o n then { o with members := o.members.map (fun m => (m.1, m.2.filter (· ≠ n))), epoch := e } else o

theorem notifyGO_id (n : String) (e : Nat) (g : Group) (h : subscribed g n = false) :
    notifyGO n e (obsGroup g) = obsGroup g := by
  unfold notifyGO
  rw [show subscribedO (obsGroup g) n = subscribed g n from rfl, h]
  rfl

theorem obsGroup_notify_unsub (cfg : Cfg) (hc : cfg.emptyHeapNoEpoch = true) (n : String) (e : Nat) (g : Group)
    (h : subscribed g n = false) : obsGroup (notifyGroup cfg n e g) = obsGroup g :=
  notifyGroup_cases (P := fun g' => obsGroup g' = obsGroup g) (fun _ => rfl) (fun _ => rfl)
    fun h2 => absurd (h2 hc) (by simp [h])

/-- With the empty-heap repair, what `StreamDeleted` does to the observable group depends on the
observable group alone. -/
theorem obs_notify (cfg : Cfg) (hc : cfg.emptyHeapNoEpoch = true) (n : String) (e : Nat) (g : Group)
    (hsub : MemSub g) (he : g.epoch ≤ e) : obsGroup (notifyGroup cfg n e g) = notifyGO n e (obsGroup g) := by
  refine notifyGroup_accepted (P := fun g' => obsGroup g' = notifyGO n e (obsGroup g)) hsub he
    (fun h _ => (notifyGO_id n e g h).symm) (fun h => ?_)
  unfold notifyGO
  rw [show subscribedO (obsGroup g) n = subscribed g n from rfl, h hc]
  rfl

theorem subscribed_tomb_congr {T1 T2 : List String} (g : Group) (h : ∀ x ∈ T2, x ∈ T1)
    (hc : ∀ x ∈ T1, subscribed g x = false) : ∀ x ∈ T2, subscribed g x = false :=
  fun x hx => hc x (h x hx)

theorem purge_obs (cfg : Cfg) (hc : cfg.emptyHeapNoEpoch = true) (e : Nat) : ∀ (L : List String) (gs : List Group),
    (∀ g ∈ gs, ∀ x ∈ L, subscribed g x = false) →
    (L.foldl (fun gs n => notifyDeleted cfg gs n e) gs).map obsGroup = gs.map obsGroup
  | [], _, _ => rfl
  | n :: L, gs, hcl => by
    rw [List.foldl_cons, purge_obs cfg hc e L _ (forall_notifyDeleted (Q := fun g => ∀ x ∈ L, subscribed g x = false)
        (fun g hg x hx => hcl g hg x (List.mem_cons_of_mem _ hx)) fun g hg x hx => subscribed_notify cfg n e g x (hg x hx)),
      notifyDeleted, List.map_map]
    exact List.map_congr_left fun g hg => obsGroup_notify_unsub cfg hc n e g (hcl g hg n List.mem_cons_self)

end Liftbridge.Proofs.Metadata
