/-
ISR membership and the term fence of follower fetches (C02): what `replicator.tick` decides —
through the regenerated decision `Gen.Protocol.tickOutOfSync` and the regenerated action table —,
which fetches the leader drops (`Gen.Protocol.replReqReject`), the invariant that a following
server's leader epoch is positive (it is the index of a Raft log entry), over ALL steps of the
model, and two lemmas for how the controller's ISR grows (Props/C02 `isr_member_was_expanded`).
-/
import Liftbridge.Model.Protocol
import Liftbridge.Proofs.Protocol
import Liftbridge.Proofs.ProtocolInv

namespace Liftbridge.Proofs.Protocol
open Liftbridge Liftbridge.Log Liftbridge.Log.CLog Liftbridge.Protocol Liftbridge.Proofs.Log

/-- The regenerated `outOfSync` decision, read back: a replica is out of sync iff it was not seen
OR was not caught up within max lag time. -/
theorem outOfSync_eq (sv : Srv) (r : Sid) :
    outOfSync sv r = (!sv.seen.contains r || (lookup sv.caughtUp r).isNone) := by
  unfold outOfSync
  rw [← Option.not_isSome]
  -- a function of the two flags: four rows
  generalize sv.seen.contains r = seen
  generalize (lookup sv.caughtUp r).isSome = caughtUp
  cases seen <;> cases caughtUp <;> rfl

/-- `tick` proposes the re-entry of `r` only if `r` is recorded as caught up within max lag time
(and is not in the leader's ISR view). -/
theorem tickExpands_caughtUp {sv : Srv} {r : Sid} (h : tickExpands sv r = true) :
    (∃ v, lookup sv.caughtUp r = some v) ∧ sv.seen.contains r = true ∧ (keys sv.isrOff).contains r = false := by
  have h : (r ∈ sv.seen ∧ (lookup sv.caughtUp r).isSome = true) ∧ r ∉ keys sv.isrOff := by
    simpa [tickExpands, outOfSync_eq, Gen.Protocol.tickExpandWhen] using h
  exact ⟨Option.isSome_iff_exists.mp h.1.2, by simpa using h.1.1, by simpa using h.2⟩

/-- `tick` proposes the removal of `r` only if `r` is in the ISR and was not caught up (or not even
seen) within max lag time. -/
theorem tickShrinks_spec {sv : Srv} {r : Sid} (h : tickShrinks sv r = true) :
    (sv.seen.contains r = false ∨ lookup sv.caughtUp r = none) ∧ (keys sv.isrOff).contains r = true := by
  simpa [tickShrinks, outOfSync_eq, Gen.Protocol.tickShrinkWhen] using h

/-- The regenerated term fence, read back: a request is dropped iff it names a non-zero leader
epoch other than the leader's own. -/
theorem rejectFetch_iff (e le : Nat) : rejectFetch e le = true ↔ e ≠ 0 ∧ e ≠ le := by
  simp only [rejectFetch, Gen.Protocol.replReqReject, BExp.eval, Cmp.evalInt, if_true, Bool.and_eq_true,
    decide_eq_true_eq, ne_eq]
  constructor
  · intro ⟨h1, h2⟩; exact ⟨by omega, by simp at h2; omega⟩
  · intro ⟨h1, h2⟩; exact ⟨by omega, by simp; omega⟩

/-! ### a server that follows (or leads) has a positive leader epoch — over ALL steps -/

/-- A partition object exists whenever the server plays a role, and its leader epoch is the index
(1-based) of the Raft entry that set it. -/
def Good (sv : Srv) : Prop := (sv.role ≠ .idle → sv.hasPart = true) ∧ (sv.hasPart = true → 1 ≤ sv.leaderEpoch)

theorem Good.of_idle {sv : Srv} (hr : sv.role = .idle) (hp : sv.hasPart = false) : Good sv :=
  ⟨fun h => absurd hr h, fun h => by rw [hp] at h; cases h⟩

def EpInv (st : State) : Prop := ∀ s sv, st.get s = some sv → Good sv

theorem epInv_set {st : State} (J : EpInv st) (i : Sid) {sv' : Srv} (h : Good sv') : EpInv (st.set i sv') := by
  intro s x hs
  rcases get_set hs with ⟨_, rfl⟩ | hs
  · exact h
  · exact J s x hs

theorem startRole_good (c : Cfg) (me : Sid) (sv : Srv) (hp : sv.hasPart = true) (he : 1 ≤ sv.leaderEpoch) :
    Good (startRole c me sv).1 := by
  have h1 : sv.stop.hasPart = sv.hasPart ∧ sv.stop.leaderEpoch = sv.leaderEpoch := by
    unfold Srv.stop; split <;> exact ⟨rfl, rfl⟩
  unfold startRole
  split
  · exact ⟨fun _ => h1.1.trans hp, fun _ => h1.2 ▸ he⟩
  · exact ⟨fun _ => h1.1.trans hp, fun _ => h1.2 ▸ he⟩

theorem applyOp_good (c : Cfg) (me : Sid) (sv : Srv) (idx : Nat) (op : MetaOp) (rec : Bool) (h : Good sv)
    (hi : 1 ≤ idx) : Good (applyOp c me sv idx op rec).1 := by
  cases op with
  | create l =>
    simp only [applyOp]
    split
    · exact ⟨fun _ => rfl, fun _ => hi⟩
    · exact startRole_good c me _ rfl hi
  | shrink r => simp only [applyOp]; split <;> exact h
  | expand r => simp only [applyOp]; split <;> exact h
  | changeLeader l =>
    simp only [applyOp]
    split
    · exact h
    · rename_i hp
      have hp' : sv.hasPart = true := by simpa using hp
      split
      · exact h
      · split
        · exact ⟨fun _ => hp', fun _ => hi⟩
        · exact startRole_good c me _ hp' hi

theorem replay_good (c : Cfg) (me : Sid) (ops : List MetaOp) : ∀ (fuel idx : Nat) (sv : Srv), Good sv → 1 ≤ idx →
    Good (replay c me ops fuel idx sv) := by
  intro fuel
  induction fuel with
  | zero => intro idx sv h _; exact h
  | succ n ih =>
    intro idx sv h hi
    simp only [replay]
    split
    · exact h
    · exact ih (idx + 1) _ (applyOp_good c me sv idx _ true h hi) (by omega)

/-- The steps of one term leave role, partition object and leader epoch alone; the others set the
epoch to the index of a Raft entry (`applyOp_good`) or keep a server that plays a role. -/
theorem epInv_step (c : Cfg) (st st' : State) (s : Step) (J : EpInv st) (h : step c st s = some st') : EpInv st' := by
  cases Steps.of_step h with
  | publish sv sv' as hsv hp =>
    have g := J _ sv hsv
    refine epInv_set J _ ?_
    rcases publishStep_cases hp with ⟨_, rfl, _⟩ | ⟨_, _, rfl, _⟩ | ⟨_, _, _, _, _, _, rfl, _⟩ <;> exact g
  | commit sv hsv =>
    refine epInv_set J _ ?_
    rcases commitStep_srv c sv with e | ⟨q, e⟩ <;> rw [e] <;> exact J _ sv hsv
  | serve sv src off ep rid hsv =>
    refine epInv_set J _ ?_
    rcases serveStep_cases c sv src off ep rid with e | ⟨_, _, _, e, _⟩ <;> rw [e] <;> exact J _ sv hsv
  | applyResp sv rid ep hw recs hsv =>
    obtain ⟨log', e, _⟩ := applyRespStep_spec sv ep hw recs
    rw [e]
    exact epInv_set J _ (J _ sv hsv)
  | fetch sv hsv | clearCaughtUp sv hsv | clearSeen sv hsv => exact epInv_set J _ (J _ sv hsv)
  | applyNext sv op hsv => exact epInv_set J _ (applyOp_good c _ sv _ op false (J _ sv hsv) (Nat.le_add_left 1 _))
  | reconcile sv _ _ hsv hr | reconcileFail sv hsv hr =>
    have hp := (J _ sv hsv).1 (by rw [hr]; decide)
    exact epInv_set J _ ⟨fun _ => hp, (J _ sv hsv).2⟩
  | crash => exact epInv_set J _ (.of_idle rfl rfl)
  | restart sv sv1 hsv h1 hp =>
    have g1 : Good sv1 := h1 ▸ replay_good c _ st.committed _ 1 _ (.of_idle rfl rfl) (Nat.le_refl 1)
    exact epInv_set J _ (startRole_good c _ sv1 hp (g1.2 hp))
  | restartIdle sv sv1 hsv h1 =>
    exact epInv_set J _ (h1 ▸ replay_good c _ st.committed _ 1 _ (.of_idle rfl rfl) (Nat.le_refl 1) :)
  | _ => exact J

theorem epInv_init (c : Cfg) : EpInv (Protocol.init c) := by
  intro s sv h
  cases init_get h
  exact .of_idle rfl rfl

theorem epInv_reachable {c : Cfg} {st : State} (h : Reachable c st) : EpInv st := by
  obtain ⟨steps, hs⟩ := h
  exact run_invariant (Q := fun _ => True) (fun st st' s J _ => epInv_step c st st' s J) steps _ _ (epInv_init c)
    (fun _ _ => trivial) hs

theorem metaFrom_append (n : Nat) : ∀ (ops : List MetaOp) (v : MetaView) (idx : Nat) (op : MetaOp),
    metaFrom n v idx (ops ++ [op]) = (metaFrom n v idx ops).apply n (idx + ops.length) op := by
  intro ops
  induction ops with
  | nil => intro v idx op; simp [metaFrom]
  | cons o os ih =>
    intro v idx op
    simp only [List.cons_append, metaFrom, List.length_cons]
    rw [ih]
    congr 1
    omega

theorem mem_sInsert {xs : List Sid} {x r : Sid} (h : r ∈ sInsert xs x) : r ∈ xs ∨ r = x := by
  unfold sInsert at h
  split at h
  · exact Or.inl h
  · simp only [List.append_assoc, List.cons_append, List.nil_append, List.mem_append, List.mem_filter,
      List.mem_cons] at h
    rcases h with h | h | h
    · exact Or.inl h.1
    · exact Or.inr h
    · exact Or.inl h.1

end Liftbridge.Proofs.Protocol
