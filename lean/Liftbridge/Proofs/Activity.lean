/-
Lemmas for Props/C18.lean (Model/Activity.lean: the `dispatch` goroutine of server/activity.go, the
PUBLISH_ACTIVITY case and Snapshot/Restore of server/fsm.go). `Move` lists what a step can do to the
state (`step_move`); each invariant is one case analysis over it. The invariant `Inv` is preserved by
every step (`inv_run`); `drive_publishes` is the progress half of "at least once"; `NR` / `nr_run`:
only steps that are not `Gentle` take a dispatcher below the compaction floor; `Wedged` /
`wedged_run`: a controller that restarts below the floor stays there.
-/
import Liftbridge.Model.Activity

namespace Liftbridge.Activity

/-! ### regenerated constants the proofs depend on (a change in the source breaks these `rfl`s) -/

@[simp] theorem eventId_eq (i : Nat) : eventId i = i := rfl
@[simp] theorem startOffset_eq : Gen.Activity.startOffset = 1 := rfl
@[simp] theorem caughtUp_eval (i n : Nat) : Gen.Activity.caughtUpCmp.evalNat i n = decide (i > n) := rfl
@[simp] theorem getLogPanics_eq : Gen.Activity.getLogErrorPanics = true := rfl
@[simp] theorem recordArg_eq : Gen.Activity.recordArgIsEventId = true := rfl
@[simp] theorem applyStores_eq : Gen.Activity.applyStoresArg = true := rfl

@[simp] theorem setDisp_zero (s : State) (d : Disp) : setDisp s 0 d = { s with dispatcher := some d } := rfl
@[simp] theorem setDisp_succ (s : State) (k : Nat) (d : Disp) :
    setDisp s (k + 1) d = { s with zombies := s.zombies.set k d } := rfl
@[simp] theorem getDisp_zero (s : State) : getDisp s 0 = s.dispatcher := rfl
@[simp] theorem startDisp_next (lp : Nat) : (startDisp lp).next = lp + 1 := rfl
@[simp] theorem startDisp_holding (lp : Nat) : (startDisp lp).holding = false := rfl

theorem entryAt_some_bounds {raft : List Entry} {i : Nat} {e : Entry} (h : entryAt raft i = some e) :
    1 ≤ i ∧ i ≤ raft.length := by
  unfold entryAt at h
  split at h
  · cases h
  · have := (List.getElem?_eq_some_iff.mp h).1
    omega

theorem entryAt_of_bounds {raft : List Entry} {i : Nat} (h1 : 1 ≤ i) (h2 : i ≤ raft.length) :
    ∃ e, entryAt raft i = some e :=
  ⟨raft[i - 1]'(by omega), by simp [entryAt, Nat.ne_of_gt h1]⟩

theorem entryAt_append_le {raft l : List Entry} {i : Nat} (h : i ≤ raft.length) :
    entryAt (raft ++ l) i = entryAt raft i := by
  unfold entryAt
  split
  · rfl
  · rw [List.getElem?_append_left (by omega)]

theorem evAt_zero (raft : List Entry) : evAt raft 0 = false := rfl

theorem evAt_append_le {raft l : List Entry} {j : Nat} (h : j ≤ raft.length) :
    evAt (raft ++ l) j = evAt raft j := by
  simp [evAt, entryAt_append_le h]

theorem evAt_true_iff {raft : List Entry} {j : Nat} :
    evAt raft j = true ↔ ∃ e act, entryAt raft j = some e ∧ eventOf e = some act := by
  unfold evAt
  cases h : entryAt raft j <;> simp [Option.isSome_iff_exists]

theorem evAt_le {raft : List Entry} {j : Nat} (h : evAt raft j = true) : 1 ≤ j ∧ j ≤ raft.length := by
  obtain ⟨e, _, he, _⟩ := evAt_true_iff.mp h
  exact entryAt_some_bounds he

theorem replay_cons (start : Nat) (e : Entry) (l : List Entry) :
    replay start (e :: l) = replay (if isPA e then e.arg else start) l := by
  simp [replay, List.foldl_cons]

theorem replay_append (start : Nat) (l l' : List Entry) :
    replay start (l ++ l') = replay (replay start l) l' :=
  List.foldl_append

theorem replay_cases (l : List Entry) : ∀ start,
    replay start l = start ∨ ∃ e ∈ l, isPA e = true ∧ replay start l = e.arg := by
  induction l with
  | nil => exact fun _ => .inl rfl
  | cons e l ih =>
    intro start
    rw [replay_cons]
    rcases ih (if isPA e then e.arg else start) with h | ⟨e', he', hp, hr⟩
    · rw [h]
      by_cases hpa : isPA e = true
      · exact .inr ⟨e, List.mem_cons_self, hpa, by simp [hpa]⟩
      · exact .inl (by simp [hpa])
    · exact .inr ⟨e', List.mem_cons_of_mem _ he', hp, hr⟩

theorem replay_noPA (start : Nat) {l : List Entry} (h : ∀ e ∈ l, isPA e = false) :
    replay start l = start :=
  (replay_cases l start).resolve_right fun ⟨e, he, hp, _⟩ => by rw [h e he] at hp; cases hp

theorem restoredC_cases (carries : Bool) (snap : Nat) (raft : List Entry) :
    restoredC carries snap raft = 0 ∨ ∃ e ∈ raft, isPA e = true ∧ restoredC carries snap raft = e.arg := by
  unfold restoredC
  rcases replay_cases (raft.drop snap) (if carries then replay 0 (raft.take snap) else 0) with
    h | ⟨e, he, hp, hr⟩
  · rw [h]
    split
    · exact (replay_cases (raft.take snap) 0).imp_right fun ⟨e, he, hp, hr⟩ =>
        ⟨e, List.mem_of_mem_take he, hp, hr⟩
    · exact .inl rfl
  · exact .inr ⟨e, List.mem_of_mem_drop he, hp, hr⟩

theorem restoredC_false_commit (snap : Nat) (raft : List Entry) (e : Entry) (h : isPA e = false) :
    restoredC false snap (raft ++ [e]) = restoredC false snap raft := by
  simp only [restoredC, Bool.false_eq_true, if_false, List.drop_append, replay_append]
  refine replay_noPA _ fun x hx => ?_
  rw [List.mem_singleton.1 (List.mem_of_mem_drop hx)]
  exact h

theorem firsts_append (l : List Nat) (x : Nat) :
    firsts (l ++ [x]) = if x ∈ firsts l then firsts l else firsts l ++ [x] := by
  unfold firsts
  rw [List.foldl_append]
  rfl

theorem mem_foldl_firsts (l : List Nat) (x : Nat) : ∀ acc : List Nat,
    x ∈ l.foldl (fun acc x => if x ∈ acc then acc else acc ++ [x]) acc ↔ x ∈ acc ∨ x ∈ l := by
  induction l with
  | nil => intro acc; simp
  | cons y l ih =>
    intro acc
    rw [List.foldl_cons, ih]
    by_cases hy : y ∈ acc
    · by_cases hxy : x = y
      · subst hxy; simp [hy]
      · simp [hy, hxy]
    · simp [hy, or_assoc]

theorem mem_firsts (l : List Nat) (x : Nat) : x ∈ firsts l ↔ x ∈ l := by
  unfold firsts
  rw [mem_foldl_firsts]
  simp

/-! ### what the building blocks of a dispatch iteration do to the log and the ids -/

@[simp] theorem ids_append (s : State) (ev : Event) : ids (append s ev) = ids s ++ [ev.id] := by
  simp [ids, append]
@[simp] theorem raft_append (s : State) (ev : Event) : (append s ev).raft = s.raft := rfl
@[simp] theorem ids_record (s : State) (i : Nat) : ids (record s i) = ids s := rfl
@[simp] theorem raft_record (s : State) (i : Nat) : (record s i).raft = s.raft ++ [paEntry i] := rfl
@[simp] theorem ids_setDisp (s : State) (who : Nat) (d : Disp) : ids (setDisp s who d) = ids s := by
  cases who <;> rfl
@[simp] theorem raft_setDisp (s : State) (who : Nat) (d : Disp) : (setDisp s who d).raft = s.raft := by
  cases who <;> rfl

/-- What every live dispatch goroutine satisfies: everything event-bearing below its index has
been published. -/
structure DispOK (raft : List Entry) (idl : List Nat) (d : Disp) : Prop where
  pos : 1 ≤ d.next
  le : d.next ≤ raft.length + 1
  below : ∀ j, j < d.next → evAt raft j = true → j ∈ idl

theorem DispOK.mono {raft : List Entry} {idl idl' : List Nat} {d : Disp} (l : List Entry)
    (h : DispOK raft idl d) (hsub : ∀ x, x ∈ idl → x ∈ idl') : DispOK (raft ++ l) idl' d where
  pos := h.pos
  le := by have := h.le; simp only [List.length_append]; omega
  below := by
    intro j hj hev
    have hle : j ≤ raft.length := by have := h.le; omega
    rw [evAt_append_le hle] at hev
    exact hsub _ (h.below j hj hev)

theorem DispOK.holding {raft : List Entry} {idl : List Nat} {d : Disp} (b : Bool)
    (h : DispOK raft idl d) : DispOK raft idl { next := d.next, holding := b } :=
  ⟨h.pos, h.le, h.below⟩

theorem DispOK.advance {raft : List Entry} {idl : List Nat} {d : Disp} (h : DispOK raft idl d)
    (hle : d.next ≤ raft.length) (hev : evAt raft d.next = true → d.next ∈ idl) :
    DispOK raft idl { next := d.next + 1, holding := false } := by
  refine ⟨Nat.le_add_left .., Nat.succ_le_succ hle, fun j hj hevj => ?_⟩
  rcases Nat.lt_succ_iff_lt_or_eq.1 hj with hlt | rfl
  · exact h.below j hlt hevj
  · exact hev hevj

structure Inv (s : State) : Prop where
  ack : s.ackNone = false
  floorPos : 1 ≤ s.floor
  evs : ∀ ev ∈ s.stream, ∃ e, entryAt s.raft ev.id = some e ∧ eventOf e = some ev.op
  closed : ∀ y ∈ ids s, ∀ j, j < y → evAt s.raft j = true → j ∈ ids s
  disp : ∀ d, s.dispatcher = some d → DispOK s.raft (ids s) d
  zomb : ∀ d ∈ s.zombies, DispOK s.raft (ids s) d
  pas : ∀ e ∈ s.raft, isPA e = true → e.arg ∈ ids s
  lp : s.lastPublished = 0 ∨ s.lastPublished ∈ ids s
  sorted : (firsts (ids s)).Pairwise (· < ·)

theorem inv_init : Inv (init false) where
  ack := rfl
  floorPos := by simp [init]
  evs := by simp [init]
  closed := by simp [init, ids]
  disp := by simp [init]
  zomb := by simp [init]
  pas := by simp [init]
  lp := by simp [init]
  sorted := by simp [init, ids, firsts]

theorem ids_ev {s : State} (h : Inv s) {y : Nat} (hy : y ∈ ids s) : evAt s.raft y = true := by
  simp only [ids, List.mem_map] at hy
  obtain ⟨ev, hev, rfl⟩ := hy
  obtain ⟨e, he, ha⟩ := h.evs ev hev
  exact evAt_true_iff.mpr ⟨e, ev.op, he, ha⟩

theorem ids_le {s : State} (h : Inv s) {y : Nat} (hy : y ∈ ids s) : 1 ≤ y ∧ y ≤ s.raft.length :=
  evAt_le (ids_ev h hy)

/-- Extending the log (by entries that are not PUBLISH_ACTIVITY, or whose argument is published). -/
theorem inv_extend {s : State} (h : Inv s) (e : Entry) (hpa : isPA e = true → e.arg ∈ ids s) :
    Inv { s with raft := s.raft ++ [e] } where
  ack := h.ack
  floorPos := h.floorPos
  evs := by
    intro ev hev
    obtain ⟨x, hx, ha⟩ := h.evs ev hev
    exact ⟨x, by rw [entryAt_append_le (entryAt_some_bounds hx).2]; exact hx, ha⟩
  closed := by
    intro y hy j hj hev
    have hyl := (ids_le h hy).2
    rw [evAt_append_le (by omega)] at hev
    exact h.closed y hy j hj hev
  disp := fun d hd => (h.disp d hd).mono [e] (fun _ hx => hx)
  zomb := fun d hd => (h.zomb d hd).mono [e] (fun _ hx => hx)
  pas := by
    intro x hx hp
    rcases List.mem_append.1 hx with hx | hx
    · exact h.pas x hx hp
    · rw [List.mem_singleton.1 hx] at hp ⊢; exact hpa hp
  lp := h.lp
  sorted := h.sorted

/-- Appending the event of entry `i` when everything event-bearing below `i` is published. -/
theorem inv_append {s : State} (h : Inv s) {i act : Nat} {e : Entry}
    (he : entryAt s.raft i = some e) (ha : eventOf e = some act)
    (hb : ∀ j, j < i → evAt s.raft j = true → j ∈ ids s) :
    Inv (append s { id := i, op := act }) := by
  have hsub : ∀ x, x ∈ ids s → x ∈ ids (append s { id := i, op := act }) := by simp +contextual
  refine ⟨h.ack, h.floorPos, ?_, ?_, ?_, ?_, ?_, ?_, ?_⟩
  · intro ev hev
    rcases List.mem_append.1 hev with hev | hev
    · exact h.evs ev hev
    · rw [List.mem_singleton.1 hev]; exact ⟨e, he, ha⟩
  · intro y hy j hj hev
    rw [ids_append] at hy
    rcases List.mem_append.1 hy with hy | hy
    · exact hsub _ (h.closed y hy j hj hev)
    · rw [List.mem_singleton.1 hy] at hj; exact hsub _ (hb j hj hev)
  · exact fun d hd => by simpa using (h.disp d hd).mono [] hsub
  · exact fun d hd => by simpa using (h.zomb d hd).mono [] hsub
  · exact fun x hx hp => hsub _ (h.pas x hx hp)
  · exact h.lp.imp_right (hsub _)
  · rw [ids_append, firsts_append]
    split
    · exact h.sorted
    · -- a new id is greater than all published ones: these are closed downwards
      rename_i hi
      refine List.pairwise_append.2 ⟨h.sorted, List.pairwise_singleton _ _, fun a ha' b hb' => ?_⟩
      rw [List.mem_singleton.1 hb']
      have ha2 : a ∈ ids s := (mem_firsts _ _).mp ha'
      have hne : a ≠ i := fun hab => hi (hab ▸ ha')
      have hnlt : ¬ i < a := fun hlt =>
        hi ((mem_firsts _ _).mpr (h.closed a ha2 i hlt (evAt_true_iff.mpr ⟨e, act, he, ha⟩)))
      show a < i
      omega

/-- Committing `PUBLISH_ACTIVITY{RaftIndex: i}` for a published `i`. -/
theorem inv_record {s : State} (h : Inv s) {i : Nat} (hi : i ∈ ids s) : Inv (record s i) :=
  { inv_extend h (paEntry i) (fun _ => hi) with lp := Or.inr hi }

theorem inv_setDisp {s : State} (h : Inv s) (who : Nat) {d : Disp}
    (hd : DispOK s.raft (ids s) d) : Inv (setDisp s who d) := by
  cases who with
  | zero => exact { h with disp := fun d' hd' => Option.some.inj hd' ▸ hd }
  | succ k =>
    refine { h with zomb := fun d' hd' => ?_ }
    rcases List.mem_or_eq_of_mem_set hd' with h1 | h1
    · exact h.zomb d' h1
    · exact h1 ▸ hd

theorem getDisp_ok {s : State} (h : Inv s) {who : Nat} {d : Disp} (hd : getDisp s who = some d) :
    DispOK s.raft (ids s) d := by
  cases who with
  | zero => exact h.disp d hd
  | succ k => exact h.zomb d (List.mem_of_getElem? hd)

/-- A fresh dispatcher starting after an index that is `0` or published. -/
theorem dispOK_start {s : State} (h : Inv s) {lp : Nat} (hlp : lp = 0 ∨ lp ∈ ids s) :
    DispOK s.raft (ids s) (startDisp lp) := by
  refine ⟨by simp, ?_, fun j hj hev => ?_⟩
  · rcases hlp with rfl | h1
    · simp
    · simpa using (ids_le h h1).2
  · rw [startDisp_next] at hj
    rcases Nat.lt_succ_iff_lt_or_eq.1 hj with hlt | rfl
    · rcases hlp with rfl | h1
      · cases hlt
      · exact h.closed lp h1 j hlt hev
    · rcases hlp with rfl | h1
      · rw [evAt_zero] at hev; cases hev
      · exact h1

theorem restored_ok {s : State} (h : Inv s) (v : Nat) :
    restored v s.raft = 0 ∨ restored v s.raft ∈ ids s :=
  (restoredC_cases Gen.Activity.snapshotCarriesLastPublished v s.raft).imp_right
    fun ⟨e, he, hp, hr⟩ => by unfold restored; rw [hr]; exact h.pas e he hp

/-- A new controller starts after `lp`; the stale goroutines are old ones. -/
theorem inv_newLeader {s : State} (h : Inv s) {lp : Nat} (hlp : lp = 0 ∨ lp ∈ ids s)
    {zs : List Disp} (hzs : ∀ d ∈ zs, d ∈ s.zombies ∨ s.dispatcher = some d) :
    Inv { s with crashed := false, lastPublished := lp, zombies := zs,
                 dispatcher := some (startDisp lp) } :=
  { h with
    disp := fun _ hd => Option.some.inj hd ▸ dispOK_start h hlp
    zomb := fun d hd => (hzs d hd).elim (h.zomb d) (h.disp d)
    lp := hlp }

/-! ### what a step does -/

/-- What a step does, with what is known when it does it. `stay`: the step is not enabled.
`panic`: `GetLog` fails. `pass` / `publish`: goroutine `who`, holding its entry or reading it above
the floor, passes an entry without event or runs `handleRaftLog`. -/
inductive Move (s : State) : Step → State → Prop
  | stay (st : Step) : Move s st s
  | commit {e : Entry} (hp : isPA e = false) : Move s (.commit e) { s with raft := s.raft ++ [e] }
  | panic (who : Nat) (o : Outcome) :
    Move s (.dispatch who o) { s with crashed := true, dispatcher := none, zombies := [] }
  | pass {who : Nat} (o : Outcome) {d : Disp} {e : Entry} (hd : getDisp s who = some d)
    (hg : d.holding = true ∨ s.floor ≤ d.next ∧ d.next ≠ 0)
    (he : entryAt s.raft d.next = some e) (ha : eventOf e = none) :
    Move s (.dispatch who o) (setDisp s who { next := d.next + 1, holding := false })
  | publish {who : Nat} {o : Outcome} {d : Disp} {e : Entry} {act : Nat} {s' : State}
    (hd : getDisp s who = some d) (hg : d.holding = true ∨ s.floor ≤ d.next ∧ d.next ≠ 0)
    (he : entryAt s.raft d.next = some e) (ha : eventOf e = some act)
    (hp : publishE s who d.next act o = .ok s') : Move s (.dispatch who o) s'
  | leader (view : Option Nat) (linger : Bool) {zs : List Disp}
    (hzs : ∀ d ∈ zs, d ∈ s.zombies ∨ s.dispatcher = some d) :
    Move s (.leaderChange view linger)
      { s with crashed := false, lastPublished := viewOf s view, zombies := zs,
               dispatcher := some (startDisp (viewOf s view)) }
  | restart :
    Move s .restart
      { s with crashed := false, lastPublished := restored s.snap s.raft, zombies := [],
               dispatcher := some (startDisp (restored s.snap s.raft)) }
  | snapshot (idx : Nat) {f : Nat} (hf : s.floor ≤ f) :
    Move s (.snapshot idx f) { s with snap := idx, floor := f }

theorem step_move (s : State) (st : Step) : Move s st (step s st) := by
  cases st with
  | commit e =>
    by_cases hp : isPA e = true
    · simpa [step, stepE, hp] using Move.stay _
    · simpa [step, stepE, hp] using Move.commit (Bool.eq_false_iff.2 hp)
  | dispatch who o =>
    simp only [step, stepE]
    cases hs : dispatchE s who o with
    | err _ | panic => exact .stay _
    | ok s' =>
      unfold dispatchE at hs
      split at hs
      · cases hs
      split at hs
      · cases hs
      rename_i d hd
      split at hs
      · cases hs
      split at hs
      · split at hs
        · cases hs; exact .panic who o
        · cases hs
      rename_i hfl
      have hg : d.holding = true ∨ s.floor ≤ d.next ∧ d.next ≠ 0 := by
        cases hh : d.holding <;> simp_all <;> omega
      split at hs
      · cases hs
      rename_i e he
      split at hs
      · cases hs; exact .pass o hd hg he ‹_›
      · exact .publish hd hg he ‹_› hs
  | leaderChange view linger =>
    refine .leader view linger fun d hd => ?_
    cases hdisp : s.dispatcher <;> cases linger <;> simp_all [eq_comm]
  | restart => exact .restart
  | snapshot idx f =>
    by_cases hc : s.crashed = true
    · simpa [step, stepE, hc] using Move.stay _
    · by_cases hen : s.snap ≤ idx ∧ idx ≤ s.raft.length ∧ s.floor ≤ f ∧ f ≤ idx + 1
      · simpa [step, stepE, hc, hen] using Move.snapshot idx hen.2.2.1
      · simpa [step, stepE, hc, hen] using Move.stay _

theorem inv_publishE {s s' : State} (h : Inv s) {who : Nat} {d : Disp} {e : Entry} {act : Nat} {o : Outcome}
    (hok : DispOK s.raft (ids s) d) (hle : d.next ≤ s.raft.length)
    (he : entryAt s.raft d.next = some e) (ha : eventOf e = some act)
    (hs : publishE s who d.next act o = .ok s') : Inv s' := by
  have happ := inv_append h he ha hok.below
  have hrec := inv_record happ (i := d.next) (by simp)
  have hok' : DispOK (s.raft ++ [paEntry d.next]) (ids s ++ [d.next]) d :=
    hok.mono _ fun _ hx => List.mem_append_left _ hx
  cases o <;> simp only [publishE, eventId_eq, Res.ok.injEq] at hs
  · subst hs
    exact inv_setDisp h who (hok.holding true)
  · subst hs
    exact inv_setDisp happ who (by simpa using (hok.mono [] fun _ hx => List.mem_append_left _ hx).holding true)
  · subst hs
    exact inv_setDisp hrec who (by simpa using hok'.holding true)
  · subst hs
    have hadv := hok'.advance (by simp; omega) (fun _ => by simp)
    exact inv_setDisp hrec who (by simpa using hadv)
  · rw [h.ack] at hs; cases hs

theorem inv_move {s s' : State} {st : Step} (h : Inv s) (m : Move s st s') : Inv s' := by
  cases m with
  | stay => exact h
  | commit hp => exact inv_extend h _ (fun hh => by rw [hp] at hh; cases hh)
  | panic => exact { h with disp := by simp, zomb := by simp }
  | pass o hd _ he ha =>
    refine inv_setDisp h _ ((getDisp_ok h hd).advance (entryAt_some_bounds he).2 fun hev => ?_)
    obtain ⟨e', act, he', ha'⟩ := evAt_true_iff.mp hev
    rw [he] at he'; cases he'
    rw [ha] at ha'; cases ha'
  | publish hd _ he ha hp => exact inv_publishE h (getDisp_ok h hd) (entryAt_some_bounds he).2 he ha hp
  | leader view linger hzs =>
    refine inv_newLeader h ?_ hzs
    cases view with
    | none => exact h.lp
    | some v => exact restored_ok h v
  | restart => exact inv_newLeader h (restored_ok h s.snap) (by simp)
  | snapshot idx hf => exact { h with floorPos := Nat.le_trans h.floorPos hf }

theorem inv_step {s : State} (h : Inv s) (st : Step) : Inv (step s st) :=
  inv_move h (step_move s st)

theorem inv_run {s : State} (h : Inv s) (steps : List Step) : Inv (run s steps) :=
  List.foldlRecOn steps step h fun _ h st _ => inv_step h st

/-! ### progress of the controller's dispatcher -/

theorem dispatch_ok_next {s : State} {d : Disp} (hd : s.dispatcher = some d)
    (hc : s.crashed = false) (hf : s.floor ≤ d.next) (hp : 1 ≤ d.next) (hle : d.next ≤ s.raft.length) :
    let s' := step s (.dispatch 0 .ok)
    s'.dispatcher = some { next := d.next + 1, holding := false } ∧ s'.crashed = false ∧
      s'.floor = s.floor ∧ (∃ l, s'.raft = s.raft ++ l) ∧ (evAt s.raft d.next = true → d.next ∈ ids s') := by
  obtain ⟨e, he⟩ := entryAt_of_bounds hp hle
  have h1 : ¬ (d.next > s.raft.length) := by omega
  have h2 : (!d.holding && (decide (d.next < s.floor) || decide (d.next = 0))) = false := by
    have a : ¬ d.next < s.floor := by omega
    have b : ¬ d.next = 0 := by omega
    simp [a, b]
  simp only [step, stepE, dispatchE, hc, getDisp, hd, caughtUp_eval, h1, decide_false, h2, he,
    Bool.false_eq_true, if_false]
  cases ha : eventOf e with
  | none => exact ⟨rfl, hc, rfl, ⟨[], by simp⟩, fun hev => by simp [evAt, he, ha] at hev⟩
  | some act => exact ⟨rfl, hc, rfl, ⟨_, rfl⟩, fun _ => by simp [publishE, ids, record, append]⟩

theorem drive_publishes (n : Nat) : ∀ (s : State) (d : Disp) (j : Nat), s.dispatcher = some d →
    s.crashed = false → s.floor ≤ d.next → 1 ≤ d.next → d.next + n = j → j ≤ s.raft.length →
    evAt s.raft j = true → j ∈ ids (drive (n + 1) s) := by
  induction n with
  | zero =>
    intro s d j hd hc hf hp hj hjl hev
    subst hj
    exact (dispatch_ok_next hd hc hf hp hjl).2.2.2.2 hev
  | succ n ih =>
    intro s d j hd hc hf hp hj hjl hev
    obtain ⟨hd', hc', hf', ⟨l, hl⟩, _⟩ := dispatch_ok_next hd hc hf hp (by omega)
    refine ih _ _ j hd' hc' (by rw [hf']; exact Nat.le_succ_of_le hf) (Nat.le_add_left ..) (by simp; omega) ?_ ?_
    · rw [hl, List.length_append]; omega
    · rw [hl, evAt_append_le hjl]; exact hev

/-! ### never reading below the compaction floor: which steps can break it -/

/-- Steps that cannot move a dispatcher below the compaction floor. The excluded ones are exactly:
a compaction that overtakes the recorded index or the running dispatcher; a restart / fail-over to
an FSM whose view of the recorded index (restored from a snapshot that does not carry it) lies
below the floor; a stale goroutine recording an old index. -/
def Gentle (s : State) : Step → Prop
  | .commit _ => True
  | .dispatch who o => who = 0 ∨ o = .pubFail ∨ o = .appended
  | .leaderChange view _ => s.floor ≤ viewOf s view + 1
  | .restart => s.floor ≤ restored s.snap s.raft + 1
  | .snapshot _ f => f ≤ s.lastPublished + 1 ∧ s.dispatcher.all (fun d => decide (f ≤ d.next)) = true

instance (s : State) (st : Step) : Decidable (Gentle s st) := by
  cases st <;> simp only [Gentle] <;> infer_instance

def GentleRun : State → List Step → Prop
  | _, [] => True
  | s, st :: rest => Gentle s st ∧ GentleRun (step s st) rest

instance decGentleRun : (s : State) → (l : List Step) → Decidable (GentleRun s l)
  | _, [] => isTrue trivial
  | s, st :: rest => by
    unfold GentleRun
    exact @instDecidableAnd _ _ _ (decGentleRun (step s st) rest)

/-- Neither a dispatcher started from the recorded index nor the running one is below the
compaction floor. Preserved by `Gentle` steps (`nr_step`). -/
structure NR (s : State) : Prop where
  lp : s.floor ≤ s.lastPublished + 1
  disp : ∀ d, s.dispatcher = some d → s.floor ≤ d.next

theorem nr_init (a : Bool) : NR (init a) := ⟨by simp [init], by simp [init]⟩

theorem NR.of_disp {s : State} {d : Disp} (hd : s.dispatcher = some d)
    (hlp : s.floor ≤ s.lastPublished + 1) (hn : s.floor ≤ d.next) : NR s :=
  ⟨hlp, fun _ hd' => Option.some.inj (hd.symm.trans hd') ▸ hn⟩

/-- The controller's goroutine moves forward only, and what it records is its own index; a stale
one may pass entries and append events, not record. -/
theorem nr_move {s s' : State} {st : Step} (h : NR s) (hg : Gentle s st) (m : Move s st s') : NR s' := by
  cases m with
  | stay => exact h
  | commit => exact ⟨h.lp, h.disp⟩
  | panic => exact ⟨h.lp, by simp⟩
  | @pass who o d _ hd =>
    cases who with
    | zero => exact .of_disp rfl h.lp (Nat.le_succ_of_le (h.disp d hd))
    | succ k => exact ⟨h.lp, h.disp⟩
  | @publish who o d _ _ _ hd _ _ _ hp =>
    cases who with
    | zero =>
      have hfl := h.disp d hd
      have hfl' := Nat.le_succ_of_le hfl
      cases o <;> simp only [publishE, eventId_eq, Res.ok.injEq] at hp
      · subst hp; exact .of_disp rfl h.lp hfl
      · subst hp; exact .of_disp rfl h.lp hfl
      · subst hp; exact .of_disp rfl hfl' hfl
      · subst hp; exact .of_disp rfl hfl' hfl'
      · split at hp
        · cases hp; exact .of_disp rfl hfl' hfl'
        · cases hp
    | succ k =>
      rcases hg with hg | rfl | rfl
      · cases hg
      · cases hp; exact ⟨h.lp, h.disp⟩
      · cases hp; exact ⟨h.lp, h.disp⟩
  | leader | restart => exact .of_disp rfl hg hg
  | snapshot idx hf =>
    refine ⟨hg.1, fun d hd => ?_⟩
    have := hg.2
    rw [show s.dispatcher = some d from hd] at this
    simpa using this

theorem nr_step {s : State} (h : NR s) {st : Step} (hg : Gentle s st) : NR (step s st) :=
  nr_move h hg (step_move s st)

theorem nr_run {s : State} (h : NR s) (steps : List Step) (hg : GentleRun s steps) : NR (run s steps) := by
  induction steps generalizing s with
  | nil => exact h
  | cons st rest ih => exact ih (nr_step h hg.1) hg.2

/-! ### once wedged below the floor, retries and restarts never help -/

/-- The controller is (or will after its next restart be) below the compaction floor. -/
structure Wedged (s : State) : Prop where
  nz : s.zombies = []
  lt : restoredC false s.snap s.raft + 1 < s.floor
  disp : ∀ d, s.dispatcher = some d → d = startDisp (restoredC false s.snap s.raft)

/-- Further operations, iterations of the controller's dispatcher (any outcome), restarts. -/
inductive Retry : Step → Prop where
  | commit (e : Entry) : Retry (.commit e)
  | dispatch (o : Outcome) : Retry (.dispatch 0 o)
  | restart : Retry .restart

/-- The fresh dispatcher reads below the floor, so its iterations fail or panic (`pass` and
`publish` are impossible). -/
theorem wedged_move (hc : Gen.Activity.snapshotCarriesLastPublished = false) {s s' : State}
    (h : Wedged s) {st : Step} (hr : Retry st) (m : Move s st s') : Wedged s' ∧ s'.stream = s.stream := by
  have below : ∀ {d}, getDisp s 0 = some d → ¬ (d.holding = true ∨ s.floor ≤ d.next ∧ d.next ≠ 0) := by
    intro d hd hg
    have hlt := h.lt
    rw [h.disp d hd, startDisp_next] at hg
    rcases hg with hh | ⟨hf, _⟩
    · cases hh
    · omega
  cases m with
  | stay => exact ⟨h, rfl⟩
  | @commit e hp =>
    have hre := restoredC_false_commit s.snap s.raft e hp
    exact ⟨⟨h.nz, by rw [hre]; exact h.lt, fun d hd => by rw [hre]; exact h.disp d hd⟩, rfl⟩
  | panic => exact ⟨⟨rfl, h.lt, by simp⟩, rfl⟩
  | pass o hd hg => cases hr; exact absurd hg (below hd)
  | publish hd hg => cases hr; exact absurd hg (below hd)
  | leader => cases hr
  | restart =>
    refine ⟨⟨rfl, h.lt, fun d hd => ?_⟩, rfl⟩
    rw [← Option.some.inj hd]
    show startDisp (restored s.snap s.raft) = startDisp (restoredC false s.snap s.raft)
    rw [restored, hc]
  | snapshot => cases hr

theorem wedged_step (hc : Gen.Activity.snapshotCarriesLastPublished = false) {s : State} (h : Wedged s)
    {st : Step} (hr : Retry st) : Wedged (step s st) ∧ (step s st).stream = s.stream :=
  wedged_move hc h hr (step_move s st)

theorem wedged_run (hc : Gen.Activity.snapshotCarriesLastPublished = false) {s : State} (h : Wedged s)
    (steps : List Step) (hr : ∀ st ∈ steps, Retry st) :
    Wedged (run s steps) ∧ (run s steps).stream = s.stream :=
  List.foldlRecOn steps step (motive := fun s' => Wedged s' ∧ s'.stream = s.stream) ⟨h, rfl⟩
    fun _ h' st hst => (wedged_step hc h'.1 (hr st hst)).imp_right (·.trans h'.2)

end Liftbridge.Activity
