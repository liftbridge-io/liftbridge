/-
C19 — what the model of Model/TelemetryCfg.lean computes, for every shape of the code: the switch,
`telemetry.New`, `Server.Start` and `loadOrCreateInstanceID`. The property theorems are in
Props/C19.lean.
-/
import Liftbridge.Model.TelemetryCfg

namespace Liftbridge.Proofs.Telemetry
open Liftbridge Liftbridge.TelemetryTypes Liftbridge.TelemetryCfg

/-- The variable viper looks up for prefix `LIFTBRIDGE`, key `telemetry.enabled` and the replacer
`.` → `_` is the documented one. The one place where the name is computed: every shape with these
three values refers to it. -/
theorem envVarFor_eq {F : Facts} (hp : F.envPrefix = "LIFTBRIDGE".toList)
    (hk : F.configKey = "telemetry.enabled".toList) (hr : F.envReplacer = [('.', '_')]) :
    envVarFor F = documentedEnvVar := by
  unfold envVarFor
  rw [hp, hk, hr]
  decide +kernel

theorem envBinds_iff (F : Facts) :
    envBinds F = true ↔ F.envAutomatic = true ∧ envVarFor F = documentedEnvVar := by
  simp [envBinds]

/-- `Config.Telemetry.Enabled` for every shape of the code: the programmatic assignment, else the
environment variable where it is bound and consulted on the path `NewConfig` takes, else the
file's key where the file is parsed, else the default. -/
theorem enabled_eq (F : Facts) (c : Cfg) :
    enabled F c = ((c.prog.orElse fun _ =>
      (if envBinds F && (if c.hasConfigFile then F.fileParses && F.fileEnv else F.noFileParses && F.noFileEnv)
        then c.env else none).orElse fun _ =>
      if c.hasConfigFile && F.fileParses then c.file else none).getD F.defaultEnabled) := by
  unfold enabled afterNewConfig viperLookup
  cases c.prog with
  | some b => rfl
  | none =>
    cases c.hasConfigFile
    · cases F.noFileParses
      · simp [Option.orElse]
      · cases F.noFileEnv <;> cases envBinds F <;> cases c.env <;> rfl
    · cases F.fileParses
      · simp [Option.orElse]
      · cases F.fileEnv <;> cases envBinds F <;> cases c.env <;> rfl

theorem enabled_off {F : Facts} {c : Cfg} (h : effectiveOff c) (hfp : F.fileParses = true)
    (henv : c.env = none ∨ envHonoured F) : enabled F c = false := by
  rw [enabled_eq]
  rcases h with h | ⟨h1, h2⟩ | ⟨h1, h2, h3, h4⟩
  · simp [h]
  · obtain ⟨hb, _, hfe, hnp, hne⟩ := henv.resolve_left (by simp [h2])
    simp [h1, h2, hb, hfp, hfe, hnp, hne]
  · simp [h1, h2, h3, h4, hfp]

/-- An assignment that passes the test of `rewriteKeepsOff` / `argKeepsOff` leaves a switch that
is off off. -/
theorem srcEval_keepsOff (s : Src Bool) (dflt : Bool)
    (h : (match s with | .keep => true | .lit b => !b | .dflt => !dflt | .unknown => false) = true) :
    srcEval s false dflt true = false := by
  cases s <;> simp_all [srcEval]

/-- One block of `New` that `rewriteKeepsOff` accepts maps a non-nil disabled config to a
non-nil disabled config. -/
theorem applyRewrite_keepsOff (F : Facts) (r : Rewrite) (c : TCfg)
    (hr : rewriteKeepsOff F.dfltEnabled r = true) (hc : c.enabled = false) :
    ∃ c', applyRewrite F (some c) r = some c' ∧ c'.enabled = false := by
  unfold applyRewrite
  split
  · rename_i hg
    refine ⟨_, rfl, ?_⟩
    unfold rewriteKeepsOff at hr
    -- the guards `isNil true` / `enabled true` cannot hold for a non-nil disabled config
    split at hr
    · simp_all [guardHolds]
    · simp_all [guardHolds]
    · simpa [hc] using srcEval_keepsOff r.enabled F.dfltEnabled hr
  · exact ⟨c, rfl, hc⟩

theorem foldl_applyRewrite {F : Facts} {P : TCfg → Prop} {steps : List Rewrite}
    (hstep : ∀ r ∈ steps, ∀ c, P c → ∃ c', applyRewrite F (some c) r = some c' ∧ P c')
    (c : TCfg) (hc : P c) : ∃ c', steps.foldl (applyRewrite F) (some c) = some c' ∧ P c' := by
  induction steps generalizing c with
  | nil => exact ⟨c, rfl, hc⟩
  | cons r rest ih =>
    obtain ⟨c1, h1, hc1⟩ := hstep r List.mem_cons_self c hc
    rw [List.foldl_cons, h1]
    exact ih (fun r' hr' => hstep r' (List.mem_cons_of_mem _ hr')) c1 hc1

/-- All blocks of `New` are guarded by `cfg == nil`: the shape in which `New` leaves a non-nil config alone
(`newCfg_id`). -/
def onlyNilSteps (F : Facts) : Bool :=
  F.newSteps.all fun r => match r.guard with
    | .isNil true => true
    | _ => false

theorem newCfg_id (F : Facts) (h : onlyNilSteps F = true) (c : TCfg) : newCfg F (some c) = some c := by
  obtain ⟨_, hc', rfl⟩ := foldl_applyRewrite (F := F) (P := (· = c)) (steps := F.newSteps)
    (fun r hr c' hc' => by
      have := List.all_eq_true.1 h r hr
      split at this
      · exact ⟨c', by simp [applyRewrite, guardHolds, *], hc'⟩
      · cases this) c rfl
  exact hc'

theorem newCollector_some {F : Facts} {arg : Option TCfg} {fs : String → IdEnv} {k : Collector}
    (h : newCollector F arg fs = some k) :
    newCfg F arg = some k.cfg ∧ k.id = loadOrCreate F (fs k.cfg.dataDir) ∧ idIsErr k.id = false := by
  unfold newCollector at h
  split at h
  · cases h
  · rename_i c hc
    simp only at h
    split at h
    · cases h
    · rename_i hid
      cases h
      exact ⟨hc, rfl, by simpa using hid⟩

theorem serverRequests_eq (F : Facts) (r : Run) (fs : String → IdEnv) (ticks : Nat) :
    serverRequests F r fs ticks = match startArg F r with
      | none => 0
      | some a => collectorRequests F (some a) fs ticks := by
  unfold serverRequests serverCollector collectorRequests
  cases startArg F r <;> rfl

theorem loadOrCreate_cases (F : Facts) (e : IdEnv) :
    loadOrCreate F e = .err ∨
      ∃ p ∈ F.idPaths, p.conds.all (condHolds F e) = true ∧ loadOrCreate F e = p.out := by
  unfold loadOrCreate
  cases h : idPathTaken F e with
  | none => exact .inl rfl
  | some p =>
    unfold idPathTaken at h
    have hall := List.find?_some h
    exact .inr ⟨p, List.mem_of_find?_eq_some h, hall, rfl⟩

theorem any_isFileUsable (F : Facts) (e : IdEnv) (cs : List IdCond)
    (hall : cs.all (condHolds F e) = true) (hany : cs.any condIsFileUsable = true) :
    fileUsable F e = true := by
  obtain ⟨cnd, hmem, hc⟩ := List.any_eq_true.1 hany
  have hh := List.all_eq_true.1 hall cnd hmem
  cases cnd with
  | fileUsable b => cases b <;> simp_all [condHolds, condIsFileUsable]
  | _ => simp [condIsFileUsable] at hc

theorem any_isOpOk (F : Facts) (e : IdEnv) (o : IdOp) (cs : List IdCond)
    (hall : cs.all (condHolds F e) = true) (hany : cs.any (condIsOpOk o) = true) :
    opOk e o = true := by
  obtain ⟨cnd, hmem, hc⟩ := List.any_eq_true.1 hany
  have hh := List.all_eq_true.1 hall cnd hmem
  cases cnd with
  | op o' ok => cases ok <;> simp_all [condHolds, condIsOpOk]
  | _ => simp [condIsOpOk] at hc

end Liftbridge.Proofs.Telemetry
