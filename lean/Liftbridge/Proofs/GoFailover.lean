/-
Helper lemmas for Props/GoFailover.lean: encodings, `isWitness_body`, and the counting loop of
`failoverStatus.report` (one pass of its body; the loop by induction over the witness map).
-/
import Liftbridge.Proofs.GoCodeBase
import Liftbridge.Gen.GoFailover
import Liftbridge.Model.Failover

namespace Liftbridge.Props.GoFailover
open Liftbridge Liftbridge.GoMini Liftbridge.GoCode
open Liftbridge.Gen.GoFailover

/-- a Go `map[string]…` whose key set is `ks` (values are irrelevant to the translated functions) -/
def encSet (ks : List String) : List (String × Val) := ks.map fun k => (k, .struct [])

/-- `*partition` as `partitionFailover` uses it -/
def encPartition (isr : List String) (leader : String) (epoch : Int) : Val :=
  .struct [("isr", .struct (encSet isr)), ("Leader", .str leader), ("LeaderEpoch", .int epoch)]

/-- the `failover` interface value held by a `failoverStatus` -/
def encFO (isr : List String) (leader : String) (epoch timeout : Int) : Val :=
  .struct [("partition", encPartition isr leader epoch), ("timeout", .int timeout), ("OnExpired", .nil)]

theorem lookup_encSet (k : String) (ks : List String) : (lookup k (encSet ks)).isSome = decide (k ∈ ks) := by
  induction ks with
  | nil => simp [encSet, lookup]
  | cons a rest ih =>
    by_cases h : k = a
    · simp [encSet, lookup, h]
    · simp [encSet, lookup, h] at ih ⊢; simpa [encSet] using ih

theorem lk_GetLeader : evalE.lookup' "GetLeader" prog = some fn_partition_GetLeader := by simp [prog, gomini]
theorem lk_inISR : evalE.lookup' "inISR" prog = some fn_partition_inISR := by simp [prog, gomini]
theorem lk_IsWitness : evalE.lookup' "IsWitness" prog = some fn_partitionFailover_IsWitness := by simp [prog, gomini]
theorem lk_Quorum : evalE.lookup' "Quorum" prog = some fn_partitionFailover_Quorum := by simp [prog, gomini]
theorem lk_ISRSize : evalE.lookup' "ISRSize" prog = some fn_partition_ISRSize := by simp [prog, gomini]
theorem lk_Timeout : evalE.lookup' "Timeout" prog = some fn_partitionFailover_Timeout := by simp [prog, gomini]
theorem lk_none (f : String) (h : f ∉ ["report", "cancel", "Quorum", "IsWitness", "Timeout", "inISR", "ISRSize", "GetLeader"]) :
    evalE.lookup' f prog = none := by
  simp only [List.mem_cons, List.not_mem_nil, or_false, not_or] at h
  simp [prog, evalE.lookup', h]
theorem sig_IsWitness : fn_partitionFailover_IsWitness.recv = some "p" ∧ fn_partitionFailover_IsWitness.params = ["reporter"] := ⟨rfl, rfl⟩

theorem isWitness_body (x : Ext) (n : Nat) (isr : List String) (leader : String) (epoch timeout : Int) (k : String)
    (eff : List (String × List Val)) :
    runBlock (exec prog x (n + 12)) fn_partitionFailover_IsWitness.body
        { env := envOf [("p", encFO isr leader epoch timeout), ("reporter", .str k)], eff := eff } =
      .ok (.ret [.bool (decide (k ≠ leader) && decide (k ∈ isr))],
        ({ env := envOf [("p", encFO isr leader epoch timeout), ("reporter", .str k)], eff := eff } : St).set "leader" (.str leader)) := by
  have hl := lookup_encSet k isr
  cases hlk : lookup k (encSet isr) <;> simp only [hlk, Option.isSome_none, Option.isSome_some, Bool.false_eq, Bool.true_eq, decide_eq_false_iff_not,
      decide_eq_true_eq] at hl <;> by_cases h1 : k = leader <;>
    simp [fn_partitionFailover_IsWitness, fn_partition_GetLeader, fn_partition_inISR, lk_GetLeader, lk_inISR, gomini, bind, R.bind, encFO,
      encPartition, h1, hl, hlk] <;> rfl

/-- `*failoverStatus` -/
def encStatus (W : List (String × Val)) (timer : Bool) (isr : List String) (leader : String) (epoch timeout : Int) : Val :=
  .struct [("witnesses", .struct W), ("timer", if timer then .struct [] else .nil), ("failover", encFO isr leader epoch timeout)]

/-- `time.AfterFunc` hands back a timer -/
def timerExt : Ext := fun f _ _ => if f = "time.AfterFunc" then some (.struct []) else none

def effView : R Out → Option (List Val × List (String × List Val))
  | .ok o => some (o.rets, o.eff)
  | _ => none

/-- the witnesses counted by the model: reporters other than the leader that are in the in-sync set -/
def counted (isr : List String) (leader : String) (W : List (String × Val)) : Nat :=
  (W.filter (fun e => decide (e.1 ≠ leader) && decide (e.1 ∈ isr))).length

def countBody : List Stmt := match fn_failoverStatus_report.body with
  | [_, _, _, .forRange _ _ _ b, _, _, _, _, _] => b
  | _ => []

theorem count_body (x : Ext) (n : Nat) (fs : List (String × Val)) (isr : List String) (leader : String) (epoch timeout : Int)
    (k : String) (cnt : Int) (st : St) (hfo : lookup "failover" fs = some (encFO isr leader epoch timeout))
    (hb : st.Binds [("reporter", .str k), ("reports", .int cnt), ("f", .struct fs)]) :
    runBlock (exec prog x (n + 20)) countBody st =
      .ok (.next, if k ≠ leader ∧ k ∈ isr then st.set "reports" (.int (cnt + 1)) else st) := by
  have hw := isWitness_body x (n + 7) isr leader epoch timeout k st.eff
  simp only [encFO, encPartition] at hw hfo
  rw [← hb.setAll]
  rcases Decidable.em (k = leader) with rfl | h1 <;> by_cases h2 : k ∈ isr <;>
    simp [countBody, fn_failoverStatus_report, lk_IsWitness, sig_IsWitness, gomini, bind, R.bind, St.setAll, binInt, *] <;> rfl

theorem count_loop (x : Ext) (n : Nat) (fs : List (String × Val)) (isr : List String) (leader : String) (epoch timeout : Int) :
    ∀ (kv : List (String × Val)) (cnt : Int) (st : St), st.env "reports" = some (.int cnt) →
      st.env "f" = some (.struct fs) → lookup "failover" fs = some (encFO isr leader epoch timeout) →
      ∃ st', runRangeMap (runBlock (exec prog x (n + 20)) countBody) (some "reporter") none kv st = .ok (.next, st') ∧
        st'.env "reports" = some (.int (cnt + counted isr leader kv)) ∧
        (∀ y, y ≠ "reports" → y ≠ "reporter" → st'.env y = st.env y) ∧ st'.eff = st.eff
  | [], cnt, st, h, _, _ => ⟨st, rfl, by simpa [counted] using h, fun _ _ _ => rfl, rfl⟩
  | (k, v) :: rest, cnt, st, h, hf, hfo => by
    have hbody := count_body x n fs isr leader epoch timeout k cnt (st.set "reporter" (.str k)) hfo ⟨rfl, h, hf, trivial⟩
    rw [runRangeMap_cons]
    simp only [hbody]
    by_cases hw : k ≠ leader ∧ k ∈ isr
    · obtain ⟨st', hr, h1, h2, h3⟩ := count_loop x n fs isr leader epoch timeout rest (cnt + 1)
        ((st.set "reporter" (.str k)).set "reports" (.int (cnt + 1))) rfl hf hfo
      refine ⟨st', by rw [if_pos hw]; exact hr, ?_, fun y y1 y2 => ?_, h3⟩
      · rw [h1]; simp [counted, hw.1, hw.2]; omega
      · rw [h2 y y1 y2]; simp [gomini, y1, y2]
    · obtain ⟨st', hr, h1, h2, h3⟩ := count_loop x n fs isr leader epoch timeout rest cnt (st.set "reporter" (.str k)) h hf hfo
      have hd : (decide (k ≠ leader) && decide (k ∈ isr)) = false := by simpa using hw
      refine ⟨st', by rw [if_neg hw]; exact hr, ?_, fun y y1 y2 => ?_, h3⟩
      · rw [h1]; simp only [counted, List.filter_cons, hd]; rfl
      · rw [h2 y y1 y2]; simp [gomini, y2]

end Liftbridge.Props.GoFailover
