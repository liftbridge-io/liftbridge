/- Refinement of the cursor manager model to the abstract store `Key → Option Int` (C11); for fetches that
overlap other calls, the history variable `seen` of the values a fetch may return. -/
import Liftbridge.Proofs.CursorsLog
namespace Liftbridge.Proofs.Cursors
open Liftbridge Liftbridge.Log Liftbridge.Log.CLog Liftbridge.Compact Liftbridge.Proofs.Log
open Liftbridge.Proofs.Compact Liftbridge.Proofs.Subscribe Liftbridge.Cursors

abbrev AMap := Key → Option Int

/-- A record written by `SetCursor`: a non-empty key and a value that unmarshals. -/
def RecOK (dec : Bytes → Option Int) (r : Rec) : Prop :=
  ∃ k v o, r.body.key = some k ∧ k ≠ [] ∧ r.body.val = some v ∧ dec v = some o

/-- The test of the scan loop, on a record written by `SetCursor`. -/
theorem RecOK.key_getD {dec : Bytes → Option Int} {r : Rec} (h : RecOK dec r) (k : Key) :
    r.body.key.getD [] = k ↔ r.body.key = some k := by
  obtain ⟨k0, -, -, hk0, -⟩ := h
  simp [hk0]

theorem scanMsgs_found (dec : Bytes → Option Int) (k : Key) (oldest : Int) (o : Int) :
    ∀ (L : List Rec), SortedDesc L → (∀ r ∈ L, RecOK dec r) → (∀ r ∈ L, oldest ≤ r.offset) →
    ∀ r ∈ L, r.body.key = some k → dec (r.body.val.getD []) = some o →
      (∀ r' ∈ L, r'.body.key = some k → r'.offset ≤ r.offset) →
      scanMsgs dec k oldest L = some o := by
  intro L
  induction L with
  | nil => intro _ _ _ r hr; cases hr
  | cons r0 rest ih =>
    intro hd hok hold r hr hk hv hmax
    have hd' := List.pairwise_cons.mp hd
    unfold scanMsgs
    by_cases h0 : r0.body.key = some k
    · -- the head carries the key: it is the newest such record
      have : r = r0 := (List.mem_cons.mp hr).resolve_right fun h => by
        have := hd'.1 r h
        have := hmax r0 (by simp) h0
        omega
      simp [← this, hk, hv]
    · have hr' : r ∈ rest := (List.mem_cons.mp hr).resolve_left fun e => h0 (e ▸ hk)
      have := hd'.1 r hr'
      have := hold r hr
      have hexit : Gen.Cursors.oldestExitCmp.evalInt r0.offset oldest = false := by
        simp [Gen.Cursors.oldestExitCmp, Cmp.evalInt]; omega
      simp only [(hok r0 (by simp)).key_getD, h0, if_false, hexit]
      exact ih hd'.2 (fun x hx => hok x (by simp [hx])) (fun x hx => hold x (by simp [hx])) r hr' hk hv
        (fun x hx => hmax x (by simp [hx]))

theorem scanMsgs_absent (dec : Bytes → Option Int) (k : Key) (oldest : Int) :
    ∀ (L : List Rec), (∀ r ∈ L, RecOK dec r) → (∀ r ∈ L, r.body.key ≠ some k) →
      (scanMsgs dec k oldest L).getD (-1) = -1 := by
  intro L
  induction L with
  | nil => intro _ _; rfl
  | cons r0 rest ih =>
    intro hok habs
    unfold scanMsgs
    simp only [(hok r0 (by simp)).key_getD, habs r0 (by simp), if_false]
    split
    · rfl
    · exact ih (fun x hx => hok x (by simp [hx])) (fun x hx => habs x (by simp [hx]))

/-- The log agrees with the abstract store: every record was written by a `set`, the newest
record of a key carries the stored offset, keys never set have no record. -/
structure Agree (dec : Bytes → Option Int) (l : CLog) (M : AMap) : Prop where
  recsOK : ∀ r ∈ l.abs, RecOK dec r
  latest : ∀ k o, M k = some o → ∃ r ∈ l.abs, r.body.key = some k ∧ dec (r.body.val.getD []) = some o ∧
    ∀ r' ∈ l.abs, r'.body.key = some k → r'.offset ≤ r.offset
  absent : ∀ k, M k = none → ∀ r ∈ l.abs, r.body.key ≠ some k

theorem Agree.of_abs_eq {dec : Bytes → Option Int} {l l' : CLog} {M : AMap} (h : Agree dec l M)
    (he : l'.abs = l.abs) : Agree dec l' M :=
  ⟨he ▸ h.recsOK, he ▸ h.latest, he ▸ h.absent⟩

theorem Agree.none_of_empty {dec : Bytes → Option Int} {l : CLog} {M : AMap} (h : Agree dec l M)
    (he : l.abs = []) (k : Key) : M k = none := by
  cases hm : M k with
  | none => rfl
  | some o =>
    obtain ⟨r, hr, -⟩ := h.latest k o hm
    rw [he] at hr; cases hr

theorem Agree.append {dec : Bytes → Option Int} {l l' : CLog} {M : AMap} (h : Agree dec l M) {rec : Rec}
    (habs : l'.abs = l.abs ++ [rec]) (hlt : ∀ r ∈ l.abs, r.offset < rec.offset)
    {k : Key} {v : Bytes} {o : Int} (hk : rec.body.key = some k) (hkne : k ≠ [])
    (hv : rec.body.val = some v) (hd : dec v = some o) :
    Agree dec l' (fun k' => if k' = k then some o else M k') := by
  have hmem : ∀ r, r ∈ l'.abs ↔ r ∈ l.abs ∨ r = rec := by simp [habs]
  -- records of other keys are the old ones
  have hother : ∀ {k'}, k' ≠ k → ∀ r ∈ l'.abs, r.body.key = some k' → r ∈ l.abs := fun hkk r hr hrk =>
    ((hmem r).mp hr).resolve_right fun e => hkk (Option.some.inj ((e ▸ hrk).symm.trans hk))
  refine ⟨fun r hr => ?_, fun k' o' hm => ?_, fun k' hm r hr hrk => ?_⟩
  · rcases (hmem r).mp hr with hr | rfl
    · exact h.recsOK r hr
    · exact ⟨k, v, o, hk, hkne, hv, hd⟩
  · by_cases hkk : k' = k
    · subst hkk
      simp only [if_true, Option.some.injEq] at hm
      refine ⟨rec, (hmem _).mpr (Or.inr rfl), hk, by rw [hv, ← hm]; exact hd, fun r' hr' _ => ?_⟩
      rcases (hmem r').mp hr' with hr' | rfl
      · exact Int.le_of_lt (hlt r' hr')
      · exact Int.le_refl _
    · simp only [hkk, if_false] at hm
      obtain ⟨r, hrm, hrk, hrv, hmax⟩ := h.latest k' o' hm
      exact ⟨r, (hmem r).mpr (Or.inl hrm), hrk, hrv, fun r' hr' hk' => hmax r' (hother hkk r' hr' hk') hk'⟩
  · by_cases hkk : k' = k
    · simp [hkk] at hm
    · simp only [hkk, if_false] at hm
      exact h.absent k' hm r (hother hkk r hr hrk) hrk

/-- Compaction keeps the newest record of every key: it is committed (HW = newest offset). -/
theorem agree_compact {dec : Bytes → Option Int} {l : CLog} {M : AMap} (hl : LogOK l) (h : Agree dec l M) :
    Agree dec (cleanLog ⟨0, 0, 0⟩ 0 true l) M := by
  have hsub : ∀ r ∈ (cleanLog ⟨0, 0, 0⟩ 0 true l).abs, r ∈ l.abs := fun r hr => (survivors_sublist l).subset hr
  refine ⟨fun r hr => h.recsOK r (hsub r hr), fun k o hm => ?_, fun k hk r hr => h.absent k hk r (hsub r hr)⟩
  obtain ⟨r, hr, hk, hv, hmax⟩ := h.latest k o hm
  exact ⟨r, latest_kept' l hl.invc r hr ⟨k, hk, hl.le_hw r hr, fun r' hr' hk' _ => hmax r' hr' hk'⟩, hk, hv,
    fun r' hr' hk' => hmax r' (hsub r' hr') hk'⟩

/-- On a quiescent cursors log the subscription + scan finds the stored offset. -/
theorem scanLog_spec (P : Params) {l : CLog} {M : AMap} (hl : LogOK l) (ha : Agree P.dec l M)
    (hne : l.hw ≠ -1) (k : Key) (oldest : Int) (hold : ∀ r ∈ l.abs, oldest ≤ r.offset) :
    scanLog P l k oldest = .ok ((M k).getD (-1)) := by
  have hok : ∀ r ∈ l.abs.reverse, RecOK P.dec r := fun r hr => ha.recsOK r (List.mem_reverse.mp hr)
  have hscan : (scanMsgs P.dec k oldest l.abs.reverse).getD (-1) = (M k).getD (-1) := by
    cases hm : M k with
    | some o =>
      obtain ⟨r, hr, hk, hv, hmax⟩ := ha.latest k o hm
      rw [scanMsgs_found P.dec k oldest o l.abs.reverse (List.pairwise_reverse.mpr hl.invc.sorted) hok
        (fun x hx => hold x (List.mem_reverse.mp hx)) r (List.mem_reverse.mpr hr) hk hv
        (fun x hx => hmax x (List.mem_reverse.mp hx))]
    | none =>
      exact scanMsgs_absent P.dec k oldest l.abs.reverse hok fun x hx => ha.absent k hm x (List.mem_reverse.mp hx)
  -- a scan that runs out of messages meets the end-of-log status, which is answered by -1 as well
  have hend : Gen.Cursors.endCodeCmp.evalNat (statusCode Gen.Subscribe.reverseEndStatus) 8 = true := by decide
  unfold scanLog
  rw [create_reverse_all hl hne, ← hscan]
  cases hs : scanMsgs P.dec k oldest l.abs.reverse with
  | some v => simp [hs]
  | none => simp [hs, hend]

def CacheOK (c : Cache) (M : AMap) : Prop := ∀ e ∈ c, e.2 = (M e.1).getD (-1)

theorem cacheOK_nil (M : AMap) : CacheOK [] M := fun _ h => by cases h

theorem cacheOK_front {c : Cache} {M M' : AMap} (h : CacheOK c M) {k : Key} {v : Int}
    (hM : ∀ k', k' ≠ k → M' k' = M k') (hv : v = (M' k).getD (-1)) :
    CacheOK ((k, v) :: c.filter (fun e => e.1 ≠ k)) M' := by
  intro e he
  rcases List.mem_cons.mp he with rfl | he
  · exact hv
  · obtain ⟨hm, hne⟩ := List.mem_filter.mp he
    rw [hM e.1 (by simpa using hne)]
    exact h e hm

theorem cacheOK_add {c : Cache} {M M' : AMap} (h : CacheOK c M) (cap : Nat) {k : Key} {v : Int}
    (hM : ∀ k', k' ≠ k → M' k' = M k') (hv : v = (M' k).getD (-1)) : CacheOK (Cache.add cap c k v) M' := by
  unfold Cache.add
  simp only
  split
  · exact fun e he => cacheOK_front h hM hv e ((List.dropLast_sublist _).subset he)
  · exact cacheOK_front h hM hv

theorem cacheOK_get {c : Cache} {M : AMap} (h : CacheOK c M) (k : Key) :
    CacheOK (Cache.get c k).2 M ∧ ∀ v, (Cache.get c k).1 = some v → v = (M k).getD (-1) := by
  unfold Cache.get
  cases hf : c.find? (fun e => decide (e.1 = k)) with
  | none => exact ⟨h, fun v hv => by cases hv⟩
  | some e =>
    have hv : e.2 = (M k).getD (-1) := by
      rw [← show e.1 = k by simpa using List.find?_some hf]
      exact h e (List.mem_of_find?_eq_some hf)
    exact ⟨cacheOK_front h (fun _ _ => rfl) hv, fun v hv' => by simp at hv'; rw [← hv']; exact hv⟩

/-- What a pending `GetCursor` knows, as long as it may still cache its result. -/
def PendFacts (M : AMap) (p : Pending) : Prop :=
  match p.stage with
  | .looked => True
  | .hwRead hw => hw = -1 → M p.key = none
  | .oldRead hw o => (hw = -1 ∨ o = -1) → M p.key = none
  | .scanned r => ∀ v, r = .ok v → v = (M p.key).getD (-1)

/-- What holds of the values a pending call has read whatever happened since. -/
def PendStale (l : CLog) (p : Pending) : Prop :=
  match p.stage with
  | .looked => True
  | .hwRead hw => hw ≠ -1 → l.hw ≠ -1
  | .oldRead hw o => (hw ≠ -1 → l.hw ≠ -1) ∧ (o ≠ -1 → l.hw ≠ -1 ∧ ∀ r ∈ l.abs, o ≤ r.offset)
  | .scanned _ => True

/-- May this pending call still cache its result (`mayCache` as a proposition)? -/
def Fresh (P : Params) (s : State) (p : Pending) : Prop := P.guarded = true → p.seq0 = s.seq

/-- The model state refines the abstract store `M`. Of what a fetch in flight has read, `PendStale` holds
whatever happens later (the values only become conservative); `PendFacts` ties it to `M`, is falsified by a
`set` of the key, and is therefore asked only of calls that may still cache (`Fresh`). -/
structure Inv (P : Params) (s : State) (M : AMap) : Prop where
  log : LogOK s.log
  agree : Agree P.dec s.log M
  cache : CacheOK s.cache M
  seqLe : ∀ p ∈ s.pend, p.seq0 ≤ s.seq
  stale : ∀ p ∈ s.pend, PendStale s.log p
  facts : ∀ p ∈ s.pend, Fresh P s p → PendFacts M p

/-- Retention does not apply to the cursors partition (exempt, or no limits configured). -/
def NoRetention (P : Params) : Prop := P.retentionOff = true ∨ P.lim = ⟨0, 0, 0⟩

/-- The headers the partition attaches to a stored cursor message can be encoded (`PutString`
refuses keys longer than 32767 bytes; the real ones are `subject` and `reply`). -/
def HdrsOK (P : Params) : Prop := ({ key := none, val := none, hdrs := P.hdrs } : Payload).encodable = true

/-- The `set` operations of a history carry a real key and a value that decodes to the offset. -/
def ValidOp (dec : Bytes → Option Int) : Op → Prop
  | .set k o v => k ≠ [] ∧ dec v = some o
  | _ => True

/-- A `set` does not overlap a pending fetch of the same key (needed for the unrepaired code only). -/
def Exclusive (P : Params) (s : State) : Op → Prop
  | .set k _ _ => P.guarded = true ∨ ∀ p ∈ s.pend, p.key ≠ k
  | _ => True

instance (P : Params) : Decidable (HdrsOK P) := by unfold HdrsOK; infer_instance
instance (dec : Bytes → Option Int) (op : Op) : Decidable (ValidOp dec op) := by
  cases op <;> unfold ValidOp <;> infer_instance
instance (P : Params) (s : State) (op : Op) : Decidable (Exclusive P s op) := by
  cases op <;> unfold Exclusive <;> infer_instance

theorem inv_init (P : Params) (m : Int) (hm : 0 < m) (on : Bool) : Inv P (State.init m on) (fun _ => none) := by
  refine ⟨logOK_init m hm, ⟨?_, ?_, ?_⟩, cacheOK_nil _, ?_, ?_, ?_⟩
  · intro r hr; simp [State.init, CLog.init, abs] at hr
  · intro k o h; cases h
  · intro k _ r hr; simp [State.init, CLog.init, abs] at hr
  all_goals (intro p hp; simp [State.init] at hp)

@[simp] theorem resume_pend (s : State) : (resume s).pend = s.pend := by unfold resume; split <;> rfl
@[simp] theorem resume_seq (s : State) : (resume s).seq = s.seq := by unfold resume; split <;> rfl
@[simp] theorem resume_abs (s : State) : (resume s).log.abs = s.log.abs := by unfold resume; split <;> rfl
@[simp] theorem resume_hw (s : State) : (resume s).log.hw = s.log.hw := by unfold resume; split <;> rfl

theorem lookup_fst (s : State) (k : Key) : (lookup s k).1 = { s with cache := (lookup s k).1.cache } := by
  unfold lookup
  split
  · split <;> rfl
  · rfl

@[simp] theorem lookup_pend (s : State) (k : Key) : (lookup s k).1.pend = s.pend := by rw [lookup_fst]

theorem subscribeScan_fst (P : Params) (s : State) (k : Key) (hw o : Int) :
    (subscribeScan P s k hw o).1 = s ∨ (subscribeScan P s k hw o).1 = resume s := by
  unfold subscribeScan; split
  · exact Or.inl rfl
  · exact Or.inr rfl

@[simp] theorem subscribeScan_pend (P : Params) (s : State) (k : Key) (hw o : Int) :
    (subscribeScan P s k hw o).1.pend = s.pend := by
  rcases subscribeScan_fst P s k hw o with h | h <;> simp [h]

@[simp] theorem subscribeScan_seq (P : Params) (s : State) (k : Key) (hw o : Int) :
    (subscribeScan P s k hw o).1.seq = s.seq := by
  rcases subscribeScan_fst P s k hw o with h | h <;> simp [h]

theorem finishGet_fst (P : Params) (s : State) (k : Key) (q : Nat) (r : Res Int) :
    (finishGet P s k q r).1 = { s with cache := (finishGet P s k q r).1.cache } := by
  unfold finishGet; split <;> rfl

@[simp] theorem finishGet_pend (P : Params) (s : State) (k : Key) (q : Nat) (r : Res Int) :
    (finishGet P s k q r).1.pend = s.pend := by rw [finishGet_fst]

@[simp] theorem finishGet_snd (P : Params) (s : State) (k : Key) (q : Nat) (r : Res Int) :
    (finishGet P s k q r).2 = r := by
  unfold finishGet; split <;> rfl

@[simp] theorem getCursor_pend (P : Params) (s : State) (k : Key) : (getCursor P s k).1.pend = s.pend := by
  unfold getCursor
  have := lookup_pend s k
  split
  · simp_all
  · simp_all

@[simp] theorem setCursor_pend (P : Params) (s : State) (k : Key) (o : Int) (v : Bytes) :
    (setCursor P s k o v).1.pend = s.pend := by
  unfold setCursor; dsimp only; split <;> simp

theorem setCursor_ok {P : Params} {s : State} {k : Key} {o : Int} {v : Bytes} {l' : CLog} {offs : List Int}
    (happ : (resume s).log.append [cursorMsg P k v] = .ok (l', offs)) :
    setCursor P s k o v =
      ({ resume s with seq := s.seq + 1, log := l'.setHW l'.newest,
                       cache := Cache.add P.cap (resume s).cache k o }, .ok ()) := by
  simp [setCursor, happ]

theorem PendStale.mono {l l' : CLog} {p : Pending} (h : PendStale l p) (hhw : l.hw ≠ -1 → l'.hw ≠ -1)
    (hlow : ∀ o, l.hw ≠ -1 → (∀ r ∈ l.abs, o ≤ r.offset) → ∀ r ∈ l'.abs, o ≤ r.offset) :
    PendStale l' p := by
  obtain ⟨_, _, _, st⟩ := p
  cases st with
  | looked | scanned _ => trivial
  | hwRead hw => exact fun e => hhw (h e)
  | oldRead hw o => exact ⟨fun e => hhw (h.1 e), fun e => ⟨hhw (h.2 e).1, hlow o (h.2 e).1 (h.2 e).2⟩⟩

/-- Changing only the log, to one with the same HW whose records are among the old ones and which
still agrees with the store. -/
theorem Inv.with_log {P : Params} {s : State} {M : AMap} (h : Inv P s M) (l' : CLog)
    (hl : LogOK l') (ha : Agree P.dec l' M) (hhw : l'.hw = s.log.hw) (habs : ∀ r ∈ l'.abs, r ∈ s.log.abs) :
    Inv P { s with log := l' } M :=
  ⟨hl, ha, h.cache, h.seqLe,
    fun p hp => (h.stale p hp).mono (hhw ▸ id) fun _ _ ho r hr => ho r (habs r hr), h.facts⟩

theorem Inv.with_cache {P : Params} {s : State} {M : AMap} (h : Inv P s M) (c : Cache) (hc : CacheOK c M) :
    Inv P { s with cache := c } M :=
  ⟨h.log, h.agree, hc, h.seqLe, h.stale, h.facts⟩

theorem Inv.with_pend {P : Params} {s : State} {M : AMap} (h : Inv P s M) (ps : List Pending)
    (hps : ∀ q ∈ ps, q ∈ s.pend ∨ (q.seq0 ≤ s.seq ∧ PendStale s.log q ∧ (Fresh P s q → PendFacts M q))) :
    Inv P { s with pend := ps } M :=
  ⟨h.log, h.agree, h.cache, fun q hq => (hps q hq).elim (h.seqLe q) (·.1),
    fun q hq => (hps q hq).elim (h.stale q) (·.2.1), fun q hq => (hps q hq).elim (h.facts q) (·.2.2)⟩

theorem inv_resume {P : Params} {s : State} {M : AMap} (h : Inv P s M) : Inv P (resume s) M := by
  unfold resume
  split
  · -- `Inv` does not mention `paused`
    have h' := (h.with_log _ (logOK_reopen h.log) (h.agree.of_abs_eq rfl) rfl fun _ hr => hr).with_cache
      (if Gen.Cursors.purgeOnLeader then [] else s.cache) (by split; exact cacheOK_nil _; exact h.cache)
    exact ⟨h'.log, h'.agree, h'.cache, h'.seqLe, h'.stale, h'.facts⟩
  · exact h

theorem inv_set {P : Params} {s : State} {M : AMap} (h : Inv P s M) (hh : HdrsOK P) (k : Key) (o : Int) (v : Bytes)
    (hk : k ≠ []) (hv : P.dec v = some o) (hx : P.guarded = true ∨ ∀ p ∈ s.pend, p.key ≠ k) :
    Inv P (setCursor P s k o v).1 (fun k' => if k' = k then some o else M k') := by
  have hr := inv_resume h
  obtain ⟨l', happ, habs', hok'⟩ := logOK_publish hr.log (cursorMsg P k v) hh
  rw [setCursor_ok happ]
  generalize hrec : mkRec (resume s).log.nextOffset (cursorMsg P k v) = rec at habs'
  have hbody : rec.body = { key := some k, val := some v, hdrs := P.hdrs } := by simp [← hrec, mkRec, cursorMsg, hk]
  have hlt : ∀ r ∈ (resume s).log.abs, r.offset < rec.offset := fun r hrm => by
    rw [← hrec]; exact invC_lt_next hr.log.invc r hrm
  have hnewhw : (l'.setHW l'.newest).hw ≠ -1 := fun he => by
    simpa [habs'] using hok'.hw_eq_neg_one_iff.mp he
  refine ⟨hok', hr.agree.append habs' hlt (by rw [hbody]) hk (by rw [hbody]) hv,
    cacheOK_add hr.cache P.cap (fun k' hk' => by simp [hk']) (by simp), ?_, ?_, ?_⟩
  · intro p hp
    have := hr.seqLe p hp
    simp only [resume_seq] at this ⊢
    omega
  · -- stale reads stay valid: the HW stays set, the new record is the newest
    refine fun p hp => (hr.stale p hp).mono (fun _ => hnewhw) fun o' hne hall r hrm => ?_
    rw [habs'] at hrm
    rcases List.mem_append.mp hrm with hrm | hrm
    · exact hall r hrm
    · simp at hrm; subst hrm
      obtain ⟨r0, hr0⟩ := List.exists_mem_of_ne_nil _ (mt hr.log.hw_eq_neg_one_iff.mpr hne)
      have := hall r0 hr0
      have := hlt r0 hr0
      omega
  · intro p hp hfresh
    have hle := hr.seqLe p hp
    simp only [resume_seq, resume_pend] at hle hp
    rcases hx with hg | hx
    · -- repaired code: the counter moved, nothing pending is fresh any more
      have : p.seq0 = s.seq + 1 := hfresh hg
      omega
    · have hold : PendFacts M p := hr.facts p (by simpa using hp) fun hg => by
        have : p.seq0 = s.seq + 1 := hfresh hg
        omega
      unfold PendFacts at hold ⊢
      simpa only [hx p hp, if_false] using hold

theorem inv_lookup {P : Params} {s : State} {M : AMap} (h : Inv P s M) (k : Key) :
    Inv P (lookup s k).1 M ∧ ∀ v, (lookup s k).2 = some v → v = (M k).getD (-1) := by
  obtain ⟨hc, hv⟩ := cacheOK_get h.cache k
  unfold lookup
  split
  · cases hg : Cache.get s.cache k with
    | mk a c =>
      rw [hg] at hc hv
      cases a with
      | some v => exact ⟨h.with_cache c hc, fun v' hv' => hv v' (by simpa using hv')⟩
      | none => exact ⟨h, fun v' hv' => by simp at hv'⟩
  · exact ⟨h, fun v' hv' => by simp at hv'⟩

theorem Inv.none_of_reads {P : Params} {s : State} {M : AMap} (h : Inv P s M) (k : Key)
    (he : s.log.hw = -1 ∨ s.log.oldest = -1) : M k = none :=
  h.agree.none_of_empty (he.elim h.log.hw_eq_neg_one_iff.mp h.log.oldest_eq_neg_one) k

theorem inv_subscribeScan {P : Params} {s : State} {M : AMap} (h : Inv P s M) (k : Key) (hw o : Int) :
    Inv P (subscribeScan P s k hw o).1 M := by
  rcases subscribeScan_fst P s k hw o with e | e <;> rw [e]
  · exact h
  · exact inv_resume h

/-- What the scan answers when the values of `hw` and `oldest` the caller holds are not outdated:
-1 if one of them says "empty", else the stored offset. -/
theorem subscribeScan_snd {P : Params} {s : State} {M : AMap} (h : Inv P s M) (k : Key) (hw o : Int)
    (hmono : hw ≠ -1 → s.log.hw ≠ -1) (hold : o ≠ -1 → ∀ r ∈ s.log.abs, o ≤ r.offset) :
    (subscribeScan P s k hw o).2 = .ok (if hw = -1 ∨ o = -1 then -1 else (M k).getD (-1)) := by
  have hc : (Gen.Cursors.hwEmptyCmp.evalInt hw (-1) || Gen.Cursors.oldestEmptyCmp.evalInt o (-1)) =
      decide (hw = -1 ∨ o = -1) := by
    simp [Gen.Cursors.hwEmptyCmp, Gen.Cursors.oldestEmptyCmp, Cmp.evalInt]
  unfold subscribeScan
  simp only [hc, decide_eq_true_eq]
  split
  · rfl
  · rename_i he
    have hr := inv_resume h
    exact scanLog_spec P hr.log hr.agree (by simpa using hmono fun e => he (Or.inl e)) k o
      (by simpa using hold fun e => he (Or.inr e))

/-- The scan of a pending call that has read `hw` and `oldest`: what holds of -1 when one of the two
says "empty", and of the stored offset, holds of the answer. -/
theorem subscribeScan_pending {P : Params} {s : State} {M : AMap} (h : Inv P s M) {t q0 : Nat} {key : Key}
    {hw o : Int} (hp : (⟨t, key, q0, .oldRead hw o⟩ : Pending) ∈ s.pend) {A : Int → Prop}
    (hempty : hw = -1 ∨ o = -1 → A (-1)) (hval : A ((M key).getD (-1))) {v : Int}
    (hres : (subscribeScan P s key hw o).2 = .ok v) : A v := by
  have hstale : (hw ≠ -1 → s.log.hw ≠ -1) ∧ _ := h.stale _ hp
  have hv := Res.ok.inj ((subscribeScan_snd h key hw o hstale.1 fun ho => (hstale.2 ho).2).symm.trans hres)
  split at hv
  · rename_i he; exact hv ▸ hempty he
  · exact hv ▸ hval

theorem inv_finishGet {P : Params} {s : State} {M : AMap} (h : Inv P s M) (k : Key) (seq0 : Nat) (res : Res Int)
    (hres : mayCache P s seq0 = true → ∀ v, res = .ok v → v = (M k).getD (-1)) :
    Inv P (finishGet P s k seq0 res).1 M := by
  unfold finishGet
  split
  · refine h.with_cache _ ?_
    split
    · rename_i hm; exact cacheOK_add h.cache P.cap (fun _ _ => rfl) (hres hm _ rfl)
    · exact h.cache
  · exact h

/-- The atomic `GetCursor` returns the stored offset and keeps the invariant. -/
theorem inv_getCursor {P : Params} {s : State} {M : AMap} (h : Inv P s M) (k : Key) :
    Inv P (getCursor P s k).1 M ∧ (getCursor P s k).2 = .ok ((M k).getD (-1)) := by
  obtain ⟨hl, hv⟩ := inv_lookup h k
  unfold getCursor
  cases hlk : lookup s k with
  | mk s1 r =>
    rw [hlk] at hl hv
    cases r with
    | some v => exact ⟨hl, by rw [hv v rfl]⟩
    | none =>
      have hval := subscribeScan_snd (P := P) hl k s1.log.hw s1.log.oldest id fun ho => hl.log.oldest_le ho
      have hval' : (subscribeScan P s1 k s1.log.hw s1.log.oldest).2 = .ok ((M k).getD (-1)) := by
        rw [hval]; split
        · rename_i he; rw [hl.none_of_reads k he]; rfl
        · rfl
      simp only [finishGet_snd, hval', and_true]
      exact inv_finishGet (inv_subscribeScan hl k _ _) k _ _ fun _ v hv' => (Res.ok.inj hv').symm

theorem findPend_cases (s : State) (tid : Nat) :
    findPend s tid = none ∨ ∃ p ∈ s.pend, p.tid = tid ∧ findPend s tid = some p := by
  cases h : findPend s tid with
  | none => exact Or.inl rfl
  | some p => exact Or.inr ⟨p, List.mem_of_find?_eq_some h, by simpa using List.find?_some h, rfl⟩

/-- Replacing (or adding) the record of one caller. -/
theorem inv_setPend {P : Params} {s : State} {M : AMap} (h : Inv P s M) (p : Pending)
    (hle : p.seq0 ≤ s.seq) (hst : PendStale s.log p) (hf : Fresh P s p → PendFacts M p) :
    Inv P (setPend s p) M :=
  h.with_pend _ fun q hq => by
    rcases List.mem_cons.mp hq with rfl | hq
    · exact .inr ⟨hle, hst, hf⟩
    · exact .inl (List.mem_filter.mp hq).1

theorem inv_dropPend {P : Params} {s : State} {M : AMap} (h : Inv P s M) (tid : Nat) :
    Inv P (dropPend s tid) M :=
  h.with_pend _ fun _ hq => .inl (List.mem_filter.mp hq).1

theorem mayCache_iff (P : Params) (s : State) (seq0 : Nat) :
    mayCache P s seq0 = true ↔ (P.guarded = true → seq0 = s.seq) := by
  unfold mayCache
  cases P.guarded <;> simp

theorem inv_step {P : Params} {s : State} {M : AMap} (h : Inv P s M) (hnr : NoRetention P) (hh : HdrsOK P) (op : Op)
    (hv : ValidOp P.dec op) (hx : Exclusive P s op) : Inv P (step P s op).1 (absStep M op) := by
  cases op with
  | set k o v => exact inv_set h hh k o v hv.1 hv.2 hx
  | get k => exact (inv_getCursor h k).1
  | lookup tid k =>
    simp only [step, absStep]
    cases hfp : findPend s tid with
    | some _ => exact h
    | none =>
      obtain ⟨hl, -⟩ := inv_lookup h k
      cases hlk : lookup s k with
      | mk s1 r =>
        rw [hlk] at hl
        cases r with
        | some v => exact hl
        | none => exact inv_setPend hl _ (Nat.le_refl _) trivial fun _ => trivial
  | readHW tid =>
    rcases findPend_cases s tid with hfp | ⟨⟨t, key, q0, st⟩, hp, -, hfp⟩ <;> simp only [step, absStep, hfp]
    · exact h
    cases st with
    | looked =>
      exact inv_setPend h _ (h.seqLe _ hp :) (fun hne => hne) fun _ h1 => h.none_of_reads key (Or.inl h1)
    | _ => exact h
  | readOldest tid =>
    rcases findPend_cases s tid with hfp | ⟨⟨t, key, q0, st⟩, hp, -, hfp⟩ <;> simp only [step, absStep, hfp]
    · exact h
    cases st with
    | hwRead hw =>
      exact inv_setPend h _ (h.seqLe _ hp :)
        ⟨(h.stale _ hp :), fun ho => ⟨h.log.hw_ne_of_oldest ho, h.log.oldest_le ho⟩⟩
        fun hfr e => e.elim (h.facts _ hp hfr :) fun h2 => h.none_of_reads key (Or.inr h2)
    | _ => exact h
  | subscribe tid =>
    rcases findPend_cases s tid with hfp | ⟨⟨t, key, q0, st⟩, hp, -, hfp⟩ <;> simp only [step, absStep, hfp]
    · exact h
    cases st with
    | oldRead hw o =>
      refine inv_setPend (inv_subscribeScan h key hw o) _ (by simpa using (h.seqLe _ hp :)) trivial
        fun hfr v hres => ?_
      have hfacts : hw = -1 ∨ o = -1 → M key = none := h.facts _ hp fun hg => by simpa using hfr hg
      exact subscribeScan_pending h hp (A := fun v => v = (M key).getD (-1)) (fun he => by rw [hfacts he]; rfl)
        rfl hres
    | _ => exact h
  | finish tid =>
    rcases findPend_cases s tid with hfp | ⟨⟨t, key, q0, st⟩, hp, -, hfp⟩ <;> simp only [step, absStep, hfp]
    · exact h
    cases st with
    | scanned r =>
      exact inv_finishGet (inv_dropPend h tid) key q0 r fun hm =>
        h.facts _ hp ((mayCache_iff P (dropPend s tid) q0).mp hm)
    | _ => exact h
  | abort tid =>
    simp only [step, absStep]
    cases hfp : findPend s tid with
    | none => exact h
    | some p => exact inv_dropPend h tid
  | roll =>
    simp only [step, absStep, Cursors.roll]
    split
    · exact h
    · rename_i hc
      exact h.with_log _ (logOK_roll h.log fun he => hc (by simp [he])) (h.agree.of_abs_eq (abs_roll _)) rfl
        fun r hr => abs_roll s.log ▸ hr
  | clean =>
    simp only [step, absStep, clean]
    split
    · exact h
    · have hlim : (if P.retentionOff = true then (⟨0, 0, 0⟩ : Retention.Limits) else P.lim) = ⟨0, 0, 0⟩ := by
        rcases hnr with h1 | h2
        · simp [h1]
        · split <;> simp [h2]
      rw [hlim]
      exact h.with_log _ (logOK_compact h.log) (agree_compact h.log h.agree) (cleanLog_hw _ _ _ _)
        fun r hr => (survivors_sublist s.log).subset hr
  | becomeLeader =>
    simp only [step, absStep, becomeLeader]
    split
    · exact h.with_cache [] (cacheOK_nil _)
    · exact h
  | restart =>
    simp only [step, absStep, restart]
    refine ⟨logOK_reopen h.log, h.agree.of_abs_eq rfl, cacheOK_nil _, ?_, ?_, ?_⟩ <;> exact fun p hp => nomatch hp
  | evictAll => exact h.with_cache [] (cacheOK_nil _)
  | pause | cacheOn _ => exact ⟨h.log, h.agree, h.cache, h.seqLe, h.stale, h.facts⟩

/-- Along a history: no `set` overlaps a pending fetch of the same key. -/
def ExclusiveRun (P : Params) : State → List Op → Prop
  | _, [] => True
  | s, op :: rest => Exclusive P s op ∧ ExclusiveRun P (step P s op).1 rest

def decExclusiveRun (P : Params) : (s : State) → (hist : List Op) → Decidable (ExclusiveRun P s hist)
  | _, [] => isTrue trivial
  | s, op :: rest =>
    match (inferInstance : Decidable (Exclusive P s op)), decExclusiveRun P (step P s op).1 rest with
    | isTrue a, isTrue b => isTrue ⟨a, b⟩
    | isFalse a, _ => isFalse (fun h => a h.1)
    | _, isFalse b => isFalse (fun h => b h.2)

instance (P : Params) (s : State) (hist : List Op) : Decidable (ExclusiveRun P s hist) := decExclusiveRun P s hist

theorem inv_run {P : Params} (hnr : NoRetention P) (hh : HdrsOK P) : ∀ (hist : List Op) {s : State} {M : AMap}, Inv P s M →
    (∀ op ∈ hist, ValidOp P.dec op) → ExclusiveRun P s hist → Inv P (run P s hist) (hist.foldl absStep M)
  | [], _, _, h, _, _ => h
  | op :: rest, _, _, h, hv, hx =>
    inv_run hnr hh rest (inv_step h hnr hh op (hv op (by simp)) hx.1) (fun o ho => hv o (by simp [ho])) hx.2

theorem exclusiveRun_guarded {P : Params} (hg : P.guarded = true) : ∀ (hist : List Op) (s : State), ExclusiveRun P s hist
  | [], _ => trivial
  | op :: rest, s => ⟨by cases op <;> simp [Exclusive, hg], exclusiveRun_guarded hg rest _⟩

/-- Histories of atomic operations only (every fetch runs to completion before the next call). -/
def Atomic : Op → Prop
  | .lookup _ _ | .readHW _ | .readOldest _ | .subscribe _ | .finish _ | .abort _ => False
  | _ => True

def Sequential (hist : List Op) : Prop := ∀ op ∈ hist, Atomic op

instance (op : Op) : Decidable (Atomic op) := by cases op <;> unfold Atomic <;> infer_instance
instance (hist : List Op) : Decidable (Sequential hist) := by unfold Sequential; infer_instance

theorem step_pend_atomic {P : Params} (s : State) {op : Op} (hs : Atomic op) :
    (step P s op).1.pend = if op = .restart then [] else s.pend := by
  cases op with
  | lookup _ _ | readHW _ | readOldest _ | subscribe _ | finish _ | abort _ => exact hs.elim
  | set k o v | get k => simp [step]
  | roll | clean | becomeLeader => simp only [step, Cursors.roll, clean, becomeLeader]; split <;> rfl
  | restart | pause | evictAll | cacheOn _ => rfl

theorem pend_nil_step {P : Params} {s : State} (hp : s.pend = []) (op : Op) (hs : Atomic op) :
    (step P s op).1.pend = [] := by
  rw [step_pend_atomic s hs, hp, ite_self]

theorem run_pend_nil {P : Params} : ∀ (hist : List Op) (s : State), s.pend = [] → Sequential hist →
    (run P s hist).pend = []
  | [], _, hp, _ => hp
  | op :: rest, s, hp, hs =>
    run_pend_nil rest _ (pend_nil_step hp op (hs op (by simp))) (fun o ho => hs o (by simp [ho]))

theorem exclusiveRun_sequential {P : Params} : ∀ (hist : List Op) (s : State), s.pend = [] → Sequential hist →
    ExclusiveRun P s hist
  | [], _, _, _ => trivial
  | op :: rest, s, hp, hs => by
    refine ⟨?_, exclusiveRun_sequential rest _ (pend_nil_step hp op (hs op (by simp))) (fun o ho => hs o (by simp [ho]))⟩
    cases op <;> simp [Exclusive, hp]

/-! ### What an overlapping fetch returns

History variable: for every caller with a fetch in flight, the values its key has held since the
cache lookup (`seen`). The offset such a fetch eventually returns is one of them. -/

abbrev Seen := Nat → List Int

/-- `seen` after one operation (`s`, `M`: model state and abstract store BEFORE it). A lookup that
misses starts a window with the current value; a `set` of the key adds its offset. -/
def seenStep (s : State) (M : AMap) (seen : Seen) : Op → Seen
  | .lookup tid k =>
    match findPend s tid, (lookup s k).2 with
    | none, none => fun t => if t = tid then [(M k).getD (-1)] else seen t
    | _, _ => seen
  | .set k o _ => fun t =>
    match findPend s t with
    | some p => if p.key = k then o :: seen t else seen t
    | none => seen t
  | _ => seen

/-- Model state, abstract store and history variable, run together. -/
structure G where
  s : State
  M : AMap
  seen : Seen

def stepG (P : Params) (g : G) (op : Op) : G :=
  { s := (step P g.s op).1, M := absStep g.M op, seen := seenStep g.s g.M g.seen op }

def runG (P : Params) (g : G) (hist : List Op) : G := hist.foldl (stepG P) g

def G.init (m : Int) (on : Bool) : G := { s := State.init m on, M := fun _ => none, seen := fun _ => [] }

theorem runG_s (P : Params) : ∀ (hist : List Op) (g : G), (runG P g hist).s = run P g.s hist
  | [], _ => rfl
  | op :: rest, g => by
    show (runG P (stepG P g op) rest).s = run P (step P g.s op).1 rest
    rw [runG_s P rest]; rfl

theorem runG_M (P : Params) : ∀ (hist : List Op) (g : G), (runG P g hist).M = hist.foldl absStep g.M
  | [], _ => rfl
  | op :: rest, g => by
    show (runG P (stepG P g op) rest).M = rest.foldl absStep (absStep g.M op)
    rw [runG_M P rest]; rfl

/-- What the history variable knows about one pending call. -/
def SeenFacts (M : AMap) (seen : List Int) (p : Pending) : Prop :=
  (M p.key).getD (-1) ∈ seen ∧
  match p.stage with
  | .looked => True
  | .hwRead hw => hw = -1 → (-1 : Int) ∈ seen
  | .oldRead hw o => (hw = -1 ∨ o = -1) → (-1 : Int) ∈ seen
  | .scanned r => ∀ v, r = .ok v → v ∈ seen

def SeenOK (s : State) (M : AMap) (seen : Seen) : Prop :=
  ∀ t p, findPend s t = some p → SeenFacts M (seen t) p

structure InvG (P : Params) (g : G) : Prop where
  inv : Inv P g.s g.M
  seen : SeenOK g.s g.M g.seen

theorem findPend_congr {s s' : State} (h : s'.pend = s.pend) (t : Nat) : findPend s' t = findPend s t := by
  unfold findPend; rw [h]

theorem find?_other_tid {t x : Nat} (h : t ≠ x) (l : List Pending) :
    l.find? (fun a => !decide (a.tid = x) && decide (a.tid = t)) = l.find? (fun a => decide (a.tid = t)) := by
  congr 1
  funext a
  by_cases ht : a.tid = t <;> simp [ht, h]

theorem findPend_setPend (s : State) (p : Pending) (t : Nat) :
    findPend (setPend s p) t = if t = p.tid then some p else findPend s t := by
  by_cases h : t = p.tid <;> simp [findPend, setPend, h, Ne.symm, find?_other_tid]

theorem findPend_dropPend (s : State) (tid t : Nat) :
    findPend (dropPend s tid) t = if t = tid then none else findPend s t := by
  by_cases h : t = tid <;> simp [findPend, dropPend, h, find?_other_tid]

theorem SeenOK.same_pend {s s' : State} {M : AMap} {seen : Seen} (h : SeenOK s M seen)
    (hpend : s'.pend = s.pend) : SeenOK s' M seen :=
  fun t p hfp => h t p (findPend_congr hpend t ▸ hfp)

theorem SeenOK.setPend {s s' : State} {M M' : AMap} {seen seen' : Seen} {p : Pending} (h : SeenOK s M seen)
    (hpend : s'.pend = s.pend)
    (hseen : ∀ t q, t ≠ p.tid → SeenFacts M (seen t) q → SeenFacts M' (seen' t) q)
    (hp : SeenFacts M' (seen' p.tid) p) : SeenOK (setPend s' p) M' seen' := by
  intro t q hfp
  rw [findPend_setPend] at hfp
  split at hfp
  · rename_i e; cases hfp; exact e ▸ hp
  · rename_i hne; exact hseen t q hne (h t q (findPend_congr hpend t ▸ hfp))

theorem SeenOK.dropPend {s s' : State} {M : AMap} {seen : Seen} {tid : Nat} (h : SeenOK s M seen)
    (hpend : s'.pend = (dropPend s tid).pend) : SeenOK s' M seen := by
  intro t q hfp
  rw [findPend_congr hpend, findPend_dropPend] at hfp
  split at hfp
  · cases hfp
  · exact h t q hfp

theorem SeenFacts.mono {M : AMap} {seen seen' : List Int} {p : Pending} (h : SeenFacts M seen p)
    (hsub : ∀ x ∈ seen, x ∈ seen') : SeenFacts M seen' p := by
  obtain ⟨_, _, _, st⟩ := p
  refine ⟨hsub _ h.1, ?_⟩
  cases st with
  | looked => trivial
  | hwRead _ | oldRead _ _ => exact fun e => hsub _ (h.2 e)
  | scanned _ => exact fun v e => hsub _ (h.2 v e)

theorem invG_step {P : Params} {g : G} (h : InvG P g) (hnr : NoRetention P) (hh : HdrsOK P) (op : Op)
    (hv : ValidOp P.dec op) (hx : Exclusive P g.s op) : InvG P (stepG P g op) := by
  refine ⟨inv_step h.inv hnr hh op hv hx, ?_⟩
  have hs := h.seen
  -- complete calls other than `set` leave pending calls, store and history variable alone
  have atomic : ∀ {op : Op}, Atomic op → op ≠ .restart → absStep g.M op = g.M → seenStep g.s g.M g.seen op = g.seen →
      SeenOK (step P g.s op).1 (absStep g.M op) (seenStep g.s g.M g.seen op) := fun ha hr hM hseen => by
    rw [hM, hseen]
    exact hs.same_pend (by rw [step_pend_atomic g.s ha, if_neg hr])
  unfold stepG
  cases op with
  | set k o v =>
    -- the pending calls are untouched; the store changes at `k`, whose new value enters `seen`
    intro t p hfp'
    have hfp : findPend g.s t = some p := by
      simpa only [step, findPend_congr (setCursor_pend P g.s k o v)] using hfp'
    have hold := hs t p hfp
    simp only [absStep, seenStep, hfp]
    by_cases hk : p.key = k
    · simp only [hk, if_true]
      have hm : SeenFacts g.M (o :: g.seen t) p := hold.mono fun x hx => List.mem_cons_of_mem _ hx
      exact ⟨by simp [hk], hm.2⟩
    · unfold SeenFacts at hold ⊢
      simpa only [hk, if_false] using hold
  | lookup tid k =>
    simp only [step, absStep, seenStep]
    cases hfp : findPend g.s tid with
    | some q => exact hs
    | none =>
      cases hlk : lookup g.s k with
      | mk s1 r =>
        have hpend : s1.pend = g.s.pend := by simpa [hlk] using lookup_pend g.s k
        cases r with
        | some v => exact hs.same_pend hpend
        | none =>
          refine hs.setPend hpend (fun t q hne hq' => ?_) ?_
          · simpa only [show t ≠ tid from hne, if_false] using hq'
          · exact ⟨by simp, trivial⟩
  | readHW tid =>
    rcases findPend_cases g.s tid with hfp | ⟨⟨t, key, q0, st⟩, hp, rfl, hfp⟩ <;>
      simp only [step, absStep, seenStep, hfp]
    · exact hs
    cases st with
    | looked =>
      have hsp : _ ∧ True := hs _ _ hfp
      exact hs.setPend rfl (fun _ _ _ hq' => hq')
        ⟨hsp.1, fun h1 => by simpa [h.inv.none_of_reads key (Or.inl h1)] using hsp.1⟩
    | _ => exact hs
  | readOldest tid =>
    rcases findPend_cases g.s tid with hfp | ⟨⟨t, key, q0, st⟩, hp, rfl, hfp⟩ <;>
      simp only [step, absStep, seenStep, hfp]
    · exact hs
    cases st with
    | hwRead hw =>
      have hsp : _ ∧ (hw = -1 → _) := hs _ _ hfp
      exact hs.setPend rfl (fun _ _ _ hq' => hq') ⟨hsp.1, fun e => e.elim hsp.2 fun h2 => by
        simpa [h.inv.none_of_reads key (Or.inr h2)] using hsp.1⟩
    | _ => exact hs
  | subscribe tid =>
    rcases findPend_cases g.s tid with hfp | ⟨⟨t, key, q0, st⟩, hp, rfl, hfp⟩ <;>
      simp only [step, absStep, seenStep, hfp]
    · exact hs
    cases st with
    | oldRead hw o =>
      have hsp : _ ∧ (hw = -1 ∨ o = -1 → _) := hs _ _ hfp
      exact hs.setPend (subscribeScan_pend P g.s key hw o) (fun _ _ _ hq' => hq')
        ⟨hsp.1, fun _ hres => subscribeScan_pending h.inv hp hsp.2 hsp.1 hres⟩
    | _ => exact hs
  | finish tid =>
    rcases findPend_cases g.s tid with hfp | ⟨⟨t, key, q0, st⟩, -, -, hfp⟩ <;>
      simp only [step, absStep, seenStep, hfp]
    · exact hs
    cases st with
    | scanned r => exact hs.dropPend (finishGet_pend _ _ _ _ _)
    | _ => exact hs
  | abort tid =>
    simp only [step, absStep, seenStep]
    cases hfp : findPend g.s tid with
    | none => exact hs
    | some _ => exact hs.dropPend rfl
  | get _ | roll | clean | becomeLeader | pause | evictAll | cacheOn _ => exact atomic trivial nofun rfl rfl
  | restart => exact fun _ _ hfp => nomatch hfp

theorem invG_init (P : Params) (m : Int) (hm : 0 < m) (on : Bool) : InvG P (G.init m on) :=
  ⟨inv_init P m hm on, fun _ _ hfp => nomatch hfp⟩

theorem invG_run {P : Params} (hnr : NoRetention P) (hh : HdrsOK P) : ∀ (hist : List Op) {g : G}, InvG P g →
    (∀ op ∈ hist, ValidOp P.dec op) → ExclusiveRun P g.s hist → InvG P (runG P g hist)
  | [], _, h, _, _ => h
  | op :: rest, _, h, hv, hx =>
    invG_run hnr hh rest (invG_step h hnr hh op (hv op (by simp)) hx.1) (fun o ho => hv o (by simp [ho])) hx.2

/-- What `finish` answers is the scanned result of the caller's pending call. -/
theorem finish_output {P : Params} {s : State} {tid : Nat} {v : Int}
    (h : (step P s (.finish tid)).2 = .val (.ok v)) :
    ∃ p, findPend s tid = some p ∧ p.stage = .scanned (.ok v) := by
  simp only [step] at h
  cases hfp : findPend s tid with
  | none => simp [hfp] at h
  | some p =>
    cases hst : p.stage <;> simp [hfp, hst] at h
    exact ⟨p, rfl, by rw [hst, h]⟩

theorem keyOf_ne_nil (id stream digits : Bytes) : keyOf id stream digits ≠ [] := by
  cases id <;> simp [keyOf]

end Liftbridge.Proofs.Cursors
