/-
C05: the programs of the crash monad as an inductive class. `Prog E m Q`: `m` is built from `pure`,
`>>=`, `mark`, `getFS`, `failM`, the renaming of an error and those effects `eff e` that satisfy
`E`; every value it returns satisfies `Q`. Every procedure of `Model/Recover` is such a program
(`prog_*`, one membership fact per procedure, by the shape of its body). What holds of every
program of the class is then proved once, by induction on `Prog`: the frame rule of the crash
Hoare logic (`Prog.keeps`, `Proofs/RecoverHW`) and that no program reads its budget
(`Prog.uniform`, `Proofs/RecoverBudget`).
-/
import Liftbridge.Model.Recover

namespace Liftbridge.Proofs.Recover
open Liftbridge Liftbridge.Log Liftbridge.Recover

inductive Prog (E : Eff → Prop) : {α : Type} → M α → (Q : α → Prop := fun _ => True) → Prop
  | pure {α} {a : α} {Q : α → Prop} : Q a → Prog E (pure a : M α) Q
  | bind {α β} {m : M α} {f : α → M β} {Q : α → Prop} {R : β → Prop} :
      Prog E m Q → (∀ a, Q a → Prog E (f a) R) → Prog E (m >>= f) R
  | eff {e : Eff} : E e → Prog E (eff e)
  | mark (n : String) : Prog E (mark n)
  | getFS : Prog E getFS
  | fail {α} (e : String) {Q : α → Prop} : Prog E (failM e : M α) Q
  /-- `m` with its errors renamed (`checkAndPerformSplit`) -/
  | mapFail {α} {m m' : M α} {Q : α → Prop} : Prog E m Q →
      (∃ g : String → String, ∀ s, m' s = match m s with | .fail e s' => .fail (g e) s' | o => o) → Prog E m' Q

theorem Prog.ite {E α} {c : Prop} [Decidable c] {a b : M α} {Q : α → Prop}
    (ha : Prog E a Q) (hb : Prog E b Q) : Prog E (if c then a else b) Q := by
  split <;> assumption

/-- The effects of a program that writes only values satisfying `W` to the HW checkpoint file
(`fun _ => False`: it does not touch the file). -/
@[reducible] def HwWrites (W : Int → Prop) (e : Eff) : Prop := ∀ v, e = .putHW v → W v

/-- One structural step of a membership proof: the constructor for the construct at the head of
the program. Used under `with_reducible`, so that a constructor that does not fit fails at once
instead of unfolding both programs to compare them. No procedure below `checkpointHW` issues
`putHW`, so `nofun` closes the side condition of `Prog.eff`. A final `pure` may have to return a
`Mem` with the HW of the `Mem` in scope. -/
macro "prog_step" : tactic => `(tactic| first
  | apply Prog.bind (Q := fun _ => True)
  | intro _
  | exact Prog.mark _
  | (refine Prog.eff ?_; exact nofun)
  | (apply Prog.pure; first | trivial | simp_all [setActive])
  | exact Prog.getFS
  | exact Prog.fail _
  | apply Prog.ite
  | split
  | dsimp only)

variable {W : Int → Prop}

theorem prog_newIndexM {f} : Prog (HwWrites W) (newIndexM f) := by
  unfold newIndexM
  with_reducible repeat prog_step

theorem prog_rebuild_go {f k es} : Prog (HwWrites W) (rebuildIndexM.go f k es) := by
  induction es generalizing k with
  | nil => unfold rebuildIndexM.go; exact .pure trivial
  | cons _ _ ih => unfold rebuildIndexM.go; with_reducible repeat (first | exact ih | prog_step)

theorem prog_rebuildIndexM {s n} : Prog (HwWrites W) (rebuildIndexM s n) := by
  unfold rebuildIndexM
  with_reducible repeat (first | exact prog_newIndexM | exact prog_rebuild_go | prog_step)

theorem prog_setupFinM {sh s n last} : Prog (HwWrites W) (setupFinM sh s n last) := by
  unfold setupFinM
  with_reducible repeat prog_step

theorem prog_setupAgainM {sh s n} : Prog (HwWrites W) (setupAgainM sh s n) := by
  unfold setupAgainM
  with_reducible repeat (first | exact prog_rebuildIndexM | exact prog_setupFinM | prog_step)

theorem prog_setupRestM {sh s} : Prog (HwWrites W) (setupRestM sh s) := by
  unfold setupRestM
  with_reducible repeat (first | exact prog_setupAgainM | exact prog_setupFinM | prog_step)

theorem prog_setupIndexM {sh s} : Prog (HwWrites W) (setupIndexM sh s) := by
  unfold setupIndexM
  with_reducible repeat (first | exact prog_newIndexM | exact prog_setupRestM | prog_step)

theorem prog_newSegmentM {sh base isNew sfx} : Prog (HwWrites W) (newSegmentM sh base isNew sfx) := by
  unfold newSegmentM
  with_reducible repeat (first | exact prog_setupIndexM | prog_step)

theorem prog_writeLogM {s recs es} : Prog (HwWrites W) (writeLogM s recs es) := by
  unfold writeLogM
  with_reducible repeat prog_step

theorem prog_writeIdxM {s es} : Prog (HwWrites W) (writeIdxM s es) := by
  unfold writeIdxM
  with_reducible repeat prog_step

theorem prog_writeM {sh s recs es} : Prog (HwWrites W) (writeM sh s recs es) := by
  unfold writeM
  with_reducible repeat (first | exact prog_writeLogM | exact prog_writeIdxM | prog_step)

theorem prog_sealM {s} : Prog (HwWrites W) (sealM s) := by
  unfold sealM
  with_reducible repeat prog_step

theorem prog_closeSegM {s} : Prog (HwWrites W) (closeSegM s) := by
  unfold closeSegM
  with_reducible repeat (first | exact prog_sealM | prog_step)

theorem prog_deleteSegM {s} : Prog (HwWrites W) (deleteSegM s) := by
  unfold deleteSegM
  with_reducible repeat (first | exact prog_closeSegM | prog_step)

theorem prog_replaceM {sh new old} : Prog (HwWrites W) (replaceM sh new old) := by
  unfold replaceM
  with_reducible repeat (first | exact prog_closeSegM | exact prog_setupIndexM | prog_step)

theorem prog_removeStaleM {f} : Prog (HwWrites W) (removeStaleM f) := by
  unfold removeStaleM
  with_reducible repeat prog_step

theorem prog_suffixedM {sh base sfx} : Prog (HwWrites W) (suffixedM sh base sfx) := by
  unfold suffixedM
  with_reducible repeat (first | exact prog_newSegmentM | exact prog_removeStaleM | prog_step)

theorem prog_flushM {c} : Prog (HwWrites W) (flushM c) := by
  unfold flushM
  with_reducible repeat prog_step

theorem prog_assignM {c e o} : Prog (HwWrites W) (assignM c e o) := by
  unfold assignM
  with_reducible repeat (first | exact prog_flushM | prog_step)

theorem prog_clearLatestM {c o} : Prog (HwWrites W) (clearLatestM c o) := by
  unfold clearLatestM
  with_reducible repeat (first | exact prog_flushM | prog_step)

theorem prog_clearEarliestM {c o} : Prog (HwWrites W) (clearEarliestM c o) := by
  unfold clearEarliestM
  with_reducible repeat (first | exact prog_flushM | prog_step)

theorem prog_forM' {E} {α} {f : α → M Unit} (hf : ∀ a, Prog E (f a)) {xs} : Prog E (forM' xs f) := by
  induction xs with
  | nil => unfold forM'; exact .pure trivial
  | cons _ _ ih => unfold forM'; with_reducible repeat (first | exact ih | exact hf _ | prog_step)

theorem prog_openAll {cfg bs acc} : Prog (HwWrites W) (recoverM.openAll cfg bs acc) := by
  induction bs generalizing acc with
  | nil => unfold recoverM.openAll; exact .pure trivial
  | cons _ _ ih => unfold recoverM.openAll; with_reducible repeat (first | exact ih | exact prog_newSegmentM | prog_step)

/-- `New` reads the directory once, at the start; the HW it returns is what that read found in the
checkpoint file. -/
theorem prog_recoverM (cfg : Cfg) : ∃ k : FS → M Mem, recoverM cfg = getFS >>= k ∧
    ∀ fs, Prog (HwWrites W) (k fs) (fun m => m.hw = fs.hw.getD (-1)) := by
  refine ⟨_, rfl, fun fs => ?_⟩
  with_reducible repeat (first
    | exact prog_forM' fun ⟨_, _⟩ => .eff nofun | exact prog_openAll | exact prog_newSegmentM
    | exact prog_clearLatestM | exact prog_clearEarliestM | prog_step)

theorem prog_splitM {m} : Prog (HwWrites W) (splitM m) (fun m' => m'.hw = m.hw) := by
  unfold splitM
  with_reducible repeat (first | exact prog_newSegmentM | exact prog_sealM | prog_step)

theorem prog_checkSplitM {m} : Prog (HwWrites W) (checkSplitM m) (fun m' => m'.hw = m.hw) :=
  .ite (.mapFail prog_splitM ⟨_, fun s => by cases splitM m s <;> rfl⟩) (.pure rfl)

theorem prog_assignEpochsM {c last rs} : Prog (HwWrites W) (assignEpochsM c last rs) := by
  induction rs generalizing c last with
  | nil => unfold assignEpochsM; exact .pure trivial
  | cons _ _ ih => unfold assignEpochsM; with_reducible repeat (first | exact ih | exact prog_assignM | prog_step)

theorem prog_appendM {m e ts msgs} : Prog (HwWrites W) (appendM m e ts msgs) (fun m' => m'.hw = m.hw) := by
  unfold appendM
  apply Prog.bind prog_checkSplitM
  intro m1 h1
  with_reducible repeat (first | exact prog_writeM | exact prog_assignEpochsM | prog_step)

theorem prog_deleteAllM {mk segs} : Prog (HwWrites W) (deleteAllM mk segs) := by
  induction segs with
  | nil => unfold deleteAllM; exact .pure trivial
  | cons _ _ ih => unfold deleteAllM; with_reducible repeat (first | exact ih | exact prog_deleteSegM | prog_step)

theorem prog_truncate_copy {m new items} : Prog (HwWrites W) (truncateM.copy m new items) := by
  induction items generalizing new with
  | nil => unfold truncateM.copy; exact .pure trivial
  | cons _ _ ih => unfold truncateM.copy; with_reducible repeat (first | exact ih | exact prog_writeM | prog_step)

theorem prog_truncateM {m o} : Prog (HwWrites W) (truncateM m o) (fun m' => m'.hw = m.hw) := by
  unfold truncateM
  with_reducible repeat (first
    | exact prog_deleteAllM | exact prog_deleteSegM | exact prog_suffixedM | exact prog_truncate_copy
    | exact prog_replaceM | exact prog_clearLatestM | prog_step)

theorem prog_limitStageM {cmp limit size segs} : Prog (HwWrites W) (limitStageM cmp limit size segs) := by
  unfold limitStageM
  with_reducible repeat (first | exact prog_deleteAllM | prog_step)

theorem prog_ageStageM {ttl segs} : Prog (HwWrites W) (ageStageM ttl segs) := by
  unfold ageStageM
  with_reducible repeat (first | exact prog_deleteAllM | prog_step)

theorem prog_retentionM {cfg ttl segs} : Prog (HwWrites W) (retentionM cfg ttl segs) := by
  unfold retentionM
  with_reducible repeat (first | exact prog_limitStageM | exact prog_ageStageM | prog_step)

theorem prog_clean_copy {sh new rs} : Prog (HwWrites W) (cleanSegmentM.copy sh new rs) := by
  induction rs generalizing new with
  | nil => unfold cleanSegmentM.copy; exact .pure trivial
  | cons _ _ ih => unfold cleanSegmentM.copy; with_reducible repeat (first | exact ih | exact prog_writeM | prog_step)

theorem prog_cleanSegmentM {sh hw sc seg} : Prog (HwWrites W) (cleanSegmentM sh hw sc seg) := by
  unfold cleanSegmentM
  with_reducible repeat (first
    | exact prog_suffixedM | exact prog_clean_copy | exact prog_deleteSegM | exact prog_replaceM | prog_step)

theorem prog_compact_go {sh hw sc segs acc surv} : Prog (HwWrites W) (compactM.go sh hw sc segs acc surv) := by
  induction segs generalizing acc surv with
  | nil => unfold compactM.go; exact .pure trivial
  | cons _ _ ih => unfold compactM.go; with_reducible repeat (first | exact ih | exact prog_cleanSegmentM | prog_step)

theorem prog_compactM {sh hw segs} : Prog (HwWrites W) (compactM sh hw segs) := by
  unfold compactM
  with_reducible repeat (first | exact prog_compact_go | prog_step)

theorem prog_cleanM {m ttl} : Prog (HwWrites W) (cleanM m ttl) (fun m' => m'.hw = m.hw) := by
  unfold cleanM
  with_reducible repeat (first
    | exact prog_retentionM | exact prog_compactM | exact prog_flushM | exact prog_clearEarliestM | prog_step)

theorem prog_rollM {m} : Prog (HwWrites W) (rollM m) (fun m' => m'.hw = m.hw) :=
  .ite (.pure rfl) prog_splitM

theorem prog_checkpointHWM {m} {b : Int} (h : m.hw ≤ b) : Prog (HwWrites (· ≤ b)) (checkpointHWM m) := by
  unfold checkpointHWM
  with_reducible repeat (first | exact .eff fun _ hv => Eff.putHW.inj hv ▸ h | prog_step)

theorem prog_close_go {segs acc} : Prog (HwWrites W) (closeM.go segs acc) := by
  induction segs generalizing acc with
  | nil => unfold closeM.go; exact .pure trivial
  | cons _ _ ih => unfold closeM.go; with_reducible repeat (first | exact ih | exact prog_closeSegM | prog_step)

theorem prog_closeM {m} {b : Int} (h : m.hw ≤ b) : Prog (HwWrites (· ≤ b)) (closeM m) := by
  unfold closeM
  with_reducible repeat (first | exact prog_checkpointHWM h | exact prog_close_go | prog_step)

end Liftbridge.Proofs.Recover
