/-
Helper lemmas about the framing of server/encryption/localkey_handler.go (Model/Seal.lean).
Core Lean only. The property theorems are in Props/C17.lean.

Both cuts of the read path are instances of one function, `cutAt` (`splitKey_cons`,
`splitNonce_eq`); what `Read` accepts and when it panics (`readWith_eq_ok`, `readWith_eq_panic`) is
read off the three facts about `cutAt`.
-/
import Liftbridge.Model.Seal
import Liftbridge.Proofs.Res

namespace Liftbridge.Seal
open Liftbridge

/-- Go's `s[:n]` and `s[n:]` behind an optional check of `n` against `len(s)` (error `e`): the
shape of both cuts of the read path. -/
def cutAt (chk : Bool) (e : String) (n : Nat) (s : Bytes) : Res (Bytes × Bytes) :=
  if n ≤ s.length then .ok (s.take n, s.drop n) else if chk then .err e else .panic

theorem cutAt_eq_ok {chk : Bool} {e : String} {n : Nat} {s a b : Bytes} :
    cutAt chk e n s = .ok (a, b) ↔ a.length = n ∧ s = a ++ b := by
  unfold cutAt
  constructor
  · intro h
    split at h
    · rename_i hle
      cases h
      exact ⟨by simp [Nat.min_eq_left hle], (List.take_append_drop n s).symm⟩
    · cases chk <;> cases h
  · rintro ⟨rfl, rfl⟩
    simp

theorem cutAt_eq_panic {chk : Bool} {e : String} {n : Nat} {s : Bytes} :
    cutAt chk e n s = .panic ↔ chk = false ∧ s.length < n := by
  unfold cutAt
  by_cases hle : n ≤ s.length
  · simp [hle, Nat.not_lt.2 hle]
  · cases chk <;> simp [hle, Nat.lt_of_not_le hle]

theorem cutAt_conservative {e : String} {n : Nat} {s : Bytes} (h : cutAt false e n s ≠ .panic) :
    cutAt true e n s = cutAt false e n s := by
  unfold cutAt at h ⊢
  split
  · rfl
  · rw [if_neg ‹_›] at h; exact absurd rfl h

theorem splitKey_nil (chk : Bool) : splitKey chk [] = if chk then .err "empty" else .panic := by
  cases chk <;> rfl

theorem splitKey_cons (chk : Bool) (k0 : UInt8) (t : Bytes) :
    splitKey chk (k0 :: t) = cutAt chk "keysize" k0.toNat t := by
  unfold splitKey cutAt
  simp only [Gen.Seal.guardEmpty, Gen.Seal.guardKeyBeyond, Gen.Seal.keyEndOffset, Gen.Seal.wrappedLo,
    Cmp.evalNat, index, slice, sliceFrom, List.length_cons]
  by_cases hle : k0.toNat ≤ t.length
  · have hlt : ¬ t.length < k0.toNat := by omega
    simp [hle, hlt]
  · have hlt : t.length < k0.toNat := by omega
    cases chk <;> simp [hle, hlt]

theorem splitNonce_eq (chk : Bool) (n : Nat) (ed : Bytes) :
    splitNonce chk n ed = cutAt chk "nonce" n ed := by
  unfold splitNonce cutAt
  simp only [Gen.Seal.guardNonceShort, Cmp.evalNat, slice, sliceFrom]
  by_cases hle : n ≤ ed.length
  · have hlt : ¬ ed.length < n := by omega
    simp [hle, hlt]
  · have hlt : ed.length < n := by omega
    cases chk <;> simp [hle, hlt]

/-- `< 256`: the wrapped key has to fit the one-byte length field. -/
theorem splitKey_eq_ok {chk : Bool} {b w rest : Bytes} :
    splitKey chk b = .ok (w, rest) ↔ w.length < 256 ∧ b = frame w rest := by
  cases b with
  | nil => rw [splitKey_nil]; cases chk <;> simp [frame]
  | cons k0 t =>
    rw [splitKey_cons, cutAt_eq_ok, frame, List.cons.injEq]
    constructor
    · rintro ⟨hl, rfl⟩
      exact ⟨hl ▸ k0.toNat_lt, by simp [hl], rfl⟩
    · rintro ⟨hw, rfl, rfl⟩
      exact ⟨by simp [UInt8.toNat_ofNat']; omega, rfl⟩

/-- What `Read` makes of ANY frame: it cuts the wrapped key at its length modulo 256 (the
key-size byte). Below 256 that is the wrapped key itself; at 256 it is the empty key. -/
theorem splitKey_frame (chk : Bool) (w ct : Bytes) :
    splitKey chk (frame w ct) = .ok (w.take (w.length % 256), w.drop (w.length % 256) ++ ct) := by
  have hle : w.length % 256 ≤ w.length := Nat.mod_le _ _
  rw [frame, splitKey_cons]
  exact cutAt_eq_ok.2 ⟨by simp [Nat.min_eq_left hle],
    by rw [← List.append_assoc, List.take_append_drop]⟩

theorem splitKey_eq_panic {chk : Bool} {b : Bytes} :
    splitKey chk b = .panic ↔
      chk = false ∧ (b = [] ∨ ∃ k0 t, b = k0 :: t ∧ t.length < k0.toNat) := by
  cases b with
  | nil => rw [splitKey_nil]; cases chk <;> simp
  | cons k0 t =>
    simp only [splitKey_cons, cutAt_eq_panic, reduceCtorEq, List.cons.injEq, false_or]
    exact and_congr_right fun _ =>
      ⟨fun h => ⟨k0, t, ⟨rfl, rfl⟩, h⟩, fun ⟨_, _, ⟨rfl, rfl⟩, h⟩ => h⟩

theorem splitKey_conservative (b : Bytes) (h : splitKey false b ≠ .panic) :
    splitKey true b = splitKey false b := by
  cases b with
  | nil => exact absurd rfl h
  | cons k0 t =>
    rw [splitKey_cons] at h ⊢
    rw [splitKey_cons]
    exact cutAt_conservative h

theorem decryptDataWith_eq_ok {chk : Bool} {c : Crypto} {dek ed p : Bytes} :
    decryptDataWith chk c dek ed = .ok p ↔
      c.keyOk dek = true ∧ ∃ nonce ct, nonce.length = c.nonceSize ∧ ed = nonce ++ ct ∧
        c.aeadOpen dek nonce ct = some p := by
  unfold decryptDataWith
  cases c.keyOk dek with
  | false => simp
  | true =>
    simp only [Bool.not_true, Bool.false_eq_true, if_false, Res.bind_eq_ok, true_and, Prod.exists,
      splitNonce_eq, cutAt_eq_ok, and_assoc]
    refine exists_congr fun nonce => exists_congr fun ct =>
      and_congr_right fun _ => and_congr_right fun _ => ?_
    cases c.aeadOpen dek nonce ct <;> simp

theorem decryptDataWith_eq_panic {chk : Bool} {c : Crypto} {dek ed : Bytes} :
    decryptDataWith chk c dek ed = .panic ↔
      c.keyOk dek = true ∧ chk = false ∧ ed.length < c.nonceSize := by
  unfold decryptDataWith
  cases c.keyOk dek with
  | false => simp
  | true =>
    simp only [Bool.not_true, Bool.false_eq_true, if_false, Res.bind_eq_panic, true_and, Prod.exists,
      splitNonce_eq, cutAt_eq_panic]
    refine or_iff_left fun ⟨nonce, ct, _, h⟩ => ?_
    cases ho : c.aeadOpen dek nonce ct <;> simp [ho] at h

theorem decryptDataWith_conservative (c : Crypto) (dek ed : Bytes)
    (h : decryptDataWith false c dek ed ≠ .panic) :
    decryptDataWith true c dek ed = decryptDataWith false c dek ed := by
  unfold decryptDataWith at h ⊢
  cases hk : c.keyOk dek with
  | false => rfl
  | true =>
    simp only [hk, Bool.not_true, Bool.false_eq_true, if_false, splitNonce_eq] at h ⊢
    exact Res.bind_conservative cutAt_conservative (fun _ _ => rfl) h

theorem readWith_eq_ok {chk : Bool} {c : Crypto} {b p : Bytes} :
    readWith chk c b = .ok p ↔
      ∃ w dek nonce x, w.length < 256 ∧ c.unwrap w = some dek ∧ c.keyOk dek = true ∧
        nonce.length = c.nonceSize ∧ c.aeadOpen dek nonce x = some p ∧ b = frame w (nonce ++ x) := by
  simp only [readWith, Res.bind_eq_ok, Prod.exists, splitKey_eq_ok]
  constructor
  · rintro ⟨w, rest, ⟨hw, rfl⟩, h⟩
    cases hu : c.unwrap w with
    | none => simp [hu] at h
    | some dek =>
      rw [hu] at h
      obtain ⟨hk, nonce, x, hn, rfl, ho⟩ := decryptDataWith_eq_ok.1 h
      exact ⟨w, dek, nonce, x, hw, hu, hk, hn, ho, rfl⟩
  · rintro ⟨w, dek, nonce, x, hw, hu, hk, hn, ho, rfl⟩
    refine ⟨w, _, ⟨hw, rfl⟩, ?_⟩
    rw [hu]
    exact decryptDataWith_eq_ok.2 ⟨hk, nonce, x, hn, rfl, ho⟩

/-- Exactly when the read path panics: never with the checks; without them on the empty value,
on a key-size byte that points past the end, and when the wrapped key unwraps to a valid AES key
and fewer bytes than a nonce follow it. -/
theorem readWith_eq_panic {chk : Bool} {c : Crypto} {b : Bytes} :
    readWith chk c b = .panic ↔ chk = false ∧ (b = [] ∨ ∃ k0 t, b = k0 :: t ∧
      (t.length < k0.toNat ∨
        ∃ dek, c.unwrap (t.take k0.toNat) = some dek ∧ c.keyOk dek = true ∧
          t.length - k0.toNat < c.nonceSize)) := by
  have step : readWith chk c b = .panic ↔ splitKey chk b = .panic ∨ ∃ w rest,
      splitKey chk b = .ok (w, rest) ∧
        ∃ dek, c.unwrap w = some dek ∧ decryptDataWith chk c dek rest = .panic := by
    simp only [readWith, Res.bind_eq_panic, Prod.exists]
    refine or_congr_right (exists_congr fun w => exists_congr fun rest => and_congr_right fun _ => ?_)
    cases c.unwrap w <;> simp
  rw [step]
  cases chk with
  | true => simp [splitKey_eq_panic, decryptDataWith_eq_panic]
  | false =>
    cases b with
    | nil => simp [splitKey_nil]
    | cons k0 t =>
      rw [splitKey_cons]
      by_cases hle : k0.toNat ≤ t.length
      · simp [cutAt, hle, Nat.not_lt.2 hle, decryptDataWith_eq_panic, and_assoc]
      · simp [cutAt, hle, Nat.lt_of_not_le hle, and_assoc]

/-- Exactly when `Seal` succeeds, and the shape of everything it returns. -/
theorem sealData_eq_ok {c : Crypto} {dek nonce p stored : Bytes} :
    sealData c dek nonce p = .ok stored ↔
      c.keyOk dek = true ∧ ∃ w, c.wrap dek = some w ∧
        stored = frame w (nonce ++ c.aeadSeal dek nonce p) := by
  unfold sealData encryptData
  cases c.keyOk dek <;> cases c.wrap dek <;> simp [eq_comm]

end Liftbridge.Seal
