/- The log of the cursors partition (C11): its invariant `LogOK` (a cleaned log, `InvC`, on which
every publish is committed before it is acknowledged) is kept by publish, roll, reopen and
compaction, and the reverse subscription `getLatestCursorOffset` opens delivers the whole log,
newest first. -/
import Liftbridge.Model.Cursors
import Liftbridge.Proofs.Subscribe
namespace Liftbridge.Proofs.Cursors
open Liftbridge Liftbridge.Log Liftbridge.Log.CLog Liftbridge.Compact Liftbridge.Proofs.Log
open Liftbridge.Proofs.Compact Liftbridge.Proofs.Subscribe Liftbridge.Cursors

/-- Invariant of the cursors partition's log at quiescence (no publish in flight). -/
structure LogOK (l : CLog) : Prop where
  invc : InvC l
  maxPos : 0 < l.maxSegBytes
  writable : l.readonly = false
  noOcc : l.occ = false
  /-- the HW is the offset of the last retained record (-1 on an empty log) -/
  hwLast : l.hw = (l.abs.getLast?.map Rec.offset).getD (-1)
  /-- everything appended is committed -/
  hwNewest : l.hw = l.newest

theorem logOK_init (m : Int) (hm : 0 < m) : LogOK (CLog.init m false) :=
  ⟨⟨by simp [CLog.init], by simp [CLog.init, abs], by simp [CLog.init], by simp [CLog.init],
    by simp [CLog.init]⟩, hm, rfl, rfl, rfl, rfl⟩

theorem LogOK.le_hw {l : CLog} (h : LogOK l) : ∀ r ∈ l.abs, r.offset ≤ l.hw := by
  intro r hr
  have := invC_lt_next h.invc r hr
  have := h.hwNewest
  unfold newest at this
  omega

theorem LogOK.hw_eq_neg_one_iff {l : CLog} (h : LogOK l) : l.hw = -1 ↔ l.abs = [] := by
  have hl := h.hwLast
  cases hg : l.abs.getLast? with
  | none => simp [hl, List.getLast?_eq_none_iff.mp hg]
  | some r =>
    have hr := List.mem_of_getLast? hg
    have := invC_offset_nonneg h.invc r hr
    simp only [hg, Option.map_some, Option.getD_some] at hl
    exact ⟨fun he => by omega, fun he => by simp [he] at hr⟩

theorem LogOK.oldest_eq_neg_one {l : CLog} (h : LogOK l) (ho : l.oldest = -1) : l.abs = [] :=
  Classical.byContradiction fun hne => h.invc.oldest_ne hne ho

theorem LogOK.hw_ne_of_oldest {l : CLog} (h : LogOK l) (ho : l.oldest ≠ -1) : l.hw ≠ -1 := by
  obtain ⟨r0, rest, habs, -⟩ := oldest_cases h.invc ho
  exact fun he => by simp [h.hw_eq_neg_one_iff.mp he] at habs

theorem LogOK.oldest_le {l : CLog} (h : LogOK l) (ho : l.oldest ≠ -1) : ∀ r ∈ l.abs, l.oldest ≤ r.offset := by
  obtain ⟨r0, rest, habs, ho'⟩ := oldest_cases h.invc ho
  have hsorted := h.invc.sorted
  rw [habs] at hsorted ⊢
  intro r hr
  rcases List.mem_cons.mp hr with rfl | hr
  · omega
  · have := (List.pairwise_cons.mp hsorted).1 r hr
    omega

/-- Writing one record at the next offset of a fully committed log and committing it. -/
theorem logOK_write_one {l1 l' : CLog} {offs : List Int} (hi : InvC l1) (hm : 0 < l1.maxSegBytes)
    (hro : l1.readonly = false) (hocc : l1.occ = false) (hhw : l1.hw = l1.newest)
    (r : Rec) (hr : r.offset = l1.nextOffset) (hw : l1.write [r] = .ok (l', offs)) :
    (l'.setHW l'.newest).abs = l1.abs ++ [r] ∧ LogOK (l'.setHW l'.newest) := by
  have hnn : 0 ≤ l1.nextOffset := (invC_activeOK hi).next_nonneg
  have hi' : InvC l' := invC_write hi (by simp [Sorted]) (by simp [hr]) hw
  have habs : l'.abs = l1.abs ++ [r] := (write_spec hi.nonempty hw).1
  rw [write_eq l1 (rs := [r]) (by simp)] at hw
  cases hw
  generalize hl' : ({ l1 with segs := _, epochs := _ } : CLog) = l' at *
  have hnext : l'.nextOffset = r.offset + 1 := by
    subst hl'
    simpa [CLog.nextOffset, active] using
      nextOffset_concat (s := { l1.active with recs := l1.active.recs ++ [r] }) rfl (by omega)
  have hnew : l'.newest = r.offset := by unfold newest; omega
  have hset : l'.setHW l'.newest = { l' with hw := r.offset } := by
    have : l'.hw < r.offset := by subst hl'; show l1.hw < _; rw [hhw, hr]; unfold newest; omega
    simp [setHW, Gen.Log.setHWCmp, Cmp.evalInt, hnew, this]
  rw [hset]
  refine ⟨habs, invC_of_segs_eq hi' rfl, ?_, ?_, ?_, ?_, hnew.symm⟩
  · subst hl'; exact hm
  · subst hl'; exact hro
  · subst hl'; exact hocc
  · show r.offset = ((l'.abs.getLast?.map Rec.offset).getD (-1))
    simp [habs]

/-- An ALL-policy publish of one (encodable: no header key longer than 32767 bytes) message on
the replication-factor-1 partition: appended at the next offset and committed. -/
theorem logOK_publish {l : CLog} (h : LogOK l) (m : CLog.Msg) (henc : m.body.encodable = true) :
    ∃ l', l.append [m] = .ok (l', [l.nextOffset]) ∧
      (l'.setHW l'.newest).abs = l.abs ++ [mkRec l.nextOffset m] ∧
      LogOK (l'.setHW l'.newest) := by
  obtain ⟨cm, chw, cro, cocc⟩ := checkSplit_fields l
  have hw := write_eq l.checkSplit
    (rs := [mkRec l.nextOffset m]) (by simp)
  have happ : l.append [m] = l.checkSplit.write [mkRec l.nextOffset m] := by
    rw [append_single l m h.writable]; simp [henc, Refused, h.noOcc]
  have := logOK_write_one (invC_checkSplit h.invc h.maxPos) (cm ▸ h.maxPos) (cro ▸ h.writable)
    (cocc ▸ h.noOcc) (by rw [chw, h.hwNewest, newest, newest, nextOffset_checkSplit]) _
    (nextOffset_checkSplit l).symm hw
  rw [abs_checkSplit] at this
  exact ⟨_, by rw [happ, hw]; rfl, this⟩

theorem logOK_roll {l : CLog} (h : LogOK l) (hne : l.active.recs ≠ []) : LogOK l.roll :=
  ⟨invC_roll h.invc hne, h.maxPos, h.writable, h.noOcc, (abs_roll l).symm ▸ h.hwLast,
    by show l.hw = l.roll.nextOffset - 1; rw [nextOffset_roll]; exact h.hwNewest⟩

theorem logOK_reopen {l : CLog} (h : LogOK l) : LogOK l.reopen :=
  ⟨invC_of_segs_eq h.invc rfl, h.maxPos, rfl, h.noOcc, h.hwLast, h.hwNewest⟩

/-- A clean of the cursors partition without retention limits (compaction only): the last
record sits at the HW and survives, so the HW stays the last offset. -/
theorem logOK_compact {l : CLog} (h : LogOK l) : LogOK (cleanLog ⟨0, 0, 0⟩ 0 true l) := by
  obtain ⟨fm, fr, fo⟩ := cleanLog_fields ⟨0, 0, 0⟩ 0 true l
  have hi' := invC_cleanLog' l ⟨0, 0, 0⟩ 0 true h.invc
  have hsub := survivors_sublist l
  refine ⟨hi', fm ▸ h.maxPos, fr ▸ h.writable, fo ▸ h.noOcc, ?_, ?_⟩
  · rw [cleanLog_hw]
    have hl := h.hwLast
    cases hg : l.abs.getLast? with
    | none =>
      rw [List.getLast?_eq_none_iff.mp hg] at hsub
      rw [List.sublist_nil.mp hsub, hl, hg]; rfl
    | some r =>
      have hr := List.mem_of_getLast? hg
      simp only [hg, Option.map_some, Option.getD_some] at hl
      have hr' : r ∈ (cleanLog ⟨0, 0, 0⟩ 0 true l).abs :=
        kept_of_retain l r hr (retain_above_hw _ _ _ (by omega))
      cases hg' : (cleanLog ⟨0, 0, 0⟩ 0 true l).abs.getLast? with
      | none => simp [List.getLast?_eq_none_iff.mp hg'] at hr'
      | some r' =>
        have := sorted_le_getLast hi'.sorted hg' r hr'
        have := h.le_hw r' (hsub.subset (List.mem_of_getLast? hg'))
        simp only [Option.map_some, Option.getD_some]
        omega
  · rw [cleanLog_hw, newest, compactLog_nextOffset]
    exact h.hwNewest

/-- The reverse subscription from LATEST delivers every retained record, newest first, and then
ends with the regenerated end-of-reverse-subscription status. -/
theorem create_reverse_all {l : CLog} (h : LogOK l) (hne : l.hw ≠ -1) :
    Subscribe.create l cursorReq =
      .live l.abs.reverse (.status Gen.Subscribe.reverseEndStatus)
        { nextOff := 0, stop := Subscribe.waitForNew, reverse := true, ended := true } := by
  have hpos : 0 ≤ l.hw := by
    obtain ⟨r, hr⟩ := List.exists_mem_of_ne_nil _ (mt h.hw_eq_neg_one_iff.mpr hne)
    have := h.le_hw r hr
    have := invC_offset_nonneg h.invc r hr
    omega
  have hstart : Subscribe.startOffset l .latest = .ok l.hw := by
    simp [Subscribe.startOffset, ← h.hwNewest, Int.not_lt.mpr hpos]
  have hstop : Subscribe.stopOffset l true .onCancel = .ok (some Subscribe.waitForNew) := by
    simp [Subscribe.stopOffset, h.writable]
  rw [create_reverse_eq l cursorReq l.hw _ h.invc hne (Int.le_of_eq h.hwNewest) rfl hstart hstop (Or.inl rfl)]
  simpa using h.le_hw

end Liftbridge.Proofs.Cursors
