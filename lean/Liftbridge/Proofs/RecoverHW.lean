/-
C05, clause (c): a small crash Hoare logic over the crash monad `M` (invariants that hold in
EVERY outcome — returned, killed, failed), its frame rule for the programs of `Proofs/RecoverProg`
(`Prog.keeps`: a program keeps what its primitive steps keep) and its use for the high-watermark
clause: no operation other than `checkpointHW` / `Close` touches the HW checkpoint file, and those
write the in-memory HW.
-/
import Liftbridge.Model.Recover
import Liftbridge.Proofs.RecoverProg

namespace Liftbridge.Proofs.Recover
open Liftbridge Liftbridge.Log Liftbridge.Recover

/-- `I` holds in every outcome of `m` started in a state satisfying `I`; returned values
additionally satisfy `Q`. -/
structure Keeps {α} (I : St → Prop) (m : M α) (Q : α → Prop := fun _ => True) : Prop where
  run : ∀ s, I s → match m s with
    | .ok a s' => I s' ∧ Q a
    | .crashed s' => I s'
    | .fail _ s' => I s'

def Sat {α} (P : St → Prop) (Q : α → St → Prop) : Out α → Prop
  | .ok a s => Q a s
  | .crashed s => P s
  | .fail _ s => P s

theorem Sat.imp {α} {P P' : St → Prop} {Q Q' : α → St → Prop} {o : Out α} (h : Sat P Q o)
    (hP : ∀ s, P s → P' s) (hQ : ∀ a s, Q a s → Q' a s) : Sat P' Q' o := by
  cases o with
  | ok a s => exact hQ a s h
  | crashed s => exact hP s h
  | fail e s => exact hP s h

theorem sat_bind {α β} {P : St → Prop} {Q : α → St → Prop} {R : β → St → Prop} {m : M α} {f : α → M β}
    {s : St} (hm : Sat P Q (m s)) (hf : ∀ a s', Q a s' → Sat P R (f a s')) : Sat P R ((m >>= f) s) := by
  show Sat P R (M.bind m f s)
  unfold M.bind
  cases h : m s with
  | ok a s' => rw [h] at hm; exact hf a s' hm
  | crashed s' => rw [h] at hm; exact hm
  | fail e s' => rw [h] at hm; exact hm

theorem Keeps.sat {α} {I : St → Prop} {m : M α} {Q : α → Prop} (h : Keeps I m Q) {s : St} (hs : I s) :
    Sat I (fun a s' => I s' ∧ Q a) (m s) :=
  h.run s hs

theorem keeps_pure {α} {I : St → Prop} {a : α} {Q : α → Prop} (h : Q a) : Keeps I (pure a : M α) Q :=
  ⟨fun _ hs => ⟨hs, h⟩⟩

theorem keeps_bind {α β} {I : St → Prop} {m : M α} {f : α → M β} {Q : α → Prop} {R : β → Prop}
    (hm : Keeps I m Q) (hf : ∀ a, Q a → Keeps I (f a) R) : Keeps I (m >>= f) R :=
  ⟨fun _ hs => sat_bind (hm.sat hs) fun a _ h => (hf a h.2).sat h.1⟩

theorem keeps_weaken {α} {I : St → Prop} {m : M α} {Q R : α → Prop}
    (hm : Keeps I m Q) (h : ∀ a, Q a → R a) : Keeps I m R :=
  ⟨fun _ hs => (hm.sat hs).imp (fun _ => id) fun a _ h' => ⟨h'.1, h a h'.2⟩⟩

theorem keeps_tick {I : St → Prop} {f : St → St}
    (h : ∀ s, I s → I (f { s with budget := s.budget - 1, steps := s.steps + 1 })) : Keeps I (tick f) := by
  constructor
  intro s hs
  unfold tick
  by_cases hb : s.budget = 0
  · simp [hb]; exact hs
  · simp [hb]; exact h s hs

theorem keeps_getFS {I : St → Prop} {Q : FS → Prop} (hQ : ∀ s, I s → Q s.fs) : Keeps I getFS Q :=
  ⟨fun s hs => ⟨hs, hQ s hs⟩⟩

theorem keeps_fail {α} {I : St → Prop} {Q : α → Prop} (e : String) : Keeps I (failM e : M α) Q :=
  ⟨fun _ hs => hs⟩

/-! ### Invariants that only look at the HW checkpoint file and the ghost HW -/

/-- `I s` depends only on the HW checkpoint file and on the ghost "HW when the last operation
returned". Such an invariant is kept by every step that is not a HW checkpoint write. -/
structure HwOnly (I : St → Prop) : Prop where
  congr : ∀ s s', s.fs.hw = s'.fs.hw → s.hwSeen = s'.hwSeen → I s → I s'

theorem apply_hw (e : Eff) (fs : FS) (h : ∀ v, e = .putHW v → False) : (e.apply fs).hw = fs.hw := by
  cases e with
  | putHW v => exact absurd rfl (h v)
  | _ => simp only [Eff.apply] <;> (repeat' split) <;> rfl

theorem keeps_eff {I : St → Prop} (hI : HwOnly I) {e : Eff} (h : ∀ v, e = .putHW v → False) : Keeps I (eff e) :=
  keeps_tick fun s hs => hI.congr s _ (apply_hw e s.fs h).symm rfl hs

theorem keeps_mark {I : St → Prop} (hI : HwOnly I) (n : String) : Keeps I (mark n) :=
  keeps_tick fun s hs => hI.congr s _ rfl rfl hs

/-- Every program keeps every invariant that its primitive steps keep. -/
theorem Prog.keeps {E : Eff → Prop} {I : St → Prop} (hE : ∀ e, E e → Keeps I (Recover.eff e)) (hM : ∀ n, Keeps I (Recover.mark n))
    {α} {m : M α} {Q : α → Prop} (h : Prog E m Q) : Keeps I m Q := by
  induction h with
  | pure h => exact keeps_pure h
  | bind _ _ ihm ihf => exact keeps_bind ihm ihf
  | eff h => exact hE _ h
  | mark n => exact hM n
  | getFS => exact keeps_getFS fun _ _ => trivial
  | fail e => exact keeps_fail e
  | @mapFail _ m m' _ _ hg ih =>
    obtain ⟨g, hg⟩ := hg
    refine ⟨fun s hs => ?_⟩
    have := ih.run s hs
    rw [hg s]
    cases h : m s <;> simpa [h] using this

/-- A program that does not write the HW checkpoint file keeps every invariant that only looks at
that file and the ghost HW. -/
theorem Prog.frame {I : St → Prop} (hI : HwOnly I) {α} {m : M α} {Q : α → Prop}
    (h : Prog (HwWrites fun _ => False) m Q) : Keeps I m Q :=
  h.keeps (fun _ => keeps_eff hI) (keeps_mark hI)

/-- `New` does not touch the HW checkpoint file; the recovered HW is what the file says. -/
theorem hw_recoverM (cfg : Cfg) (h : Option Int) (g : Int) :
    Keeps (fun s => s.fs.hw = h ∧ s.hwSeen = g) (recoverM cfg) (fun m => m.hw = h.getD (-1)) := by
  obtain ⟨k, hk, hp⟩ := prog_recoverM (W := fun _ => False) cfg
  rw [hk]
  exact keeps_bind (keeps_getFS (Q := fun fs => fs.hw = h) fun s hs => hs.1) fun fs hfs =>
    hfs ▸ (hp fs).frame ⟨fun s s' h1 h2 hs => ⟨h1 ▸ hs.1, h2 ▸ hs.2⟩⟩

/-- The ghost HW is `b` and the HW checkpoint file is not above it. -/
def HwInv (b : Int) (s : St) : Prop := s.hwSeen = b ∧ s.fs.hw.getD (-1) ≤ b

theorem hwInv_only (b : Int) : HwOnly (HwInv b) :=
  ⟨fun _ _ h1 h2 hs => ⟨h2 ▸ hs.1, h1 ▸ hs.2⟩⟩

/-- Crash condition: the HW checkpoint file is not above the in-memory HW of the last returned
operation. -/
def HwSafe (s : St) : Prop := s.fs.hw.getD (-1) ≤ s.hwSeen

theorem HwInv.safe {b : Int} {s : St} (h : HwInv b s) : HwSafe s := by
  unfold HwSafe; rw [h.1]; exact h.2

theorem keeps_putHW {b v : Int} (h : v ≤ b) : Keeps (HwInv b) (eff (.putHW v)) :=
  keeps_tick fun _ hs => ⟨hs.1, by simpa [Eff.apply] using h⟩

/-- A program that writes nothing above `b` to the HW checkpoint file keeps it at or below `b`. -/
theorem Prog.hwInv {b : Int} {α} {m : M α} {Q : α → Prop} (h : Prog (HwWrites (· ≤ b)) m Q) : Keeps (HwInv b) m Q := by
  refine h.keeps (fun e he => ?_) (keeps_mark (hwInv_only b))
  cases e with
  | putHW v => exact keeps_putHW (he v rfl)
  | _ => exact keeps_eff (hwInv_only b) nofun

/-- `SetHighWatermark` only raises the HW (`if hw > l.hw`, operator extracted from the source). -/
theorem setHW_ge (m : Mem) (hw : Int) : m.hw ≤ (setHW m hw).hw := by
  unfold setHW
  split
  · rename_i h
    simp [Gen.Log.setHWCmp, Cmp.evalInt] at h
    simp; omega
  · exact Int.le_refl _

theorem sat_of_keeps {m : Mem} {p : M Mem} {s : St} (hm : m.hw = s.hwSeen) (hs : HwSafe s)
    (hp : Keeps (HwInv s.hwSeen) p (fun m' => m'.hw = m.hw)) :
    Sat HwSafe (fun m' s' => s'.fs.hw.getD (-1) ≤ m'.hw) (p s) :=
  (hp.sat ⟨rfl, hs⟩).imp (fun _ h => h.safe) fun _ _ h => h.2 ▸ hm ▸ h.1.2

theorem recoverM_safe (cfg : Cfg) {s : St} (hs : HwSafe s) :
    Sat HwSafe (fun m' s' => s'.fs.hw.getD (-1) ≤ m'.hw) (recoverM cfg s) := by
  refine ((hw_recoverM cfg s.fs.hw s.hwSeen).sat ⟨rfl, rfl⟩).imp ?_ ?_
  · intro s' h; unfold HwSafe; rw [h.1, h.2]; exact hs
  · intro m' s' h; rw [h.2, h.1.1]; exact Int.le_refl _

/-- What one operation does to the HW bookkeeping, in every outcome. -/
theorem stepOp_safe (m : Mem) (op : Op) {s : St} (hm : m.hw = s.hwSeen) (hs : HwSafe s) :
    Sat HwSafe (fun m' s' => s'.fs.hw.getD (-1) ≤ m'.hw) (stepOp m op s) := by
  cases op with
  | append e ts msgs => exact sat_of_keeps hm hs prog_appendM.hwInv
  | truncate o => exact sat_of_keeps hm hs prog_truncateM.hwInv
  | clean ttl => exact sat_of_keeps hm hs prog_cleanM.hwInv
  | roll => exact sat_of_keeps hm hs prog_rollM.hwInv
  | setHW hw => exact Int.le_trans hs (hm ▸ setHW_ge m hw)
  | checkpointHW =>
    exact sat_of_keeps hm hs (Prog.hwInv (.bind (prog_checkpointHWM (Int.le_of_eq hm)) fun _ _ => .pure rfl))
  | reopen =>
    -- `Close` keeps the file below the old HW
    exact sat_bind (((prog_closeM (Int.le_of_eq hm)).hwInv.sat ⟨rfl, hs⟩).imp (fun _ h => h.safe) fun _ _ h => h.1.safe)
      fun _ _ h1 => recoverM_safe m.cfg h1

theorem runOps_safe : ∀ (ops : List Op) (m : Mem) (s : St), m.hw = s.hwSeen → HwSafe s →
    Sat HwSafe (fun _ _ => True) (runOps m ops s)
  | [], _, _, _, _ => trivial
  | op :: rest, m, _, hm, hs =>
    -- `opDone` sets the ghost HW to that of the `Mem` the operation returned
    sat_bind (stepOp_safe m op hm hs) fun m' _ h => runOps_safe rest m' _ rfl h

/-- The HW checkpoint file left behind by a crash at ANY step of ANY workload is not above the
in-memory high watermark at that moment. -/
theorem life_safe (cfg : Cfg) (ops : List Op) {s : St} (hs : HwSafe s) :
    Sat HwSafe (fun _ _ => True) (life cfg ops s) :=
  -- `opened` sets the ghost HW to that of the recovered `Mem`
  sat_bind (recoverM_safe cfg hs) fun m _ h => runOps_safe ops m _ rfl h

/-- The HW that `New` recovers is what the checkpoint file says. -/
theorem recover_hw (cfg : Cfg) (fs : FS) (m : Mem) (fs' : FS) (h : recover cfg fs = .ok (m, fs')) :
    m.hw = fs.hw.getD (-1) := by
  unfold recover at h
  have hr := (hw_recoverM cfg fs.hw (-1)).sat (s := { fs := fs, budget := noCrash }) ⟨rfl, rfl⟩
  split at h
  · rename_i m' s' h'
    rw [h'] at hr
    cases h
    exact hr.2
  · cases h
  · cases h

end Liftbridge.Proofs.Recover
