/- Helper lemmas for the message codec round trip. -/
import Liftbridge.Model.Codec
namespace Liftbridge.Proofs.Codec
open Liftbridge Liftbridge.Codec

@[simp] theorem beBytes_length (k v : Nat) : (beBytes k v).length = k := by
  induction k with
  | zero => rfl
  | succ k ih => simp [beBytes, ih]

theorem beNat_nil : beNat [] = 0 := rfl

theorem foldl_be (l : Bytes) (acc : Nat) :
    l.foldl (fun acc x => acc * 256 + x.toNat) acc = acc * 256 ^ l.length + beNat l := by
  induction l generalizing acc with
  | nil => simp [beNat]
  | cons x xs ih =>
    simp only [List.foldl_cons, beNat, List.length_cons]
    rw [ih, ih (0 * 256 + x.toNat)]
    simp only [beNat, Nat.zero_mul, Nat.zero_add, Nat.add_mul, Nat.pow_succ, Nat.add_assoc]
    rw [Nat.mul_assoc, Nat.mul_comm 256]

theorem beNat_cons (x : UInt8) (l : Bytes) :
    beNat (x :: l) = x.toNat * 256 ^ l.length + beNat l := by
  have := foldl_be l (0 * 256 + x.toNat)
  simpa [beNat] using this

theorem toNat_ofNat_mod (x : Nat) : (UInt8.ofNat (x % 256)).toNat = x % 256 := by
  simp [UInt8.toNat_ofNat']

theorem beNat_beBytes (k v : Nat) : beNat (beBytes k v) = v % 256 ^ k := by
  induction k with
  | zero => simp [beBytes, beNat_nil, Nat.mod_one]
  | succ k ih =>
    rw [beBytes, beNat_cons, ih, beBytes_length, toNat_ofNat_mod, Nat.mod_pow_succ,
      Nat.mul_comm, Nat.add_comm]

/-- The cursor of a reader: position `a` of `m` is in range and `r` is what lies from there on.
Every accessor reads a prefix of `r` and moves the cursor past it (`At.next`). -/
structure At {α} (m : List α) (a : Nat) (r : List α) : Prop where
  le : a ≤ m.length
  drop : m.drop a = r

theorem At.intro {α} (pre r : List α) {a : Nat} (ha : pre.length = a := by simp) : At (pre ++ r) a r := by
  subst ha
  exact ⟨by simp, List.drop_left⟩

theorem At.next {α} {m x post : List α} {a k : Nat} (h : At m a (x ++ post)) (hk : x.length = k := by simp) :
    At m (a + k) post := by
  have hl : m.length = a + (x ++ post).length := by rw [← h.drop, List.length_drop]; have := h.le; omega
  subst hk
  exact ⟨by rw [hl, List.length_append]; omega, by rw [← List.drop_drop, h.drop, List.drop_left]⟩

theorem sliceFrom_at {α} {m r : List α} {a : Nat} (h : At m a r) : sliceFrom m a = .ok r := by
  simp [sliceFrom, h.le, h.drop]

theorem slice_at {α} {m mid post : List α} {a b : Nat} (h : At m a (mid ++ post)) (hb : b = a + mid.length) :
    slice m a b = .ok mid := by
  have h2 := h.next rfl
  subst hb
  have : (m.take (a + mid.length)).drop a = mid := by
    rw [List.drop_take, Nat.add_sub_cancel_left, h.drop, List.take_left]
  simp [slice, h2.le, this]

theorem getInt32_be {m post : Bytes} {a : Nat} (v : Nat) (h : At m a (beBytes 4 v ++ post)) :
    getInt32 m a =
      .ok (if v % 2 ^ 32 ≥ 2 ^ 31 then ((v % 2 ^ 32 : Nat) : Int) - 2 ^ 32 else ((v % 2 ^ 32 : Nat) : Int)) := by
  have hlen : ¬ (beBytes 4 v ++ post).length < 4 := by simp
  unfold getInt32
  rw [sliceFrom_at h]
  simp only [Res.bind_ok, hlen, if_false, List.take_left' (beBytes_length 4 v), beNat_beBytes]

theorem getUint16_be {m post : Bytes} {a : Nat} (v : Nat) (h : At m a (beBytes 2 v ++ post)) :
    getUint16 m a = .ok (v % 2 ^ 16) := by
  have hlen : ¬ (beBytes 2 v ++ post).length < 2 := by simp
  unfold getUint16
  rw [sliceFrom_at h]
  simp only [Res.bind_ok, hlen, if_false, List.take_left' (beBytes_length 2 v), beNat_beBytes]

/-- The `int32` size that `putBytes` stores. -/
def sizeOfField : Option Bytes → Int
  | none => -1
  | some b => b.length

theorem putBytes_length (x : Option Bytes) : (putBytes x).length = 4 + Log.bytesLen x := by
  cases x <;> simp [putBytes, Log.bytesLen]

theorem getInt32_putBytes {m post : Bytes} {a : Nat} {x : Option Bytes} (hx : Log.bytesLen x < 2 ^ 31)
    (h : At m a (putBytes x ++ post)) : getInt32 m a = .ok (sizeOfField x) := by
  cases x with
  | none =>
    rw [getInt32_be (2 ^ 32 - 1) h]
    simp [sizeOfField]
  | some b =>
    have hb : b.length < 2 ^ 31 := hx
    rw [getInt32_be (post := b ++ post) b.length (by simpa [putBytes] using h)]
    have : b.length % 2 ^ 32 = b.length := Nat.mod_eq_of_lt (by omega)
    rw [this]
    have : ¬ b.length ≥ 2 ^ 31 := by omega
    simp [sizeOfField, this]

theorem fieldOffsets_putBytes {m post : Bytes} {a : Nat} {x : Option Bytes} (hx : Log.bytesLen x < 2 ^ 31)
    (h : At m a (putBytes x ++ post)) :
    fieldOffsets m a = .ok (a, ((a + (putBytes x).length : Nat) : Int), sizeOfField x) := by
  unfold fieldOffsets
  rw [getInt32_putBytes hx h]
  simp only [Res.bind_ok, putBytes_length]
  cases x with
  | none => simp [sizeOfField, Log.bytesLen]
  | some b =>
    have : ((b.length : Nat) : Int) ≠ -1 := by omega
    simp [sizeOfField, Log.bytesLen, this]; omega

theorem fieldBytes_putBytes {m post : Bytes} {a : Nat} {x : Option Bytes} (hx : Log.bytesLen x < 2 ^ 31)
    (h : At m a (putBytes x ++ post)) :
    fieldBytes m a = .ok (x, ((a + (putBytes x).length : Nat) : Int)) := by
  unfold fieldBytes
  rw [fieldOffsets_putBytes hx h]
  simp only [Res.bind_ok]
  cases x with
  | none => simp [sizeOfField]
  | some b =>
    have h1 : ¬ (((b.length : Nat) : Int) = -1) := by omega
    have h2 : ¬ (((a + (putBytes (some b)).length : Nat) : Int) < 0) := by omega
    simp only [sizeOfField, h1, h2, if_false, Int.toNat_natCast]
    rw [slice_at (mid := b) (post := post) (At.next (x := beBytes 4 b.length) (by simpa [putBytes] using h))
      (by simp [putBytes]; omega)]
    rfl

theorem putString_length (k : Bytes) : (putString k).length = 2 + k.length := by
  simp [putString]

/-- Bounds under which one header is read back (the key bound is the one of the *decoder*,
which reads the length as `uint16`; `WF` has the stricter encoder bound `2^15`). -/
def HdrOk (kv : Bytes × Option Bytes) : Prop := kv.1.length < 2 ^ 16 ∧ Log.bytesLen kv.2 < 2 ^ 31

theorem readHeaders_putHeaders (hs : List (Bytes × Option Bytes)) :
    ∀ {m post : Bytes} {a : Nat}, (∀ kv ∈ hs, HdrOk kv) → At m a (putHeaders hs ++ post) →
      readHeaders m hs.length a = .ok hs := by
  induction hs with
  | nil => intros; rfl
  | cons kv rest ih =>
    intro m post a hok h
    obtain ⟨k, v⟩ := kv
    obtain ⟨hk, hv⟩ : HdrOk (k, v) := hok _ List.mem_cons_self
    have h0 : At m a (beBytes 2 k.length ++ (k ++ (putBytes v ++ (putHeaders rest ++ post)))) := by
      simpa [putHeaders, putString] using h
    have h1 := h0.next (k := 2)
    have h2 := h1.next rfl
    have hneg : ¬ (((a + 2 + k.length + (putBytes v).length : Nat) : Int) < 0) := by omega
    simp only [List.length_cons, readHeaders, getUint16_be _ h0, Nat.mod_eq_of_lt hk, Res.bind_ok,
      slice_at h1 rfl, fieldBytes_putBytes hv h2, hneg, if_false, Int.toNat_natCast,
      ih (fun kv h => hok kv (List.mem_cons_of_mem _ h)) (h2.next rfl)]

/-- The cursor after the CRC, magic byte and attributes. -/
theorem encode_at (crc : Bytes → Nat) (m : WireMsg) : At (encode crc m) 6
    (putBytes m.key ++ (putBytes m.val ++ (beBytes 2 m.hdrs.length ++ (putHeaders m.hdrs ++ [])))) := by
  have := At.intro (beBytes 4 (crc (encodeBody m)) ++ [m.magic, m.attrs])
    (putBytes m.key ++ (putBytes m.val ++ (beBytes 2 m.hdrs.length ++ (putHeaders m.hdrs ++ [])))) (a := 6)
  simpa [encode, encodeBody] using this

theorem WF.hdrOk {m : WireMsg} (h : WF m) : ∀ kv ∈ m.hdrs, HdrOk kv := by
  intro kv hkv
  have := h.2.2.2 kv hkv
  exact ⟨by have := this.1; omega, this.2⟩

theorem key_encode' (crc : Bytes → Nat) (m : WireMsg) (hk : Log.bytesLen m.key < 2 ^ 31) :
    key (encode crc m) = .ok m.key := by
  unfold key
  rw [fieldBytes_putBytes hk (encode_at crc m)]
  rfl

theorem value_encode' (crc : Bytes → Nat) (m : WireMsg) (hk : Log.bytesLen m.key < 2 ^ 31)
    (hv : Log.bytesLen m.val < 2 ^ 31) : value (encode crc m) = .ok m.val := by
  have hneg : ¬ (((6 + (putBytes m.key).length : Nat) : Int) < 0) := by omega
  unfold value
  simp only [fieldOffsets_putBytes hk (encode_at crc m), Res.bind_ok, hneg, if_false, Int.toNat_natCast,
    fieldBytes_putBytes hv ((encode_at crc m).next rfl)]

/-- `headers` runs the header loop with the stored count, i.e. `hdrs.length` modulo `2^16`. -/
theorem headers_encode_count (crc : Bytes → Nat) (m : WireMsg) (hk : Log.bytesLen m.key < 2 ^ 31)
    (hv : Log.bytesLen m.val < 2 ^ 31) :
    headers (encode crc m) = readHeaders (encode crc m) (m.hdrs.length % 2 ^ 16)
      (6 + (putBytes m.key).length + (putBytes m.val).length + 2) := by
  have h1 := (encode_at crc m).next rfl
  have hneg : ¬ (((6 + (putBytes m.key).length : Nat) : Int) < 0) := by omega
  have hneg2 : ¬ (((6 + (putBytes m.key).length + (putBytes m.val).length : Nat) : Int) < 0) := by omega
  unfold headers
  simp only [fieldOffsets_putBytes hk (encode_at crc m), fieldOffsets_putBytes hv h1, Res.bind_ok, hneg, hneg2,
    if_false, Int.toNat_natCast, getUint16_be _ (h1.next rfl)]

/-- Only the decoder-side bounds are needed (`HdrOk`: header keys `< 2^16`). -/
theorem headers_encode' (crc : Bytes → Nat) (m : WireMsg) (hk : Log.bytesLen m.key < 2 ^ 31)
    (hv : Log.bytesLen m.val < 2 ^ 31) (hn : m.hdrs.length < 2 ^ 16)
    (hh : ∀ kv ∈ m.hdrs, HdrOk kv) : headers (encode crc m) = .ok m.hdrs := by
  rw [headers_encode_count crc m hk hv, Nat.mod_eq_of_lt hn]
  exact readHeaders_putHeaders m.hdrs hh ((((encode_at crc m).next rfl).next rfl).next (k := 2))

/-- A header count that is a multiple of `2^16` is stored as 0: no header is read back. -/
theorem headers_encode_wrap (crc : Bytes → Nat) (m : WireMsg) (hk : Log.bytesLen m.key < 2 ^ 31)
    (hv : Log.bytesLen m.val < 2 ^ 31) (hn : m.hdrs.length % 2 ^ 16 = 0) :
    headers (encode crc m) = .ok [] := by
  rw [headers_encode_count crc m hk hv, hn]
  rfl

theorem byteArray_toList_loop_length (bs : ByteArray) (i : Nat) (r : List UInt8) :
    (ByteArray.toList.loop bs i r).length = r.length + (bs.size - i) := by
  fun_induction ByteArray.toList.loop bs i r with
  | case1 i r h ih => rw [ih]; simp only [List.length_cons]; omega
  | case2 i r h => simp only [List.length_reverse]; omega

theorem byteArray_toList_length (bs : ByteArray) : bs.toList.length = bs.size := by
  simp [ByteArray.toList, byteArray_toList_loop_length]

theorem toUTF8_toList_length (s : String) : s.toUTF8.toList.length = s.utf8ByteSize := by
  rw [byteArray_toList_length]; rfl

theorem putHeaders_length (hs : List (Bytes × Option Bytes)) :
    (putHeaders hs).length = (hs.map fun kv => 2 + kv.1.length + 4 + Log.bytesLen kv.2).sum := by
  induction hs with
  | nil => rfl
  | cons kv rest ih =>
    obtain ⟨k, v⟩ := kv
    simp only [putHeaders, List.length_append, putString_length, putBytes_length, ih,
      List.map_cons, List.sum_cons]
    omega

theorem encode_length_wire (crc : Bytes → Nat) (m : WireMsg) :
    (encode crc m).length = 4 + 1 + 1 + (4 + Log.bytesLen m.key) + (4 + Log.bytesLen m.val) + 2 +
      (m.hdrs.map fun kv => 2 + kv.1.length + 4 + Log.bytesLen kv.2).sum := by
  simp only [encode, encodeBody, List.length_append, beBytes_length, putBytes_length,
    putHeaders_length, List.length_cons, List.length_nil]
  omega

/-- `n` copies of the smallest header (empty key, nil value). -/
def wrapMsg (n : Nat) : WireMsg :=
  { magic := 1, attrs := 0, key := none, val := none, hdrs := List.replicate n ([], none) }

end Liftbridge.Proofs.Codec
