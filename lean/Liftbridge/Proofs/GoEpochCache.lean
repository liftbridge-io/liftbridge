/-
The `_body` lemmas (GoMiniRun.lean) of the leader-epoch cache's functions: what a translated caller
(Props/GoEpochCache.lean, Props/GoAppend.lean) rewrites a call with. The
filter loops of `ClearLatest` / `ClearEarliest` are stated by what they leave in the variables they write.
-/
import Liftbridge.Proofs.GoCodeBase
import Liftbridge.Gen.GoEpochCache
import Liftbridge.Proofs.Epochs

namespace Liftbridge.Props.GoEpochCache
open Liftbridge Liftbridge.GoMini Liftbridge.Log Liftbridge.GoCode
open Liftbridge.Gen.GoEpochCache


@[simp] theorem lk_earliestOffset : evalE.lookup' "earliestOffset" prog = some fn_leaderEpochCache_earliestOffset := by simp [prog, gomini]
@[simp] theorem lk_latestEpoch : evalE.lookup' "latestEpoch" prog = some fn_leaderEpochCache_latestEpoch := by simp [prog, gomini]
@[simp] theorem lk_latestOffset : evalE.lookup' "latestOffset" prog = some fn_leaderEpochCache_latestOffset := by simp [prog, gomini]
@[simp] theorem lk_findEpoch : evalE.lookup' "findEpoch" prog = some fn_leaderEpochCache_findEpoch := by simp [prog, gomini]
@[simp] theorem lk_assign : evalE.lookup' "assign" prog = some fn_leaderEpochCache_assign := by simp [prog, gomini]
@[simp] theorem lk_Assign : evalE.lookup' "Assign" prog = some fn_leaderEpochCache_Assign := by simp [prog, gomini]
@[simp] theorem lk_LastLeaderEpoch : evalE.lookup' "LastLeaderEpoch" prog = some fn_leaderEpochCache_LastLeaderEpoch := by simp [prog, gomini]
@[simp] theorem lk_LastOffsetForLeaderEpoch :
    evalE.lookup' "LastOffsetForLeaderEpoch" prog = some fn_leaderEpochCache_LastOffsetForLeaderEpoch := by simp [prog, gomini]
@[simp] theorem lk_ClearLatest : evalE.lookup' "ClearLatest" prog = some fn_leaderEpochCache_ClearLatest := by simp [prog, gomini]
@[simp] theorem lk_ClearEarliest : evalE.lookup' "ClearEarliest" prog = some fn_leaderEpochCache_ClearEarliest := by simp [prog, gomini]
@[simp] theorem lk_flush : evalE.lookup' "flush" prog = none := by simp [prog, gomini]
@[simp] theorem lk_warn : evalE.lookup' "warn" prog = none := by simp [prog, gomini]

@[simp] theorem recv_latestEpoch : fn_leaderEpochCache_latestEpoch.recv = some "l" ∧ fn_leaderEpochCache_latestEpoch.params = [] := ⟨rfl, rfl⟩
@[simp] theorem recv_latestOffset : fn_leaderEpochCache_latestOffset.recv = some "l" ∧ fn_leaderEpochCache_latestOffset.params = [] := ⟨rfl, rfl⟩
@[simp] theorem recv_earliestOffset : fn_leaderEpochCache_earliestOffset.recv = some "l" ∧ fn_leaderEpochCache_earliestOffset.params = [] := ⟨rfl, rfl⟩
@[simp] theorem recv_findEpoch : fn_leaderEpochCache_findEpoch.recv = some "l" ∧ fn_leaderEpochCache_findEpoch.params = ["epoch"] := ⟨rfl, rfl⟩
@[simp] theorem recv_assign : fn_leaderEpochCache_assign.recv = some "l" ∧ fn_leaderEpochCache_assign.params = ["epoch", "offset"] := ⟨rfl, rfl⟩
@[simp] theorem recv_Assign : fn_leaderEpochCache_Assign.recv = some "l" ∧ fn_leaderEpochCache_Assign.params = ["epoch", "offset"] := ⟨rfl, rfl⟩
@[simp] theorem recv_LastLeaderEpoch :
    fn_leaderEpochCache_LastLeaderEpoch.recv = some "l" ∧ fn_leaderEpochCache_LastLeaderEpoch.params = [] := ⟨rfl, rfl⟩

/-! The accessors: a caller that has unfolded `encCache` uses them through `simp only [encCache] at`. -/

theorem latestEpoch_body (n : Nat) (c : Epochs) (eff : List (String × List Val)) :
    runBlock (exec prog noExt (n + 8)) fn_leaderEpochCache_latestEpoch.body { env := envOf [("l", encCache c)], eff := eff } =
      .ok (.ret [.int c.latestEpoch], { env := envOf [("l", encCache c)], eff := eff }) := by
  rcases List.eq_nil_or_concat c with rfl | ⟨c', e, rfl⟩
  · rfl
  · simp [fn_leaderEpochCache_latestEpoch, gomini, encCache, binInt, Epochs.latestEpoch, encEpoch]

theorem latestOffset_body (n : Nat) (c : Epochs) (eff : List (String × List Val)) :
    runBlock (exec prog noExt (n + 8)) fn_leaderEpochCache_latestOffset.body { env := envOf [("l", encCache c)], eff := eff } =
      .ok (.ret [.int c.latestOffset], { env := envOf [("l", encCache c)], eff := eff }) := by
  rcases List.eq_nil_or_concat c with rfl | ⟨c', e, rfl⟩
  · rfl
  · simp [fn_leaderEpochCache_latestOffset, gomini, encCache, binInt, Epochs.latestOffset, encEpoch]

theorem earliestOffset_body (n : Nat) (c : Epochs) (eff : List (String × List Val)) :
    runBlock (exec prog noExt (n + 8)) fn_leaderEpochCache_earliestOffset.body { env := envOf [("l", encCache c)], eff := eff } =
      .ok (.ret [.int c.earliestOffset], { env := envOf [("l", encCache c)], eff := eff }) := by
  cases c <;> rfl

theorem getElem?_enc (c : Epochs) (k : Nat) : (c.map encEpoch)[k]? = (c[k]?).map encEpoch := by simp

theorem encCache_drop (c : Epochs) (k : Nat) : (List.map encEpoch c).drop k = List.map encEpoch (c.drop k) := by
  simp [List.map_drop]

theorem earliestOffset_body_drop (n : Nat) (c : Epochs) (k : Nat) (eff : List (String × List Val)) :
    runBlock (exec prog noExt (n+8)) fn_leaderEpochCache_earliestOffset.body
        { env := envOf [("l", .struct [("epochOffsets", .list (List.drop k (List.map encEpoch c)))])], eff := eff } =
      .ok (.ret [.int (Epochs.earliestOffset (c.drop k))],
        { env := envOf [("l", .struct [("epochOffsets", .list (List.drop k (List.map encEpoch c)))])], eff := eff }) := by
  simpa [encCache, List.map_drop] using earliestOffset_body n (c.drop k) eff

/-- `LastLeaderEpoch()`: `latestEpoch()` under the read lock -/
theorem LastLeaderEpoch_body (n : Nat) (c : Epochs) (eff : List (String × List Val)) :
    ∃ st', runBlock (exec prog noExt (n + 12)) fn_leaderEpochCache_LastLeaderEpoch.body
        { env := envOf [("l", encCache c)], eff := eff } = .ok (.ret [.int c.latestEpoch], st') ∧
      st'.env "l" = some (encCache c) ∧ st'.eff = eff := by
  simp [fn_leaderEpochCache_LastLeaderEpoch, gomini, latestEpoch_body]

theorem assign_eq (c : Epochs) (epoch : Nat) (offset : Int) :
    c.assign epoch offset = if epoch > c.latestEpoch ∧ offset ≥ c.latestOffset then c ++ [(epoch, offset)] else c :=
  Proofs.Epochs.assign_eq c epoch offset

theorem assign_body (n : Nat) (c : Epochs) (epoch : Nat) (offset : Int) (eff : List (String × List Val)) :
    ∃ st', runBlock (exec prog noExt (n + 12)) fn_leaderEpochCache_assign.body
        { env := envOf [("l", encCache c), ("epoch", .int epoch), ("offset", .int offset)], eff := eff } = .ok (.ret [.nil], st') ∧
      st'.env "l" = some (encCache (c.assign epoch offset)) ∧
      st'.eff = eff ++ if epoch > c.latestEpoch ∧ offset ≥ c.latestOffset then [("flush", [])]
                       else [("warn", [.int epoch, .int c.latestEpoch, .int offset, .int c.latestOffset])] := by
  have he := @latestEpoch_body
  have ho := @latestOffset_body
  simp only [encCache] at he ho
  by_cases h1 : c.latestEpoch < epoch <;> by_cases h2 : c.latestOffset ≤ offset <;>
    simp [fn_leaderEpochCache_assign, gomini, he, ho, binInt, h1, h2, encCache, assign_eq, encEpoch]

/-- `Assign(epoch, offset)`: `assign` under the lock -/
theorem Assign_body (n : Nat) (c : Epochs) (epoch : Nat) (offset : Int) (eff : List (String × List Val)) :
    ∃ st', runBlock (exec prog noExt (n + 16)) fn_leaderEpochCache_Assign.body
        { env := envOf [("l", encCache c), ("epoch", .int epoch), ("offset", .int offset)], eff := eff } =
      .ok (.ret [.nil], st') ∧ st'.env "l" = some (encCache (c.assign epoch offset)) := by
  obtain ⟨st, h, hl, -⟩ := assign_body (n + 3) c epoch offset eff
  simp [fn_leaderEpochCache_Assign, gomini, h, hl]

theorem findEpoch_facts : Gen.Log.findEpochCmp = .ge := by decide

theorem findEpoch_body (n : Nat) (c : Epochs) (epoch : Nat) (eff : List (String × List Val)) :
    runBlock (exec prog noExt (n + 12)) fn_leaderEpochCache_findEpoch.body
        { env := envOf [("l", encCache c), ("epoch", .int epoch)], eff := eff } =
      .ok (.ret [match c.findEpoch epoch with | some e => encEpoch e | none => .nil],
        ({ env := envOf [("l", encCache c), ("epoch", .int epoch)], eff := eff } : St).set "i"
          (.int (goSearch c.length (fun i => match c[i]? with | some e => Gen.Log.findEpochCmp.evalNat e.1 epoch | none => true)))) := by
  simp [fn_leaderEpochCache_findEpoch, gomini, encCache]
  rw [search_eq c.length _ (fun i => match c[i]? with | some e => Gen.Log.findEpochCmp.evalNat e.1 epoch | none => true)]
  · simp only [Epochs.findEpoch]
    generalize goSearch c.length _ = j
    by_cases hlt : j < c.length <;> simp [hlt, gomini, binInt]
  · intro k hk
    simp [gomini, hk, encEpoch, binInt, findEpoch_facts, Cmp.evalNat]

theorem clearLatest_facts : Gen.Log.clearLatestSkipCmp = .gt ∧ Gen.Log.clearLatestKeepCmp = .lt := by decide

theorem clearEarliest_facts : Gen.Log.clearEarliestSkipCmp = .ge := by decide

theorem clearLatest_loop (n : Nat) (o : Int) : ∀ (xs : Epochs) (acc : List Val) (i : Nat) (st : St),
    st.env "filtered" = some (.list acc) → st.env "offset" = some (.int o) →
    ∃ st', runRange (runBlock (exec prog noExt (n + 6))
        [(.ite [] (.bin "<" (.sel (.var "epoch") "startOffset") (.var "offset"))
          [(.assign [(.var "filtered")] [(.call "append" [(.var "filtered"), (.var "epoch")])])] [])])
      none (some "epoch") i (xs.map encEpoch) st = .ok (.next, st') ∧
      st'.env "filtered" = some (.list (acc ++ (xs.filter fun e => e.2 < o).map encEpoch)) ∧ st'.eff = st.eff ∧
      ∀ y, y ≠ "filtered" → y ≠ "epoch" → st'.env y = st.env y := by
  intro xs
  induction xs with
  | nil => intro acc i st h _; exact ⟨st, rfl, by simpa using h, rfl, fun _ _ _ => rfl⟩
  | cons e rest ih =>
    intro acc i st h1 h2
    by_cases hlt : e.2 < o
    · obtain ⟨st', hr, hf, he, hfr⟩ := ih (acc ++ [encEpoch e]) (i + 1)
        ((st.set "epoch" (encEpoch e)).set "filtered" (.list (acc ++ [encEpoch e]))) (by simp [gomini]) (by simp [gomini, h2])
      refine ⟨st', ?_, by simpa [hlt] using hf, he, fun y hy1 hy2 => ?_⟩
      · simpa [gomini, encEpoch, h1, h2, binInt, hlt] using hr
      · simpa [gomini, hy1, hy2] using hfr y hy1 hy2
    · obtain ⟨st', hr, hf, he, hfr⟩ := ih acc (i + 1) (st.set "epoch" (encEpoch e)) (by simp [gomini, h1]) (by simp [gomini, h2])
      refine ⟨st', ?_, by simpa [hlt] using hf, he, fun y hy1 hy2 => ?_⟩
      · simpa [gomini, encEpoch, h1, h2, binInt, hlt] using hr
      · simpa [gomini, hy2] using hfr y hy1 hy2

theorem clearEarliest_loop (n : Nat) (o : Int) : ∀ (xs : Epochs) (acc : List Val) (k : Int) (i : Nat) (st : St),
    st.env "earliest" = some (.list acc) → st.env "removed" = some (.int k) → st.env "offset" = some (.int o) →
    ∃ st', runRange (runBlock (exec prog noExt (n + 6))
        [(.ite [] (.bin "<" (.sel (.var "epoch") "startOffset") (.var "offset"))
          [(.assign [(.var "earliest")] [(.call "append" [(.var "earliest"), (.var "epoch")])]),
           (.opAssign "+" (.var "removed") (.int 1))] [])])
      none (some "epoch") i (xs.map encEpoch) st = .ok (.next, st') ∧
      st'.env "earliest" = some (.list (acc ++ (xs.filter fun e => e.2 < o).map encEpoch)) ∧
      st'.env "removed" = some (.int (k + (xs.filter fun e => e.2 < o).length)) ∧ st'.eff = st.eff ∧
      ∀ y, y ≠ "earliest" → y ≠ "epoch" → y ≠ "removed" → st'.env y = st.env y := by
  intro xs
  induction xs with
  | nil => intro acc k i st h hk _; exact ⟨st, rfl, by simpa using h, by simpa using hk, rfl, fun _ _ _ _ => rfl⟩
  | cons e rest ih =>
    intro acc k i st h1 h2 h3
    by_cases hlt : e.2 < o
    · obtain ⟨st', hr, hf, hk, he, hfr⟩ := ih (acc ++ [encEpoch e]) (k + 1) (i + 1)
        (((st.set "epoch" (encEpoch e)).set "earliest" (.list (acc ++ [encEpoch e]))).set "removed" (.int (k + 1)))
        (by simp [gomini]) (by simp [gomini]) (by simp [gomini, h3])
      refine ⟨st', ?_, by simpa [hlt] using hf, ?_, he, fun y hy1 hy2 hy3 => ?_⟩
      · simpa [gomini, encEpoch, h1, h2, h3, binInt, hlt] using hr
      · rw [hk]; simp [hlt]; omega
      · simpa [gomini, hy1, hy2, hy3] using hfr y hy1 hy2 hy3
    · obtain ⟨st', hr, hf, hk, he, hfr⟩ := ih acc k (i + 1) (st.set "epoch" (encEpoch e))
        (by simp [gomini, h1]) (by simp [gomini, h2]) (by simp [gomini, h3])
      refine ⟨st', ?_, by simpa [hlt] using hf, by simpa [hlt] using hk, he, fun y hy1 hy2 hy3 => ?_⟩
      · simpa [gomini, encEpoch, h1, h2, h3, binInt, hlt] using hr
      · simpa [gomini, hy2] using hfr y hy1 hy2 hy3

end Liftbridge.Props.GoEpochCache
