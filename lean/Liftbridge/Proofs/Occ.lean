/- Helper lemmas for C16 (optimistic concurrency control). -/
import Liftbridge.Model.Log
import Liftbridge.Proofs.Log
namespace Liftbridge.Proofs.Occ
open Liftbridge Liftbridge.Log Liftbridge.Log.CLog Liftbridge.Proofs.Log

theorem occ_checkSplitIfWritable (l : CLog) : l.checkSplitIfWritable.occ = l.occ :=
  checkSplitIfWritable_keeps occ l (occ_checkSplit l)

theorem readonly_checkSplitIfWritable (l : CLog) : l.checkSplitIfWritable.readonly = l.readonly :=
  checkSplitIfWritable_keeps readonly l (readonly_checkSplit l)

theorem nextOffset_checkSplitIfWritable (l : CLog) :
    l.checkSplitIfWritable.nextOffset = l.nextOffset :=
  checkSplitIfWritable_keeps CLog.nextOffset l (nextOffset_checkSplit l)

theorem write_flags {l l' : CLog} {rs : List Rec} {offs : List Int}
    (h : l.write rs = .ok (l', offs)) : l'.occ = l.occ ∧ l'.readonly = l.readonly := by
  rw [write_eq l (write_ok_ne h)] at h
  cases h
  exact ⟨rfl, rfl⟩

theorem append_single_offs {l l' : CLog} {m : Msg} {offs : List Int}
    (ha : l.append [m] = .ok (l', offs)) : offs = [l.nextOffset] := by
  cases hro : l.readonly with
  | true => simp [append, hro] at ha
  | false =>
    rw [append_single l m hro] at ha
    split at ha
    · cases ha
    split at ha
    · cases ha
    rw [write_eq _ (by simp)] at ha
    cases ha
    rfl

/-! ### One publish (`Props.C16.publish` is this function) -/

def pub (l : CLog) (m : Msg) : CLog × Res Int :=
  match l.append [m] with
  | .ok (l', offs) => (l', match offs with | [o] => .ok o | _ => .panic)
  | .err e => (l.checkSplitIfWritable, .err e)
  | .panic => (l, .panic)

def runP : CLog → List Msg → List (Msg × Res Int)
  | _, [] => []
  | l, m :: ms => let (l', r) := pub l m; (m, r) :: runP l' ms

def finalP : CLog → List Msg → CLog
  | l, [] => l
  | l, m :: ms => finalP (pub l m).1 ms

theorem runP_cons (l : CLog) (m : Msg) (ms : List Msg) :
    runP l (m :: ms) = (m, (pub l m).2) :: runP (pub l m).1 ms := rfl

theorem pub_snd (l : CLog) (m : Msg) : (pub l m).2 =
    if l.readonly = true then .err "readonly"
    else if m.body.encodable = false then .err "encode"
    else if Refused l m then .err "incorrect-offset"
    else .ok l.nextOffset := by
  unfold pub
  cases hro : l.readonly with
  | true => simp [append, hro]
  | false =>
    rw [append_single l m hro]
    by_cases henc : m.body.encodable = false
    · simp [henc]
    by_cases hr : Refused l m
    · simp [henc, hr]
    · simp [henc, hr, write_eq, mkRec]

theorem pub_err {l : CLog} {m : Msg} {e : String} (hp : (pub l m).2 = .err e) :
    (pub l m).1 = l.checkSplitIfWritable ∧
    (pub l m).1.abs = l.abs ∧ (pub l m).1.nextOffset = l.nextOffset := by
  have : (pub l m).1 = l.checkSplitIfWritable := by
    unfold pub at hp ⊢
    split at hp
    · rename_i offs _
      obtain _ | ⟨o, _ | _⟩ := offs <;> cases hp
    · rfl
    · cases hp
  rw [this]
  exact ⟨rfl, abs_checkSplitIfWritable l, nextOffset_checkSplitIfWritable l⟩

theorem pub_ok {l : CLog} {m : Msg} {o : Int} (hp : (pub l m).2 = .ok o) :
    o = l.nextOffset ∧ ¬ Refused l m ∧ l.readonly = false ∧ m.body.encodable = true := by
  rw [pub_snd] at hp
  split at hp
  · cases hp
  split at hp
  · cases hp
  split at hp
  · cases hp
  cases hp
  simp_all

theorem pub_ok_state {l : CLog} {m : Msg} {o : Int} (h : Inv l) (hp : (pub l m).2 = .ok o) :
    Inv (pub l m).1 ∧ (pub l m).1.abs = l.abs ++ [mkRec o m] ∧
    (pub l m).1.nextOffset = l.nextOffset + 1 ∧
    (pub l m).1.occ = l.occ ∧ (pub l m).1.readonly = l.readonly := by
  obtain ⟨rfl, hnr, hro, henc⟩ := pub_ok hp
  obtain ⟨l', hw⟩ : ∃ l', l.checkSplit.write [mkRec l.nextOffset m] = .ok (l', [l.nextOffset]) :=
    ⟨_, write_eq _ (by simp)⟩
  have hpe : (pub l m).1 = l' := by simp [pub, append_single l m hro, henc, hnr, hw]
  rw [hpe]
  have hi := inv_checkSplit h
  have hinv := inv_write hi (List.pairwise_singleton _ _)
    (by simp [mkRec, nextOffset_checkSplit]) hw
  have habs := (write_spec hi.nonempty hw).1
  rw [abs_checkSplit] at habs
  have hfl := write_flags hw
  rw [occ_checkSplit, readonly_checkSplit] at hfl
  refine ⟨hinv, habs, ?_, hfl⟩
  rw [nextOffset_last hinv (r := mkRec l.nextOffset m) (by rw [habs]; simp)]
  rfl

theorem pub_not_panic (l : CLog) (m : Msg) : (pub l m).2 ≠ .panic := by
  rw [pub_snd]
  split
  · simp
  split
  · simp
  split <;> simp

theorem pub_inv (l : CLog) (m : Msg) (h : Inv l) :
    Inv (pub l m).1 ∧ (pub l m).1.occ = l.occ ∧ (pub l m).1.readonly = l.readonly := by
  cases hp : (pub l m).2 with
  | ok o => exact ⟨(pub_ok_state h hp).1, (pub_ok_state h hp).2.2.2⟩
  | err e =>
    rw [(pub_err hp).1]
    exact ⟨inv_checkSplitIfWritable h, occ_checkSplitIfWritable l, readonly_checkSplitIfWritable l⟩
  | panic => exact absurd hp (pub_not_panic l m)

theorem pub_next_le (l : CLog) (m : Msg) (h : Inv l) : l.nextOffset ≤ (pub l m).1.nextOffset := by
  cases hp : (pub l m).2 with
  | ok o => rw [(pub_ok_state h hp).2.2.1]; omega
  | err e => rw [(pub_err hp).2.2]; exact Int.le_refl _
  | panic => exact absurd hp (pub_not_panic l m)

theorem mem_runP {ms : List Msg} {l : CLog} (h : Inv l) {pr : Msg × Res Int} (hpr : pr ∈ runP l ms) :
    pr.1 ∈ ms ∧
    ∃ l', Inv l' ∧ l'.occ = l.occ ∧ l'.readonly = l.readonly ∧ pr.2 = (pub l' pr.1).2 := by
  induction ms generalizing l with
  | nil => simp [runP] at hpr
  | cons m ms ih =>
    rw [runP_cons, List.mem_cons] at hpr
    rcases hpr with rfl | hpr
    · exact ⟨List.mem_cons_self .., l, h, rfl, rfl, rfl⟩
    · obtain ⟨hinv, hocc, hro⟩ := pub_inv l m h
      obtain ⟨hm, l', h1, h2, h3, h4⟩ := ih hinv hpr
      exact ⟨List.mem_cons_of_mem _ hm, l', h1, h2.trans hocc, h3.trans hro, h4⟩

/-- The filter of `at_most_one_winner`. -/
def winner (e : Int) (pr : Msg × Res Int) : Bool := pr.2.isOk && decide (pr.1.expected = e)

theorem winner_at {l : CLog} {m : Msg} {e : Int} (he : e ≠ -1) (hocc : l.occ = true)
    (hw : winner e (m, (pub l m).2) = true) : e = l.nextOffset := by
  simp only [winner, Bool.and_eq_true, decide_eq_true_eq] at hw
  cases hp : (pub l m).2 with
  | ok o =>
    by_cases hc : m.expected = l.nextOffset
    · omega
    · exact absurd ⟨hocc, by omega, hc⟩ (pub_ok hp).2.1
  | err e' => simp [hp, Res.isOk] at hw
  | panic => simp [hp, Res.isOk] at hw

/-- Once the next offset is past `e`, nobody expecting `e` is stored any more. -/
theorem no_winner_after (ms : List Msg) (e : Int) (he : e ≠ -1) :
    ∀ (l : CLog), Inv l → l.occ = true → e < l.nextOffset → (runP l ms).filter (winner e) = [] := by
  induction ms with
  | nil => intro l _ _ _; rfl
  | cons m ms ih =>
    intro l h hocc hlt
    obtain ⟨hinv, hocc', _⟩ := pub_inv l m h
    have hle := pub_next_le l m h
    rw [runP_cons, List.filter_cons, ih (pub l m).1 hinv (hocc'.trans hocc) (by omega), if_neg]
    intro hw
    have := winner_at he hocc hw
    omega

theorem at_most_one (ms : List Msg) (e : Int) (he : e ≠ -1) :
    ∀ (l : CLog), Inv l → l.occ = true → ((runP l ms).filter (winner e)).length ≤ 1 := by
  induction ms with
  | nil => intro l _ _; simp [runP]
  | cons m ms ih =>
    intro l h hocc
    obtain ⟨hinv, hocc', _⟩ := pub_inv l m h
    have hocc'' : (pub l m).1.occ = true := hocc'.trans hocc
    rw [runP_cons, List.filter_cons]
    split
    · -- the winner moves the next offset past `e`
      rename_i hwin
      have hen := winner_at he hocc hwin
      obtain ⟨o, hp⟩ : ∃ o, (pub l m).2 = .ok o := by
        cases hp : (pub l m).2 <;> simp_all [winner, Res.isOk]
      rw [no_winner_after ms e he _ hinv hocc'' (by rw [(pub_ok_state h hp).2.2.1]; omega)]
      simp
    · exact ih _ hinv hocc''

def storedRec (pr : Msg × Res Int) : Option Rec :=
  match pr.2 with
  | .ok o => some { offset := o, ts := pr.1.ts, epoch := pr.1.epoch, body := pr.1.body }
  | _ => none

theorem stored_appended (ms : List Msg) :
    ∀ (l : CLog), Inv l → (finalP l ms).abs = l.abs ++ (runP l ms).filterMap storedRec := by
  induction ms with
  | nil => intro l _; simp [finalP, runP]
  | cons m ms ih =>
    intro l h
    show (finalP (pub l m).1 ms).abs = _
    rw [ih _ (pub_inv l m h).1, runP_cons, List.filterMap_cons]
    cases hp : (pub l m).2 with
    | ok o =>
      rw [(pub_ok_state h hp).2.1]
      simp [storedRec, mkRec]
    | err e' =>
      rw [(pub_err hp).2.1]
      simp [storedRec]
    | panic => exact absurd hp (pub_not_panic l m)

theorem batch_panics (l : CLog) (ms : List Msg) (hocc : l.occ = true) (hro : l.readonly = false)
    (hlen : 1 < ms.length) : l.append ms = .panic := by
  simp [append, hro, occ_checkSplit, hocc, Gen.Log.occBatchCmp, Cmp.evalNat, hlen]

end Liftbridge.Proofs.Occ
