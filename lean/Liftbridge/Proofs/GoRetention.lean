/-
Symbolic execution of the translated retention cleaner (Gen/GoRetention.lean, from
server/commitlog/delete_cleaner.go). Per loop of the Go code: a lemma for one pass of its body (the only place where
code is run) and a loop lemma in Hoare style by induction (final value of the variables the rest of the function reads
+ frame + effects), stated directly in the model's terms (`ageCnt`, `Retention.keepBack`). `applyMessagesLimit` and
`applyBytesLimit` are the same code up to three names: one proof, with the limit (`Lim`) as a parameter; likewise the
three statements of `Clean` that call the passes (`Pass`).
-/
import Liftbridge.Proofs.GoCodeBase
import Liftbridge.Gen.GoRetention
import Liftbridge.Proofs.Retention

namespace Liftbridge.Props.GoRetention
open Liftbridge Liftbridge.GoMini Liftbridge.GoCode Liftbridge.Log Liftbridge.Retention
open Liftbridge.Gen.GoRetention

def encSegs (segs : List Seg) : Val := .list (segs.map encSeg)

/-- `*deleteCleaner`: the retention limits (`c.Retention.{Bytes,Messages,Age}`) -/
def encC (lim : Limits) : Val :=
  .struct [("Retention", .struct [("Bytes", .int lim.bytes), ("Messages", .int lim.msgs), ("Age", .int lim.age)])]

/-- `computeTTL(age)` answers `ttl` (the clock is an input); `deleteSegments` succeeds (an effect yielding nil) -/
def retExt (ttl : Int) : Ext := fun f _ _ => if f = "computeTTL" then some (.int ttl) else none

theorem lk_none (f : String) (h : f ∉ ["noRetentionLimits", "applyMessagesLimit", "applyBytesLimit", "applyAgeLimit", "Clean"]) :
    evalE.lookup' f prog = none := by
  simp only [List.mem_cons, List.not_mem_nil, or_false, not_or] at h
  simp [prog, evalE.lookup', h]

theorem builtin_computeTTL (i : Int) : builtin "computeTTL" [.int i] = none := by simp [builtin, convert]

/-! ### the age limit -/

/-- number of leading segments the age loop deletes: not the last one, last write before the TTL -/
def ageCnt (ttl : Int) : List Seg → Nat
  | [] => 0
  | [_] => 0
  | s :: s' :: rest => if s.lastTs < ttl then ageCnt ttl (s' :: rest) + 1 else 0

theorem facts : Gen.Retention.ageCmp = .lt ∧ Gen.Retention.msgsCmp = .gt ∧ Gen.Retention.bytesCmp = .gt ∧
    Gen.Retention.ageOnCmp = .gt ∧ Gen.Retention.msgsOnCmp = .gt ∧ Gen.Retention.bytesOnCmp = .gt ∧
    Gen.Retention.ageSecondPass = true := by decide

theorem applyAge_eq_drop (ttl : Int) : ∀ segs : List Seg, applyAge ttl segs = segs.drop (ageCnt ttl segs)
  | [] => rfl
  | [_] => rfl
  | s :: s' :: rest => by
    by_cases h : s.lastTs < ttl
    · simp [applyAge, ageCnt, facts, Cmp.evalInt, h, applyAge_eq_drop ttl (s' :: rest)]
    · simp [applyAge, ageCnt, facts, Cmp.evalInt, h]

theorem ageCnt_lt (ttl : Int) : ∀ segs : List Seg, segs ≠ [] → ageCnt ttl segs < segs.length
  | [], h => absurd rfl h
  | [_], _ => by simp [ageCnt]
  | s :: s' :: rest, _ => by
    have := ageCnt_lt ttl (s' :: rest) (by simp)
    by_cases h : s.lastTs < ttl <;> simp [ageCnt, h] <;> simp at this <;> omega

/-- the value of `toDelete` (declared `var toDelete []*segment`, i.e. nil until the first append) -/
def tdVal (acc : List Val) : Val := if acc = [] then .nil else .list acc

@[simp] theorem asList_tdVal (acc : List Val) : asList (tdVal acc) = some acc := by
  unfold tdVal; split <;> simp_all [asList]
@[simp] theorem lenOf_tdVal (acc : List Val) : lenOf (tdVal acc) = some (Int.ofNat acc.length) := by
  unfold tdVal; split <;> simp_all [lenOf]
@[simp] theorem tdVal_append (acc : List Val) (v : Val) : tdVal (acc ++ [v]) = .list (acc ++ [v]) := by
  simp [tdVal]
@[simp] theorem tdVal_nil : tdVal [] = .nil := rfl

def ageBody : List Stmt := match fn_deleteCleaner_applyAgeLimit.body with
  | [_, _, _, _, .forRange _ _ _ b, _, _] => b
  | _ => []

theorem age_body (n : Nat) (ttl : Int) (ext : Ext) (L : List Val) (i : Nat) (s : Seg) (acc : List Val) (st : St)
    (hb : st.Binds [("i", .int i), ("seg", encSeg s), ("segments", .list L), ("ttl", .int ttl), ("toDelete", tdVal acc)]) :
    runBlock (exec prog ext (n + 8)) ageBody st =
      if (i : Int) ≠ L.length - 1 ∧ s.lastTs < ttl then .ok (.next, st.setAll [("toDelete", .list (acc ++ [encSeg s]))])
      else .ok (.brk, st.setAll [("idx", .int i)]) := by
  rw [← hb.setAll]
  by_cases h1 : (i : Int) = L.length - 1 <;> by_cases h2 : s.lastTs < ttl <;>
    simp [ageBody, fn_deleteCleaner_applyAgeLimit, gomini, St.setAll, binInt, encSeg, h1, h2]

theorem age_loop (n : Nat) (ttl : Int) (ext : Ext) (L : List Val) : ∀ (xs : List Seg) (i : Nat) (acc : List Val) (st : St),
    xs ≠ [] → i + xs.length = L.length → st.Binds [("segments", .list L), ("ttl", .int ttl), ("toDelete", tdVal acc)] →
    ∃ st', runRange (runBlock (exec prog ext (n+8)) ageBody) (some "i") (some "seg") i (xs.map encSeg) st = .ok (.next, st')
      ∧ st'.env "idx" = some (.int (i + ageCnt ttl xs : Nat))
      ∧ st'.env "toDelete" = some (tdVal (acc ++ (xs.take (ageCnt ttl xs)).map encSeg))
      ∧ (∀ y, y ≠ "i" → y ≠ "seg" → y ≠ "idx" → y ≠ "toDelete" → st'.env y = st.env y) ∧ st'.eff = st.eff := by
  intro xs
  induction xs with
  | nil => intro i acc st h; exact absurd rfl h
  | cons s rest ih =>
    intro i acc st _ hlen hb
    have hbody := age_body n ttl ext L i s acc ((st.set "i" (.int i)).set "seg" (encSeg s)) ⟨rfl, rfl, hb.1, hb.2.1, hb.2.2.1, trivial⟩
    rw [List.map_cons, runRange_cons]
    simp only [hbody]
    cases rest with
    | nil =>
      have hi : (i : Int) = L.length - 1 := by simp at hlen; omega
      rw [if_neg (fun h => h.1 hi)]
      exact ⟨_, rfl, rfl, by simpa [gomini, St.setAll, ageCnt] using hb.2.2.1, fun y h1 h2 h3 _ => by simp [gomini, St.setAll, h1, h2, h3], rfl⟩
    | cons s' rest' =>
      have hi : (i : Int) ≠ L.length - 1 := by simp at hlen; omega
      by_cases hlt : s.lastTs < ttl
      · rw [if_pos ⟨hi, hlt⟩]
        obtain ⟨st', h, h1, h2, h3, h4⟩ := ih (i + 1) (acc ++ [encSeg s])
          (((st.set "i" (.int i)).set "seg" (encSeg s)).setAll [("toDelete", .list (acc ++ [encSeg s]))])
          (by simp) (by simp at hlen ⊢; omega) ⟨hb.1, hb.2.1, by simp [gomini, St.setAll], trivial⟩
        refine ⟨st', h, ?_, ?_, fun y y1 y2 y3 y4 => ?_, h4⟩
        · rw [h1]; simp [ageCnt, hlt]; omega
        · rw [h2]; simp [ageCnt, hlt]
        · rw [h3 y y1 y2 y3 y4]; simp [gomini, St.setAll, y1, y2, y4]
      · rw [if_neg (fun h => hlt h.2)]
        exact ⟨_, rfl, by simp [gomini, St.setAll, ageCnt, hlt], by simpa [gomini, St.setAll, ageCnt, hlt] using hb.2.2.1,
          fun y h1 h2 h3 _ => by simp [gomini, St.setAll, h1, h2, h3], rfl⟩

/-- the effects of one age pass: the clock is read (only when there is more than one segment), then ONE
`deleteSegments` call with exactly the dropped prefix, oldest first (none when nothing is dropped) -/
def ageEff (age ttl : Int) (segs : List Seg) : List (String × List Val) :=
  if segs.length ≤ 1 then [] else
    ("computeTTL", [.int age]) ::
      (if ageCnt ttl segs = 0 then [] else [("deleteSegments", [encSegs (segs.take (ageCnt ttl segs))])])

def entry (lim : Limits) (segs : List Seg) (eff : List (String × List Val)) : St :=
  { env := envOf [("c", encC lim), ("segments", encSegs segs)], eff := eff }

theorem applyAge_body (F : Nat) (hF : 14 ≤ F) (lim : Limits) (ttl : Int) (segs : List Seg) (eff : List (String × List Val)) :
    ∃ st', runBlock (exec prog (retExt ttl) F) fn_deleteCleaner_applyAgeLimit.body (entry lim segs eff) =
      .ok (.ret [encSegs (applyAge ttl segs), .nil], st') ∧ st'.env "c" = some (encC lim) ∧
      st'.eff = eff ++ ageEff lim.age ttl segs := by
  obtain ⟨n, rfl⟩ : ∃ n, F = n + 14 := ⟨F - 14, by omega⟩
  refine Ends.body ?_
  rw [runBlock_ite_at 0 (body := fn_deleteCleaner_applyAgeLimit.body) rfl rfl rfl rfl]
  by_cases hlen : segs.length ≤ 1
  · have h1 : applyAge ttl segs = segs := by
      match segs, hlen with
      | [], _ => rfl
      | [_], _ => rfl
    rw [decide_eq_true (by simp; omega), h1]
    exact ⟨_, _, rfl, rfl, rfl, by simp [ageEff, hlen, entry]⟩
  · have hne : segs ≠ [] := by intro h; simp [h] at hlen
    -- up to the loop: the clock is read
    rw [decide_eq_false (by simp; omega), andThen_block rfl, runBlock_forRange_at 3 rfl rfl rfl]
    refine Ends.andThen (age_loop (n + 5) ttl (retExt ttl) (segs.map encSeg) segs 0 [] _ hne (by simp) (by exact ⟨rfl, rfl, rfl, trivial⟩))
      fun st2 ⟨h1, h2, h3, h4⟩ => ?_
    -- after the loop: the collected segments are deleted, the others returned
    have hk := ageCnt_lt ttl segs hne
    have hidx : st2.env "idx" = some (.int (ageCnt ttl segs)) := by simpa using h1
    have htd : st2.env "toDelete" = some (tdVal ((segs.take (ageCnt ttl segs)).map encSeg)) := by simpa using h2
    have hseg : st2.env "segments" = some (encSegs segs) := h3 _ (by decide) (by decide) (by decide) (by decide)
    have hc : st2.env "c" = some (encC lim) := h3 _ (by decide) (by decide) (by decide) (by decide)
    have htk : (segs.map encSeg).take segs.length = segs.map encSeg := List.take_of_length_le (by simp)
    rw [applyAge_eq_drop]
    by_cases hz : ageCnt ttl segs = 0
    · simp [gomini, hidx, htd, hseg, hc, encSegs, binInt, hz, htk, h4, ageEff, hlen, entry]
    · have htd' : tdVal ((segs.map encSeg).take (ageCnt ttl segs)) = .list ((segs.map encSeg).take (ageCnt ttl segs)) := by
        simp [tdVal, hz, hne]
      have hpos : 0 < min (ageCnt ttl segs) segs.length := by omega
      have hk' : ((ageCnt ttl segs : Int) ≤ (segs.length : Int)) := by omega
      simp [gomini, hidx, htd, hseg, hc, encSegs, binInt, htd', hpos, hk', htk, encC, retExt, lk_none, h4, ageEff, hlen, hz, entry]

/-! ### the count / size limits -/

/-- the two limits that are applied from the newest segment backwards -/
inductive Lim | msgs | bytes

namespace Lim
def fn : Lim → Func
  | msgs => fn_deleteCleaner_applyMessagesLimit
  | bytes => fn_deleteCleaner_applyBytesLimit
def total : Lim → String
  | msgs => "totalMessages"
  | bytes => "totalBytes"
def size : Lim → Seg → Int
  | msgs => msgSize
  | bytes => byteSize
def limit (lim : Limits) : Lim → Int
  | msgs => lim.msgs
  | bytes => lim.bytes
def keepBody (p : Lim) : List Stmt := match p.fn.body with
  | [_, _, _, _, _, .forC _ _ _ b, _, _] => b
  | _ => []
end Lim

def keepVars (p : Lim) (i total : Int) (cl segs : List Seg) (lim : Limits) : List (String × Val) :=
  [("i", .int i), (p.total, .int total), ("cleanedSegments", .list (cl.map encSeg)), ("segments", encSegs segs), ("c", encC lim)]

/-- the test and the post statement of the two backward loops `for …; i > -1; i--` -/
theorem down_test (n : Nat) (ext : Ext) (st : St) (i : Int) (h : st.env "i" = some (.int i)) :
    evalE prog ext (runBlock (exec prog ext (n + 3))) (n + 3) (.bin ">" (.var "i") (.int (-1))) st = .ok (.bool (decide (-1 < i)), st) := by
  rw [← St.Binds.setAll (st := st) (bs := [("i", .int i)]) ⟨h, trivial⟩]
  rfl

theorem down_post (n : Nat) (ext : Ext) (st : St) (i : Int) (h : st.env "i" = some (.int i)) :
    runBlock (exec prog ext (n + 3)) [.opAssign "-" (.var "i") (.int 1)] st = .ok (.next, st.set "i" (.int (i - 1))) := by
  rw [← St.Binds.setAll (st := st) (bs := [("i", .int i)]) ⟨h, trivial⟩]
  rfl

theorem keep_body (p : Lim) (n : Nat) (ext : Ext) (lim : Limits) (segs : List Seg) (k : Nat) (hk : k < segs.length) (total : Int)
    (cl : List Seg) (st : St) (hb : st.Binds (keepVars p k total cl segs lim)) :
    runBlock (exec prog ext (n + 8)) p.keepBody st =
      if p.limit lim < total + p.size segs[k] then
        .ok (.brk, st.setAll [("s", encSeg segs[k]), (p.total, .int (total + p.size segs[k]))])
      else .ok (.next, st.setAll [("s", encSeg segs[k]), (p.total, .int (total + p.size segs[k])),
        ("cleanedSegments", .list ((segs[k] :: cl).map encSeg))]) := by
  have hsk : (segs.map encSeg)[k]? = some (encSeg segs[k]) := by simp [hk]
  rw [← hb.setAll]
  split <;> rename_i hgt <;> cases p <;> simp only [Lim.size, Lim.limit, msgSize, byteSize] at hgt <;>
    simp [Lim.keepBody, Lim.fn, Lim.total, Lim.size, fn_deleteCleaner_applyMessagesLimit, fn_deleteCleaner_applyBytesLimit,
      gomini, St.setAll, keepVars, binInt, encSegs, hsk, encC, encSeg, lk_none, msgSize, byteSize, spliceLast, hgt]

theorem take_succ_reverse (segs : List Seg) (k : Nat) (h : k < segs.length) :
    (segs.take (k + 1)).reverse = segs[k] :: (segs.take k).reverse := by
  rw [List.take_add_one, List.getElem?_eq_getElem h]; simp

/-- the keep loop from `i = k - 1` computes the model's `keepBack` over the first `k` segments, walked backwards -/
theorem keep_loop (p : Lim) (n : Nat) (ext : Ext) (lim : Limits) (segs : List Seg) :
    ∀ (k m : Nat) (total : Int) (cl : List Seg) (st : St), k ≤ segs.length → k < m →
    st.Binds (keepVars p (k - 1) total cl segs lim) →
    ∃ st', runFor (forCond prog ext (n + 8) (.bin ">" (.var "i") (.int (-1)))) (runBlock (exec prog ext (n + 8)) p.keepBody)
        (runBlock (exec prog ext (n + 8)) [(.opAssign "-" (.var "i") (.int 1))]) m st = .ok (.next, st')
      ∧ st'.env "i" = some (.int ((k : Int) - 1 - (keepBack .gt (p.limit lim) p.size (segs.take k).reverse total).length))
      ∧ st'.env "cleanedSegments" = some (.list (((keepBack .gt (p.limit lim) p.size (segs.take k).reverse total).reverse ++ cl).map encSeg))
      ∧ (∀ y, y ≠ "i" → y ≠ "s" → y ≠ p.total → y ≠ "cleanedSegments" → st'.env y = st.env y) ∧ st'.eff = st.eff := by
  intro k
  induction k with
  | zero =>
    intro m total cl st _ hm hb
    obtain ⟨m', rfl⟩ : ∃ m', m = m' + 1 := ⟨m - 1, by omega⟩
    exact ⟨st, runFor_exit (forCond_known (down_test _ ext st _ hb.1)), by simpa [keepBack] using hb.1, by simpa [keepBack] using hb.2.2.1,
      fun _ _ _ _ _ => rfl, rfl⟩
  | succ k ih =>
    intro m total cl st hk hm hb
    obtain ⟨m', rfl⟩ : ∃ m', m = m' + 1 := ⟨m - 1, by omega⟩
    have hi : st.env "i" = some (.int (k : Int)) := by simpa using hb.1
    have hklt : k < segs.length := by omega
    have hcond := forCond_known (down_test (n + 5) ext st k hi)
    rw [decide_eq_true (by omega)] at hcond
    have hbody := keep_body p n ext lim segs k hklt total cl st ⟨hi, hb.2⟩
    rw [take_succ_reverse segs k hklt]
    by_cases hgt : p.limit lim < total + p.size segs[k]
    · -- the segment does not fit: `break`
      rw [if_pos hgt] at hbody
      refine ⟨_, runFor_break hcond hbody, ?_, ?_, fun y _ y2 y3 _ => ?_, rfl⟩
      · cases p <;> simp [keepBack, Cmp.evalInt, hgt, gomini, St.setAll, hi, Lim.total]
      · cases p <;> simpa [keepBack, Cmp.evalInt, hgt, gomini, St.setAll, Lim.total] using hb.2.2.1
      · simp [gomini, St.setAll, y2, y3]
    · -- it fits: it is kept and the loop goes on
      rw [if_neg hgt] at hbody
      obtain ⟨st', h, h1, h2, h3, h4⟩ := ih m' (total + p.size segs[k]) (segs[k] :: cl)
        ((st.setAll [("s", encSeg segs[k]), (p.total, .int (total + p.size segs[k])),
          ("cleanedSegments", .list ((segs[k] :: cl).map encSeg))]).set "i" (.int ((k : Int) - 1))) (by omega) (by omega)
        (by cases p <;> exact ⟨rfl, rfl, rfl, hb.2.2.2.1, hb.2.2.2.2.1, trivial⟩)
      refine ⟨st', (runFor_step hcond hbody (down_post _ ext _ k (by cases p <;> exact hi))).trans h, ?_, ?_, fun y y1 y2 y3 y4 => ?_, ?_⟩
      · rw [h1]; simp [keepBack, Cmp.evalInt, hgt]; omega
      · rw [h2]; simp [keepBack, Cmp.evalInt, hgt]
      · rw [h3 y y1 y2 y3 y4]; simp [gomini, St.setAll, y1, y2, y3, y4]
      · rw [h4]; rfl

def delBody : List Stmt :=
  [(.assign [(.var "toDelete")] [(.call "append" [(.var "toDelete"), (.idx (.var "segments") (.var "i"))])])]

theorem del_body (n : Nat) (ext : Ext) (segs : List Seg) (k : Nat) (hk : k < segs.length) (acc : List Val) (st : St)
    (hb : st.Binds [("i", .int k), ("toDelete", .list acc), ("segments", encSegs segs)]) :
    runBlock (exec prog ext (n + 6)) delBody st = .ok (.next, st.setAll [("toDelete", .list (acc ++ [encSeg segs[k]]))]) := by
  have hsk : (segs.map encSeg)[k]? = some (encSeg segs[k]) := by simp [hk]
  rw [← hb.setAll]
  simp [delBody, gomini, St.setAll, encSegs, hsk]

theorem del_loop (N : Nat) (hN : 6 ≤ N) (ext : Ext) (segs : List Seg) :
    ∀ (k m : Nat) (acc : List Val) (st : St),
    k ≤ segs.length → k < m → st.env "i" = some (.int ((k : Int) - 1)) → st.env "toDelete" = some (.list acc) →
    st.env "segments" = some (encSegs segs) →
    ∃ st', runFor (forCond prog ext N (.bin ">" (.var "i") (.int (-1)))) (runBlock (exec prog ext N) delBody)
        (runBlock (exec prog ext N) [(.opAssign "-" (.var "i") (.int 1))]) m st = .ok (.next, st')
      ∧ st'.env "i" = some (.int (-1))
      ∧ st'.env "toDelete" = some (.list (acc ++ (segs.take k).reverse.map encSeg))
      ∧ (∀ y, y ≠ "i" → y ≠ "toDelete" → st'.env y = st.env y) ∧ st'.eff = st.eff := by
  obtain ⟨n, rfl⟩ : ∃ n, N = n + 6 := ⟨N - 6, by omega⟩
  intro k
  induction k with
  | zero =>
    intro m acc st _ hm hi htd hs
    obtain ⟨m', rfl⟩ : ∃ m', m = m' + 1 := ⟨m - 1, by omega⟩
    exact ⟨st, runFor_exit (forCond_known (down_test _ ext st _ hi)), by simpa using hi, by simpa using htd, fun _ _ _ => rfl, rfl⟩
  | succ k ih =>
    intro m acc st hk hm hi htd hs
    obtain ⟨m', rfl⟩ : ∃ m', m = m' + 1 := ⟨m - 1, by omega⟩
    have hi : st.env "i" = some (.int (k : Int)) := by simpa using hi
    have hklt : k < segs.length := by omega
    have hcond := forCond_known (down_test (n + 3) ext st k hi)
    rw [decide_eq_true (by omega)] at hcond
    obtain ⟨st', h, h0, h1, h2, h3⟩ := ih m' (acc ++ [encSeg segs[k]])
      ((st.setAll [("toDelete", .list (acc ++ [encSeg segs[k]]))]).set "i" (.int ((k : Int) - 1)))
      (by omega) (by omega) rfl rfl hs
    refine ⟨st', (runFor_step hcond (del_body n ext segs k hklt acc st ⟨hi, htd, hs, trivial⟩) (down_post _ ext _ k hi)).trans h,
      h0, ?_, fun y y1 y2 => ?_, h3⟩
    · rw [h1, take_succ_reverse segs k hklt]; simp
    · rw [h2 y y1 y2]; simp [gomini, St.setAll, y1, y2]

theorem applyLimit_concat (cmp : Cmp) (limit : Int) (size : Seg → Int) (init : List Seg) (last : Seg) :
    applyLimit cmp limit size (init ++ [last]) = (keepBack cmp limit size init.reverse (size last)).reverse ++ [last] := by
  simpa using Proofs.Retention.applyLimit_rev cmp limit size last init.reverse

theorem keepBack_length_le (cmp : Cmp) (limit : Int) (size : Seg → Int) (xs : List Seg) (total : Int) :
    (keepBack cmp limit size xs total).length ≤ xs.length := by
  induction xs generalizing total with
  | nil => simp [keepBack]
  | cons s rest ih => simp only [keepBack]; split <;> simp [ih]

theorem applyLimit_length_le (cmp : Cmp) (limit : Int) (size : Seg → Int) (segs : List Seg) :
    (applyLimit cmp limit size segs).length ≤ segs.length := by
  obtain ⟨r, rfl⟩ : ∃ r, segs = r.reverse := ⟨segs.reverse, by simp⟩
  cases r with
  | nil => simp [applyLimit]
  | cons last revInit => simpa [applyLimit] using keepBack_length_le cmp limit size revInit (size last)

/-- the effects of a count / size pass: ONE `deleteSegments` call with the dropped prefix, NEWEST FIRST (the loop
walks backwards), none when nothing is dropped -/
def limitEff (kept segs : List Seg) : List (String × List Val) :=
  if segs.length - kept.length = 0 then [] else
    [("deleteSegments", [encSegs (segs.take (segs.length - kept.length)).reverse])]

/-- the statements that delete what the keep loop left over (the same in both functions) -/
def dropB : List Stmt := match fn_deleteCleaner_applyMessagesLimit.body with
  | [_, _, _, _, _, _, .ite _ _ t _, _] => t
  | _ => []

theorem applyLimit_body (p : Lim) (F : Nat) (ttl : Int) (lim : Limits) (segs : List Seg) (hF : segs.length + 12 ≤ F)
    (eff : List (String × List Val)) :
    ∃ st', runBlock (exec prog (retExt ttl) F) p.fn.body (entry lim segs eff) =
      .ok (.ret [encSegs (applyLimit .gt (p.limit lim) p.size segs), .nil], st') ∧ st'.env "c" = some (encC lim) ∧
      st'.eff = eff ++ limitEff (applyLimit .gt (p.limit lim) p.size segs) segs := by
  obtain ⟨n, rfl⟩ : ∃ n, F = n + segs.length + 12 := ⟨F - segs.length - 12, by omega⟩
  refine Ends.body ?_
  by_cases hlen : segs.length ≤ 1
  · have h1 : applyLimit .gt (p.limit lim) p.size segs = segs := by
      match segs, hlen with
      | [], _ => rfl
      | [_], _ => rfl
    have hleni : ((segs.length : Int) ≤ 1) := by omega
    cases p <;> simp [Lim.fn, fn_deleteCleaner_applyMessagesLimit, fn_deleteCleaner_applyBytesLimit, entry, gomini, encSegs, binInt, hleni, h1, limitEff]
  · obtain ⟨init, last, rfl⟩ : ∃ init last, segs = init ++ [last] := by
      rcases List.eq_nil_or_concat segs with h | ⟨i, l, h⟩
      · simp [h] at hlen
      · exact ⟨i, l, by simpa using h⟩
    rw [List.length_append, List.length_singleton] at hlen ⊢
    have hlen' : ¬ ((init.length : Int) + 1 ≤ 1) := by omega
    -- up to the keep loop: the last segment is always kept
    let st1 : St := (entry lim (init ++ [last]) eff).setAll [("lastSeg", encSeg last), ("cleanedSegments", .list [encSeg last]),
      (p.total, .int (p.size last)), ("i", .int 0)]
    have h0 : runBlock (exec prog (retExt ttl) (n + (init.length + 1) + 12)) (p.fn.body.take 5) (entry lim (init ++ [last]) eff) = .ok (.next, st1) := by
      cases p <;>
        simp [st1, Lim.fn, Lim.total, Lim.size, fn_deleteCleaner_applyMessagesLimit, fn_deleteCleaner_applyBytesLimit, entry, gomini, St.setAll, encSegs, binInt, hlen', encSeg, lk_none, msgSize, byteSize] <;> rfl
    -- the keep loop, from the segment before the last one
    rw [runBlock_forC_at 5 (lbody := p.keepBody) (rest := p.fn.body.drop 6)
        (st1 := st1.set "i" (.int (((init ++ [last]).map encSeg).length - 2))) h0 (by cases p <;> rfl) (by cases p <;> rfl)]
    refine Ends.andThen (keep_loop p (n + (init.length + 1) + 3) (retExt ttl) lim (init ++ [last]) init.length
      (n + (init.length + 1) + 11) (p.size last) [last] _
      (by simp) (by omega) (by cases p <;> exact ⟨by simp [gomini]; omega, rfl, rfl, rfl, rfl, trivial⟩)) fun st2 ⟨h1, h2, h3, h4⟩ => ?_
    simp only [List.take_left'] at h1 h2
    have hkb := keepBack_length_le .gt (p.limit lim) p.size init.reverse (p.size last)
    have hc : st2.env "c" = some (encC lim) := by cases p <;> exact h3 "c" (by decide) (by decide) (by decide) (by decide)
    have hs : st2.env "segments" = some (encSegs (init ++ [last])) := by cases p <;> exact h3 "segments" (by decide) (by decide) (by decide) (by decide)
    rw [applyLimit_concat]
    generalize keepBack .gt (p.limit lim) p.size init.reverse (p.size last) = kb at *
    simp only [List.length_reverse] at hkb
    -- what is left of the function: `if i > -1 { … }` deletes the segments before the kept ones
    rw [show p.fn.body.drop 6 = [.ite [] (.bin ">" (.var "i") (.int (-1))) dropB [], .ret [.var "cleanedSegments", .nil]] from by
        cases p <;> rfl,
      runBlock_cons, exec_ite_eq rfl (down_test _ _ st2 _ h1)]
    by_cases hall : kb.length = init.length
    · -- everything is kept
      rw [decide_eq_false (by omega), ← St.Binds.setAll (st := st2) (bs := [("cleanedSegments", _), ("c", _)]) ⟨h2, hc, trivial⟩]
      exact ⟨_, _, rfl, rfl, rfl, by simp [h4, limitEff, hall, st1, entry, gomini, St.setAll]⟩
    · -- the oldest `d` segments are dropped: they are collected newest first and handed to `deleteSegments`
      rw [decide_eq_true (by omega), if_pos rfl, runBlock_forC_at 1 (lbody := delBody) rfl rfl rfl]
      refine Ends.andThen₂ (del_loop (n + (init.length + 1) + 10) (by omega) (retExt ttl) (init ++ [last])
        (init.length - kb.length) (n + (init.length + 1) + 10) [] _
        (by simp; omega) (by omega) (by simp [gomini, h1]; omega) (by rfl) hs) fun st3 ⟨_, g1, g2, g3⟩ => ?_
      rw [← St.Binds.setAll (st := st3) (bs := [("c", encC lim),
        ("toDelete", .list (((init ++ [last]).take (init.length - kb.length)).reverse.map encSeg)),
        ("cleanedSegments", .list ((kb.reverse ++ [last]).map encSeg))])
        ⟨(g2 _ (by decide) (by decide)).trans hc, by simpa using g1, (g2 _ (by decide) (by decide)).trans h2, trivial⟩]
      have hd : ¬ (init.length - kb.length = 0) := by omega
      exact ⟨_, _, rfl, rfl, rfl, by simp [gomini, g3, h4, limitEff, hd, st1, entry, St.setAll, encSegs]⟩

inductive Pass
  | age
  | lim (p : Lim)

namespace Pass
/-- the configured limit: the pass runs iff it is positive -/
def on (lim : Limits) : Pass → Int
  | age => lim.age
  | .lim p => p.limit lim
def fn : Pass → Func
  | age => fn_deleteCleaner_applyAgeLimit
  | .lim p => p.fn
def apply (lim : Limits) (ttl : Int) : Pass → List Seg → List Seg
  | age => applyAge ttl
  | .lim p => applyLimit .gt (p.limit lim) p.size
def eff (lim : Limits) (ttl : Int) : Pass → List Seg → List (String × List Val)
  | age => ageEff lim.age ttl
  | .lim p => fun segs => limitEff (applyLimit .gt (p.limit lim) p.size segs) segs
/-- the fuel the pass needs beyond a constant: only the keep and delete loops of a limit pass recurse with the list -/
def fuel : Pass → List Seg → Nat
  | age, _ => 0
  | .lim _, segs => segs.length
/-- the statement of `Clean` that runs the pass when its limit is set -/
def stmt (q : Pass) : Stmt :=
  match fn_deleteCleaner_Clean.body, q with
  | [_, _, _, _, a, _, _, _, _], age => a
  | [_, _, _, _, _, m, _, _, _], .lim .msgs => m
  | [_, _, _, _, _, _, b, _, _], .lim .bytes => b
  | _, _ => .skip ""
end Pass

theorem lk_age : evalE.lookup' "applyAgeLimit" prog = some fn_deleteCleaner_applyAgeLimit := by simp [prog, gomini]
theorem lk_msgs : evalE.lookup' "applyMessagesLimit" prog = some fn_deleteCleaner_applyMessagesLimit := by simp [prog, gomini]
theorem lk_bytes : evalE.lookup' "applyBytesLimit" prog = some fn_deleteCleaner_applyBytesLimit := by simp [prog, gomini]
theorem sig_age : fn_deleteCleaner_applyAgeLimit.recv = some "c" ∧ fn_deleteCleaner_applyAgeLimit.params = ["segments"] := ⟨rfl, rfl⟩
theorem sig_msgs : fn_deleteCleaner_applyMessagesLimit.recv = some "c" ∧ fn_deleteCleaner_applyMessagesLimit.params = ["segments"] := ⟨rfl, rfl⟩
theorem sig_bytes : fn_deleteCleaner_applyBytesLimit.recv = some "c" ∧ fn_deleteCleaner_applyBytesLimit.params = ["segments"] := ⟨rfl, rfl⟩

theorem pass_body (q : Pass) (F : Nat) (ttl : Int) (lim : Limits) (segs : List Seg) (hF : q.fuel segs + 14 ≤ F)
    (eff : List (String × List Val)) :
    ∃ st', runBlock (exec prog (retExt ttl) F) q.fn.body (entry lim segs eff) =
      .ok (.ret [encSegs (q.apply lim ttl segs), .nil], st') ∧ st'.env "c" = some (encC lim) ∧ st'.eff = eff ++ q.eff lim ttl segs :=
  match q, hF with
  | .age, hF => applyAge_body F (Nat.le_of_add_left_le hF) lim ttl segs eff
  | .lim p, hF => applyLimit_body p F ttl lim segs (Nat.le_trans (by simp [Pass.fuel]) hF) eff

theorem pass_stmt (q : Pass) (F : Nat) (lim : Limits) (ttl : Int) (cur : List Seg) (hF : q.fuel cur + 20 ≤ F) (st : St)
    (hc : st.env "c" = some (encC lim)) (hs : st.env "segments" = some (encSegs cur)) :
    ∃ st', exec prog (retExt ttl) F q.stmt st = .ok (.next, st') ∧ st'.env "c" = some (encC lim) ∧
      st'.env "segments" = some (encSegs (if q.on lim > 0 then q.apply lim ttl cur else cur)) ∧
      st'.eff = st.eff ++ (if q.on lim > 0 then q.eff lim ttl cur else []) := by
  obtain ⟨n, rfl⟩ : ∃ n, F = n + 20 := ⟨F - 20, by omega⟩
  by_cases h : q.on lim > 0
  · obtain ⟨s', b, bc, be⟩ := pass_body q (n + 18) ttl lim cur (by omega) st.eff
    refine ⟨((({ st with eff := s'.eff } : St).set "c" (encC lim)).set "segments" (encSegs (q.apply lim ttl cur))).set "err" .nil,
      ?_, rfl, by simp [gomini, h], by simp [gomini, be, h]⟩
    rcases q with _ | _ | _ <;> simp only [Pass.on, Lim.limit] at h <;> simp only [Pass.fn, Lim.fn, entry, encC] at b bc <;>
      simp [Pass.stmt, fn_deleteCleaner_Clean, gomini, hc, hs, encC, binInt, h, lk_age, lk_msgs, lk_bytes, sig_age,
        sig_msgs, sig_bytes, b, bc]
  · refine ⟨st, ?_, hc, by simp [h, hs], by simp [h]⟩
    rcases q with _ | _ | _ <;> simp only [Pass.on, Lim.limit] at h <;>
      simp [Pass.stmt, fn_deleteCleaner_Clean, gomini, hc, encC, binInt, h]
end Liftbridge.Props.GoRetention
