/-
What a sequence `x >>= f` in `Res` answers, by outcome. Core Lean only.
-/
import Liftbridge.Base

namespace Liftbridge.Res

theorem bind_eq_ok {α β} {x : Res α} {f : α → Res β} {b : β} :
    x >>= f = .ok b ↔ ∃ a, x = .ok a ∧ f a = .ok b := by
  cases x <;> simp

theorem bind_eq_panic {α β} {x : Res α} {f : α → Res β} :
    x >>= f = .panic ↔ x = .panic ∨ ∃ a, x = .ok a ∧ f a = .panic := by
  cases x <;> simp

/-- If `x'` and `f'` differ from `x` and `f` only where these panic, so do the sequences. -/
theorem bind_conservative {α β} {x x' : Res α} {f f' : α → Res β} (hx : x ≠ .panic → x' = x)
    (hf : ∀ a, f a ≠ .panic → f' a = f a) (h : x >>= f ≠ .panic) : x' >>= f' = x >>= f := by
  cases x with
  | panic => exact absurd rfl h
  | err e => rw [hx (by simp)]; rfl
  | ok a => rw [hx (by simp)]; exact hf a h

end Liftbridge.Res
