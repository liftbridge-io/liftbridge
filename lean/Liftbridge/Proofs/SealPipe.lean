/-
Helper lemmas about the seal / deliver pipeline (Model/SealPipe.lean), generic in the site
tables. The property theorems, instantiated with the regenerated tables, are in
Props/C17Pipe.lean. Core Lean only.
-/
import Liftbridge.Model.SealPipe

namespace Liftbridge.SealPipe
open Liftbridge

/-- A site with all three facts does exactly `Seal`: stores its result, drops on error. -/
theorem ingest_good (s : IngestSite) (h : (s.guarded && s.seals && s.errSkips) = true)
    (c : Codec) (r : Nat) (v : Bytes) : ingest s true c r v = c.doSeal r v := by
  simp only [Bool.and_eq_true] at h
  obtain ⟨⟨hg, hs⟩, he⟩ := h
  unfold ingest
  simp only [hg, hs, he, Bool.and_self, if_true]
  cases c.doSeal r v <;> rfl

/-- A site without the guard or without the replacement stores the value as received. -/
theorem ingest_unsealed (s : IngestSite) (h : (s.guarded && s.seals) = false)
    (enc : Bool) (c : Codec) (r : Nat) (v : Bytes) : ingest s enc c r v = some v := by
  unfold ingest
  rw [Bool.and_assoc, h]
  simp

/-- Without encryption every site stores the value as received. -/
theorem ingest_plain (s : IngestSite) (c : Codec) (r : Nat) (v : Bytes) :
    ingest s false c r v = some v := by
  simp [ingest]

theorem allSeal_mem {sites : List IngestSite} (h : allSeal sites = true) {s : IngestSite}
    (hs : s ∈ sites) : (s.guarded && s.seals && s.errSkips) = true :=
  List.all_eq_true.1 h s hs

def DeliverSite.Good (d : DeliverSite) : Prop :=
  d.guarded = true ∧ d.reads = true ∧ d.deliversRead = true ∧ d.errReports = true ∧ d.errEnds = true

theorem allRead_mem {ds : List DeliverSite} (h : allRead ds = true) {d : DeliverSite}
    (hd : d ∈ ds) : d.Good := by
  have := List.all_eq_true.1 h d hd
  simp only [Bool.and_eq_true] at this
  obtain ⟨⟨⟨⟨a, b⟩, c⟩, e⟩, f⟩ := this
  exact ⟨a, b, c, e, f⟩

theorem resToOption_eq_some {α} {r : Res α} {a : α} : resToOption r = some a ↔ r = .ok a := by
  cases r <;> simp [resToOption]

theorem ofCrypto_doRead_err {k : Seal.Crypto} {dek b : Bytes} {nonce : Nat → Bytes}
    (h : ∃ e, Seal.read k b = .err e) : (ofCrypto k dek nonce).doRead b = none := by
  obtain ⟨e, he⟩ := h
  simp [ofCrypto, he, resToOption]

theorem storePairs_cons_good {sites : List IngestSite} (h : allSeal sites = true) (c : Codec) (r : Nat)
    (p : Pub) (ps : List Pub) :
    storePairs sites true c r (p :: ps) =
      ((sites[p.site]?.bind fun _ => c.doSeal r p.value).map (p.value, ·)).toList ++
        storePairs sites true c (r + 1) ps := by
  rw [storePairs]
  cases hs : sites[p.site]? with
  | none => rfl
  | some s =>
    simp only [ingest_good s (allSeal_mem h (List.mem_of_getElem? hs)), Option.bind_some]
    cases c.doSeal r p.value <;> rfl

/-- Every pair in the log of an encrypted partition whose sites all seal is
(published value, an output of `Seal` on that value), and the value was published. -/
theorem storePairs_sealed (sites : List IngestSite) (h : allSeal sites = true) (c : Codec) :
    ∀ (ps : List Pub) (r : Nat) (vx : Bytes × Bytes), vx ∈ storePairs sites true c r ps →
      (∃ r', c.doSeal r' vx.1 = some vx.2) ∧ ∃ p ∈ ps, p.value = vx.1 := by
  intro ps
  induction ps with
  | nil => intro r vx hvx; cases hvx
  | cons p ps ih =>
    intro r vx hvx
    rw [storePairs_cons_good h, List.mem_append, Option.mem_toList, Option.map_eq_some_iff] at hvx
    rcases hvx with ⟨x, hx, rfl⟩ | hvx
    · obtain ⟨_, _, hseal⟩ := Option.bind_eq_some_iff.1 hx
      exact ⟨⟨r, hseal⟩, p, List.mem_cons_self, rfl⟩
    · obtain ⟨a, q, hq, hv⟩ := ih _ _ hvx
      exact ⟨a, q, List.mem_cons_of_mem _ hq, hv⟩

/-- When `Seal` never fails and every publish is taken at an existing site, nothing is lost on
the way into the log: the published values of the stored pairs are the published values. -/
theorem storePairs_complete (sites : List IngestSite) (h : allSeal sites = true) (c : Codec)
    (htotal : ∀ r v, (c.doSeal r v).isSome = true) :
    ∀ (ps : List Pub) (r : Nat), (∀ p ∈ ps, p.site < sites.length) →
      (storePairs sites true c r ps).map Prod.fst = ps.map Pub.value := by
  intro ps
  induction ps with
  | nil => intro r _; rfl
  | cons p ps ih =>
    intro r hsite
    obtain ⟨x, hseal⟩ := Option.isSome_iff_exists.1 (htotal r p.value)
    rw [storePairs_cons_good h, List.getElem?_eq_getElem (hsite p List.mem_cons_self), Option.bind_some,
      hseal, List.map_append, ih (r + 1) fun q hq => hsite q (List.mem_cons_of_mem _ hq)]
    rfl

theorem subscribe_cons_good {d : DeliverSite} (h : d.Good) (c : Codec) (s : Bytes) (rest : List Bytes) :
    subscribe d true c (s :: rest) = match c.doRead s with
      | some p => ⟨p :: (subscribe d true c rest).delivered, (subscribe d true c rest).ending⟩
      | none => ⟨[], .error⟩ := by
  obtain ⟨a, b, e, f, g⟩ := h
  simp only [subscribe, deliverStep, a, b, e, f, g, Bool.and_self, if_true]
  cases c.doRead s <;> rfl

theorem subscribe_append_readable {d : DeliverSite} (h : d.Good) (c : Codec) (tail : List Bytes) :
    ∀ (pre : List (Bytes × Bytes)), (∀ vx ∈ pre, c.doRead vx.2 = some vx.1) →
      subscribe d true c (pre.map Prod.snd ++ tail) =
        ⟨pre.map Prod.fst ++ (subscribe d true c tail).delivered, (subscribe d true c tail).ending⟩ := by
  intro pre
  induction pre with
  | nil => intro _; rfl
  | cons vx rest ih =>
    intro hr
    simp only [List.map_cons, List.cons_append, subscribe_cons_good h, hr vx List.mem_cons_self,
      ih fun y hy => hr y (List.mem_cons_of_mem _ hy)]

theorem subscribe_readable {d : DeliverSite} (h : d.Good) (c : Codec) (pairs : List (Bytes × Bytes))
    (hr : ∀ vx ∈ pairs, c.doRead vx.2 = some vx.1) :
    subscribe d true c (pairs.map Prod.snd) = ⟨pairs.map Prod.fst, .waiting⟩ := by
  simpa [subscribe] using subscribe_append_readable h c [] pairs hr

/-- The first value that does not decrypt ends the subscription with an error status: what
came before is delivered, nothing of what follows. -/
theorem subscribe_bad {d : DeliverSite} (h : d.Good) (c : Codec) (bad : Bytes) (post : List Bytes)
    (hbad : c.doRead bad = none) (pre : List (Bytes × Bytes))
    (hr : ∀ vx ∈ pre, c.doRead vx.2 = some vx.1) :
    subscribe d true c (pre.map Prod.snd ++ bad :: post) = ⟨pre.map Prod.fst, .error⟩ := by
  simpa [subscribe_cons_good h, hbad] using subscribe_append_readable h c (bad :: post) pre hr

/-- For ANY log: the subscriber gets the decryptions of a prefix of the log, one per stored
value and in order; either that prefix is the whole log and the subscription is still waiting,
or the value right after it does not decrypt and the subscription ended with an error. Never a
gap, never a silent end. -/
theorem subscribe_prefix {d : DeliverSite} (h : d.Good) (c : Codec) : ∀ (log : List Bytes),
    ∃ k, k ≤ log.length ∧
      (subscribe d true c log).delivered.map some = (log.take k).map c.doRead ∧
      (((subscribe d true c log).ending = .waiting ∧ k = log.length) ∨
       ((subscribe d true c log).ending = .error ∧ ∃ hk : k < log.length, c.doRead log[k] = none)) := by
  intro log
  induction log with
  | nil => exact ⟨0, Nat.le_refl _, rfl, Or.inl ⟨rfl, rfl⟩⟩
  | cons s rest ih =>
    rw [subscribe_cons_good h]
    cases hs : c.doRead s with
    | none => exact ⟨0, Nat.zero_le _, rfl, Or.inr ⟨rfl, by simp, by simpa using hs⟩⟩
    | some p =>
      obtain ⟨k, hk, hdel, hend⟩ := ih
      refine ⟨k + 1, by simpa using hk, by simp only [List.map_cons, List.take_succ_cons, hs, hdel], ?_⟩
      rcases hend with ⟨he, hk'⟩ | ⟨he, hk', hb⟩
      · exact Or.inl ⟨he, by simp [hk']⟩
      · exact Or.inr ⟨he, by simpa using hk', by simpa using hb⟩

end Liftbridge.SealPipe
