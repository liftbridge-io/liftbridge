/-
What holds of the metadata state machine (Model/Metadata.lean) for EVERY op, state and history, live or in recovery
mode: no propose-time check, no invariant, nothing about consumer groups.  The observable streams evolve by a function
of their own (`obsStreams_applyOp`), so do the visible names; one step can do three things to the stream names and the
data directories (`allNames_disk_applyOp`); `LInv` / `RInv` are what a live / a replaying server keeps of them.
Props/C06 (4), (5) (data directories) and the `streams` clause of the simulation rest on this file alone.
-/
import Liftbridge.Model.Metadata
import Liftbridge.Proofs.Lists

namespace Liftbridge.Proofs.Metadata
open Liftbridge Liftbridge.Metadata

/-! ## streams -/

def nt (st : Stream) : Bool := !st.tombstone

def obsStreams (s : State) : List StreamObs := (s.streams.filter nt).map obsStream

theorem obs_eq (s : State) : obs s = { streams := obsStreams s, groups := s.groups.map obsGroup } := rfl

def updO (l : List StreamObs) (n : String) (f : StreamObs → StreamObs) : List StreamObs :=
  l.map fun st => if st.name = n then f st else st

def updPO (ps : List PartObs) (sel : PartObs → Bool) (f : PartObs → PartObs) : List PartObs :=
  ps.map fun p => if sel p then f p else p

def selIdsO (ids : List Nat) (p : PartObs) : Bool := ids.isEmpty || ids.contains p.id

def pauseO (p : PartObs) : PartObs := { p with paused := true, reportedPaused := true }
def resumeO (cfg : Cfg) (p : PartObs) : PartObs :=
  { p with paused := false, reportedPaused := if cfg.clearPaused then false else p.reportedPaused,
           readonly := cfg.restoreReadonly && p.reportedReadonly }
def roO (ro : Bool) (p : PartObs) : PartObs := { p with readonly := ro, reportedReadonly := ro }
def shrinkO (r : String) (idx : Nat) (p : PartObs) : PartObs :=
  if Gen.Metadata.shrinkEpochGuard.evalNat p.epoch idx then p else { p with isr := p.isr.filter (· ≠ r), epoch := idx }
def expandO (r : String) (idx : Nat) (p : PartObs) : PartObs :=
  if Gen.Metadata.expandEpochGuard.evalNat p.epoch idx then p
  else { p with isr := if p.isr.contains r then p.isr else p.isr ++ [r], epoch := idx }
def leaderO (l : String) (idx : Nat) (p : PartObs) : PartObs :=
  if Gen.Metadata.leaderEpochGuard.evalNat p.epoch idx then p else { p with leader := l, leaderEpoch := idx, epoch := idx }

/-- The transition of the observable streams. -/
def stepO (cfg : Cfg) (op : Op) (idx : Nat) (l : List StreamObs) : List StreamObs :=
  match op with
  | .create sp => l.filter (·.name ≠ sp.name) ++ [obsStream (mkStream cfg (stamp sp idx) false)]
  | .delete n => l.filter (·.name ≠ n)
  | .pause n ids _ => updO l n fun st => { st with parts := updPO st.parts (selIdsO ids) pauseO }
  | .resume n ids => updO l n fun st => { st with parts := updPO st.parts (fun p => ids.contains p.id && p.paused) (resumeO cfg) }
  | .readonly n ids ro => updO l n fun st => { st with parts := updPO st.parts (selIdsO ids) (roO ro) }
  | .shrink n pid r => updO l n fun st => { st with parts := updPO st.parts (·.id = pid) (shrinkO r idx) }
  | .expand n pid r => updO l n fun st => { st with parts := updPO st.parts (·.id = pid) (expandO r idx) }
  | .leader n pid ld => updO l n fun st => { st with parts := updPO st.parts (·.id = pid) (leaderO ld idx) }
  | _ => l

theorem obsStreams_updParts (ss : List Stream) (n : String) (ra : Stream → Bool) {sel : Part → Bool} {g : Part → Part}
    {selO : PartObs → Bool} {gO : PartObs → PartObs}
    (hsel : ∀ p, sel p = selO (obsPart p)) (hg : ∀ p, obsPart (g p) = gO (obsPart p)) :
    ((updStream ss n fun st => { st with parts := updParts st.parts sel g, resumeAll := ra st }).filter nt).map obsStream =
      updO ((ss.filter nt).map obsStream) n fun o => { o with parts := updPO o.parts selO gO } := by
  unfold updStream
  rw [filter_map_of_inv nt _ (fun st => by split <;> rfl)]
  refine map_ite_map obsStream (·.name = n) (·.name = n) _ _ (fun _ => Iff.rfl) (fun st => ?_) _
  exact congrArg (StreamObs.mk st.name st.subject st.ctime)
    (map_ite_map obsPart (sel · = true) (selO · = true) g gO (fun p => by rw [hsel]) hg st.parts)

theorem obsStream_mk (cfg : Cfg) (sp : StreamP) (r : Bool) :
    obsStream (mkStream cfg sp r) = obsStream (mkStream cfg sp false) := by
  simp [obsStream, mkStream, obsPart, mkPart, List.map_map, Function.comp_def]

theorem filter_nt_filter_name (ss : List Stream) (n : String) :
    ((ss.filter (fun st => decide (st.name ≠ n))).filter nt).map obsStream =
      ((ss.filter nt).map obsStream).filter (fun o => decide (o.name ≠ n)) := by
  rw [List.filter_map, List.filter_filter, List.filter_filter]
  congr 1
  exact List.filter_congr fun st _ => Bool.and_comm _ _

/-- Tombstoning a stream hides it, exactly like deleting it. -/
theorem obsStreams_tomb (ss : List Stream) (n : String) :
    ((updStream ss n fun st => { st with tombstone := true }).filter nt).map obsStream =
      ((ss.filter nt).map obsStream).filter (fun o => decide (o.name ≠ n)) := by
  rw [← filter_nt_filter_name]
  congr 1
  induction ss with
  | nil => rfl
  | cons st ss ih =>
    -- the head is the stream `n`, hidden on both sides, or a stream left alone
    by_cases h : st.name = n
    · simpa [updStream, h, nt] using ih
    · cases ht : st.tombstone <;> simpa [updStream, h, nt, ht] using ih

/-- **The observable streams evolve by `stepO`, whether the op is applied live or in recovery mode.** -/
theorem obsStreams_applyOp (cfg : Cfg) (s : State) (op : Op) (idx : Nat) (r : Bool) :
    obsStreams (applyOp cfg s op idx r) = stepO cfg op idx (obsStreams s) := by
  cases op with
  | create sp =>
    simp only [applyOp, addStream, obsStreams, stepO]
    rw [List.filter_append, List.map_append, filter_nt_filter_name]
    have : [mkStream cfg (stamp sp idx) r].filter nt = [mkStream cfg (stamp sp idx) r] := by
      simp [nt, mkStream]
    rw [this, List.map_singleton, obsStream_mk]
    rfl
  | delete n =>
    cases r with
    | true => exact obsStreams_tomb s.streams n
    | false => exact filter_nt_filter_name s.streams n
  | pause n ids ra => exact obsStreams_updParts _ n _ (fun _ => rfl) (fun _ => rfl)
  | resume n ids => exact obsStreams_updParts _ n _ (selO := fun p => ids.contains p.id && p.paused) (fun _ => rfl) (fun _ => rfl)
  | readonly n ids ro => exact obsStreams_updParts _ n _ (fun _ => rfl) (fun _ => rfl)
  | shrink n pid rp => exact obsStreams_updParts _ n _ (selO := fun p => decide (p.id = pid)) (fun _ => rfl) (fun p => apply_ite obsPart ..)
  | expand n pid rp => exact obsStreams_updParts _ n _ (selO := fun p => decide (p.id = pid)) (fun _ => rfl) (fun p => apply_ite obsPart ..)
  | leader n pid ld => exact obsStreams_updParts _ n _ (selO := fun p => decide (p.id = pid)) (fun _ => rfl) (fun p => apply_ite obsPart ..)
  | group | join | leave | coord | activity | unknown => rfl

/-! ## names, tombstones, data directories -/

def allNames (s : State) : List String := s.streams.map (·.name)

def NoTomb (s : State) : Prop := ∀ st ∈ s.streams, st.tombstone = false

theorem names_eq (s : State) : names s = (obsStreams s).map (·.name) := by
  unfold names obsStreams
  rw [List.map_map]
  rfl

theorem mem_names {s : State} {x : String} :
    x ∈ names s ↔ ∃ st ∈ s.streams, st.tombstone = false ∧ st.name = x := by
  simp [names, and_assoc]

theorem mem_tombNames {s : State} {x : String} :
    x ∈ tombNames s ↔ ∃ st ∈ s.streams, st.tombstone = true ∧ st.name = x := by
  simp [tombNames, and_assoc]

theorem allNames_perm (s : State) : (tombNames s ++ names s).Perm (allNames s) := by
  rw [tombNames, names, ← List.map_append]
  exact (List.filter_append_perm (·.tombstone) s.streams).map _

theorem mem_allNames {s : State} {x : String} : x ∈ allNames s ↔ x ∈ names s ∨ x ∈ tombNames s := by
  rw [← (allNames_perm s).mem_iff, List.mem_append, or_comm]

theorem filter_nt {s : State} (h : NoTomb s) : s.streams.filter nt = s.streams :=
  List.filter_eq_self.2 fun st hst => by simp [nt, h st hst]

theorem names_eq_allNames {s : State} (h : NoTomb s) : names s = allNames s :=
  congrArg (List.map Stream.name) (filter_nt h)

theorem hasStream_iff {s : State} {n : String} : hasStream s n = true ↔ n ∈ allNames s := by
  simp [hasStream, allNames]

theorem live_not_tomb {s : State} (hnd : (allNames s).Nodup) {x : String}
    (hx : x ∈ names s) : x ∉ tombNames s := fun ht =>
  (List.nodup_append.1 ((allNames_perm s).nodup_iff.2 hnd)).2.2 x ht x hx rfl

theorem mem_updStream {ss : List Stream} {n : String} {f : Stream → Stream} {x : Stream}
    (hx : x ∈ updStream ss n f) : ∃ st ∈ ss, (st.name ≠ n ∧ x = st) ∨ (st.name = n ∧ x = f st) := by
  obtain ⟨st, hst, rfl⟩ := List.mem_map.1 hx
  exact ⟨st, hst, by by_cases h : st.name = n <;> simp [h]⟩

theorem mem_updParts {ps : List Part} {sel : Part → Bool} {g : Part → Part} {p : Part}
    (hp : p ∈ updParts ps sel g) : ∃ p0 ∈ ps, p = p0 ∨ p = g p0 := by
  obtain ⟨p0, h0, rfl⟩ := List.mem_map.1 hp
  exact ⟨p0, h0, by split <;> simp⟩

theorem map_name_updStream (ss : List Stream) (n : String) (f : Stream → Stream)
    (h : ∀ st, (f st).name = st.name) : (updStream ss n f).map (·.name) = ss.map (·.name) :=
  map_ite_inv (·.name) _ f (fun st _ => h st) ss

theorem tombNames_updStream (s : State) (n : String) (f : Stream → Stream)
    (hn : ∀ st, (f st).name = st.name) (ht : ∀ st, (f st).tombstone = st.tombstone) :
    tombNames { s with streams := updStream s.streams n f } = tombNames s := by
  simp only [tombNames, updStream]
  rw [filter_map_of_inv _ _ fun st => by split; exact ht st; rfl]
  exact map_name_updStream _ n f hn

theorem allNames_disk_applyOp (cfg : Cfg) (s : State) (op : Op) (idx : Nat) (r : Bool) :
    (∃ sp, op = .create sp ∧ allNames (applyOp cfg s op idx r) = (allNames s).filter (· ≠ sp.name) ++ [sp.name] ∧
        (applyOp cfg s op idx r).disk = (if s.disk.contains sp.name then s.disk else s.disk ++ [sp.name])) ∨
    (∃ n, op = .delete n ∧ r = false ∧ allNames (applyOp cfg s op idx r) = (allNames s).filter (· ≠ n) ∧
        (applyOp cfg s op idx r).disk = s.disk.filter (· ≠ n)) ∨
    (allNames (applyOp cfg s op idx r) = allNames s ∧ (applyOp cfg s op idx r).disk = s.disk) := by
  have hfil : ∀ n, (s.streams.filter fun st => decide (st.name ≠ n)).map (·.name) = (allNames s).filter (· ≠ n) :=
    fun n => by rw [allNames, List.filter_map]; rfl
  cases op with
  | create sp => exact Or.inl ⟨sp, rfl, by simp only [allNames, applyOp, addStream, List.map_append, hfil]; rfl, rfl⟩
  | delete n =>
    cases r with
    | true => exact Or.inr (Or.inr ⟨map_name_updStream _ _ _ (fun _ => rfl), rfl⟩)
    | false => exact Or.inr (Or.inl ⟨n, rfl, rfl, hfil n, rfl⟩)
  | pause | resume | readonly | shrink | expand | leader =>
    exact Or.inr (Or.inr ⟨map_name_updStream _ _ _ (fun _ => rfl), rfl⟩)
  | group | join | leave | coord | activity | unknown => exact Or.inr (Or.inr ⟨rfl, rfl⟩)

theorem nodup_filter_append (l : List String) (n : String) (h : l.Nodup) : (l.filter (· ≠ n) ++ [n]).Nodup := by
  rw [List.nodup_append]
  refine ⟨h.sublist List.filter_sublist, by simp, ?_⟩
  intro a ha b hb
  rw [List.mem_singleton.1 hb]
  exact of_decide_eq_true (List.mem_filter.1 ha).2

theorem mem_filter_append {l : List String} {n x : String} : x ∈ l.filter (· ≠ n) ++ [n] ↔ x = n ∨ x ∈ l := by
  by_cases h : x = n <;> simp [h]

theorem mem_addDisk {d : List String} {n x : String} :
    x ∈ (if d.contains n then d else d ++ [n]) ↔ x = n ∨ x ∈ d := by
  split
  · next hc => exact ⟨Or.inr, fun h => h.elim (fun e => e ▸ by simpa using hc) id⟩
  · simp [or_comm]

theorem nodup_applyOp (cfg : Cfg) (s : State) (op : Op) (idx : Nat) (r : Bool) (h : (allNames s).Nodup) :
    (allNames (applyOp cfg s op idx r)).Nodup := by
  rcases allNames_disk_applyOp cfg s op idx r with ⟨sp, _, e, _⟩ | ⟨n, _, _, e, _⟩ | ⟨e, _⟩
  · rw [e]; exact nodup_filter_append _ _ h
  · rw [e]; exact h.sublist List.filter_sublist
  · rw [e]; exact h

theorem noTomb_applyOp (cfg : Cfg) (s : State) (op : Op) (idx : Nat) (h : NoTomb s) :
    NoTomb (applyOp cfg s op idx false) := by
  intro st hst
  cases op with
  | create sp =>
    rcases List.mem_append.1 hst with h1 | h1
    · exact h st (List.mem_filter.1 h1).1
    · rw [List.mem_singleton.1 h1]; rfl
  | delete n => exact h st (List.mem_filter.1 hst).1
  | pause | resume | readonly | shrink | expand | leader =>
    obtain ⟨st0, h0, ⟨_, e⟩ | ⟨_, e⟩⟩ := mem_updStream hst <;> exact e ▸ h st0 h0
  | group | join | leave | coord | activity | unknown => exact h st hst

theorem mem_tombNames_create (cfg : Cfg) (s : State) (sp : StreamP) (idx : Nat) (r : Bool) (x : String) :
    x ∈ tombNames (applyOp cfg s (.create sp) idx r) ↔ x ≠ sp.name ∧ x ∈ tombNames s := by
  simp only [mem_tombNames, applyOp, addStream, List.mem_append, List.mem_filter, List.mem_singleton]
  constructor
  · rintro ⟨st, h1 | rfl, ht, rfl⟩
    · exact ⟨of_decide_eq_true h1.2, st, h1.1, ht, rfl⟩
    · cases ht
  · rintro ⟨hne, st, hst, ht, rfl⟩
    exact ⟨st, Or.inl ⟨hst, decide_eq_true hne⟩, ht, rfl⟩

theorem mem_tombNames_delete (cfg : Cfg) (s : State) (n : String) (idx : Nat) (x : String) :
    x ∈ tombNames (applyOp cfg s (.delete n) idx true) ↔ x = n ∧ n ∈ allNames s ∨ x ∈ tombNames s := by
  simp only [mem_tombNames, applyOp, if_true, updStream, allNames, List.mem_map]
  constructor
  · rintro ⟨_, ⟨st, hst, rfl⟩, ht, rfl⟩
    by_cases hn : st.name = n
    · rw [if_pos hn]; exact Or.inl ⟨hn, st, hst, hn⟩
    · rw [if_neg hn] at ht ⊢; exact Or.inr ⟨st, hst, ht, rfl⟩
  · rintro (⟨rfl, st, hst, hn⟩ | ⟨st, hst, ht, rfl⟩)
    · exact ⟨_, ⟨st, hst, rfl⟩, by rw [if_pos hn], by rw [if_pos hn]; exact hn⟩
    · exact ⟨_, ⟨st, hst, rfl⟩, by split <;> first | rfl | exact ht, by split <;> rfl⟩

def stepN (op : Op) (l : List String) : List String :=
  match op with
  | .create sp => l.filter (· ≠ sp.name) ++ [sp.name]
  | .delete n => l.filter (· ≠ n)
  | _ => l

theorem names_applyOp (cfg : Cfg) (s : State) (op : Op) (idx : Nat) (r : Bool) :
    names (applyOp cfg s op idx r) = stepN op (names s) := by
  rw [names_eq, names_eq, obsStreams_applyOp]
  cases op with
  | create sp => simp only [stepO, stepN, List.map_append, List.filter_map]; rfl
  | delete n => simp only [stepO, stepN, List.filter_map]; rfl
  | pause | resume | readonly | shrink | expand | leader => exact map_ite_inv StreamObs.name _ _ (fun _ _ => by rfl) _
  | group | join | leave | coord | activity | unknown => rfl

theorem runFrom_append (cfg : Cfg) (r : Bool) : ∀ (a b : List Op) (s : State) (i : Nat),
    runFrom cfg r s i (a ++ b) = runFrom cfg r (runFrom cfg r s i a) (i + a.length) b
  | [], _, _, _ => rfl
  | op :: a, b, s, i => by
    rw [List.cons_append, runFrom, runFrom, runFrom_append cfg r a b, List.length_cons, Nat.add_right_comm, Nat.add_assoc]

theorem validFrom_append (cfg : Cfg) : ∀ (a b : List Op) (s : State) (i : Nat),
    ValidFrom cfg s i (a ++ b) ↔
      (ValidFrom cfg s i a ∧ ValidFrom cfg (runFrom cfg false s i a) (i + a.length) b)
  | [], _, _, _ => by simp [ValidFrom, runFrom]
  | op :: a, b, s, i => by
    rw [List.cons_append, ValidFrom, ValidFrom, runFrom, validFrom_append cfg a b, and_assoc, List.length_cons,
      Nat.add_right_comm, Nat.add_assoc]

theorem runFrom_invariant {cfg : Cfg} {r : Bool} {P : State → Prop}
    (step : ∀ s op idx, P s → P (applyOp cfg s op idx r)) : ∀ (ops : List Op) (s : State) (i : Nat),
    P s → P (runFrom cfg r s i ops)
  | [], _, _, h => h
  | op :: ops, s, i, h => runFrom_invariant step ops _ (i + 1) (step s op (i + 1) h)

theorem names_runFrom (cfg : Cfg) (r r' : Bool) : ∀ (ops : List Op) (s s' : State) (i : Nat),
    names s = names s' → names (runFrom cfg r s i ops) = names (runFrom cfg r' s' i ops)
  | [], _, _, _, h => h
  | op :: ops, s, s', i, h =>
    names_runFrom cfg r r' ops _ _ (i + 1) (by rw [names_applyOp, names_applyOp, h])

/-- Invariant of a live server started empty. -/
structure LInv (s : State) : Prop where
  noTomb : NoTomb s
  nodup : (allNames s).Nodup
  disk : ∀ x ∈ s.disk, x ∈ allNames s

theorem linv_init : LInv init :=
  ⟨fun _ h => (by cases h), List.nodup_nil, fun _ h => (by cases h)⟩

theorem linv_step (cfg : Cfg) {s : State} (h : LInv s) (op : Op) (idx : Nat) : LInv (applyOp cfg s op idx false) := by
  refine ⟨noTomb_applyOp cfg s op idx h.noTomb, nodup_applyOp cfg s op idx false h.nodup, fun x hx => ?_⟩
  rcases allNames_disk_applyOp cfg s op idx false with ⟨sp, _, e, ed⟩ | ⟨n, _, _, e, ed⟩ | ⟨e, ed⟩ <;> rw [e] <;> rw [ed] at hx
  · exact mem_filter_append.2 ((mem_addDisk.1 hx).imp_right (h.disk x))
  · exact List.mem_filter.2 ⟨h.disk x (List.mem_filter.1 hx).1, (List.mem_filter.1 hx).2⟩
  · exact h.disk x hx

theorem linv_run (cfg : Cfg) (ops : List Op) (s : State) (i : Nat) (h : LInv s) : LInv (runFrom cfg false s i ops) :=
  runFrom_invariant (P := LInv) (fun _ op idx h => linv_step cfg h op idx) ops s i h

/-- Invariant of a replaying server that found `d0` on disk at restart. -/
structure RInv (d0 : List String) (s : State) : Prop where
  nodup : (allNames s).Nodup
  covers : ∀ x ∈ allNames s, x ∈ s.disk
  keeps : ∀ x ∈ d0, x ∈ s.disk
  bound : ∀ x ∈ s.disk, x ∈ d0 ∨ x ∈ allNames s

theorem RInv.congr {d0 : List String} {s s' : State} (h : RInv d0 s) (e : allNames s' = allNames s)
    (ed : s'.disk = s.disk) : RInv d0 s' :=
  ⟨e ▸ h.nodup, by rw [e, ed]; exact h.covers, ed ▸ h.keeps, by rw [e, ed]; exact h.bound⟩

/-- `AddStream` in recovery mode (a replayed create, a stream of a restored snapshot). -/
theorem rinv_create_shape {d0 : List String} {s s' : State} {n : String} (h : RInv d0 s)
    (e : allNames s' = (allNames s).filter (· ≠ n) ++ [n])
    (ed : s'.disk = if s.disk.contains n then s.disk else s.disk ++ [n]) : RInv d0 s' := by
  refine ⟨e ▸ nodup_filter_append _ _ h.nodup, fun x hx => ?_, fun x hx => ?_, fun x hx => ?_⟩
  · rw [e, mem_filter_append] at hx
    exact ed ▸ mem_addDisk.2 (hx.imp_right (h.covers x))
  · exact ed ▸ mem_addDisk.2 (Or.inr (h.keeps x hx))
  · rw [ed, mem_addDisk] at hx
    rw [e, mem_filter_append]
    rcases hx with hx | hx
    · exact Or.inr (Or.inl hx)
    · exact (h.bound x hx).imp_right Or.inr

theorem rinv_step (cfg : Cfg) {d0 : List String} {s : State} (h : RInv d0 s) (op : Op) (idx : Nat) :
    RInv d0 (applyOp cfg s op idx true) := by
  rcases allNames_disk_applyOp cfg s op idx true with ⟨sp, _, e, ed⟩ | ⟨n, _, hr, _, _⟩ | ⟨e, ed⟩
  · exact rinv_create_shape h e ed
  · cases hr
  · exact h.congr e ed

theorem rinv_run (cfg : Cfg) (d0 : List String) (ops : List Op) (s : State) (i : Nat) (h : RInv d0 s) :
    RInv d0 (runFrom cfg true s i ops) :=
  runFrom_invariant (P := RInv d0) (fun _ op idx h => rinv_step cfg h op idx) ops s i h

/-- A replay never forgets a name: deletes only tombstone. -/
theorem allNames_mono_run (cfg : Cfg) (ops : List Op) (s : State) (i : Nat) {x : String} (hx : x ∈ allNames s) :
    x ∈ allNames (runFrom cfg true s i ops) := by
  refine runFrom_invariant (P := fun s => x ∈ allNames s) (fun s op idx hx => ?_) ops s i hx
  rcases allNames_disk_applyOp cfg s op idx true with ⟨sp, _, e, _⟩ | ⟨n, _, hr, _, _⟩ | ⟨e, _⟩
  · exact e ▸ mem_filter_append.2 (Or.inr hx)
  · cases hr
  · exact e ▸ hx

theorem names_sub_allNames {s : State} {x : String} (h : x ∈ names s) : x ∈ allNames s :=
  mem_allNames.2 (Or.inl h)

/-! ## the shape of a restored snapshot, the end of recovery -/

theorem mkStream_name (cfg : Cfg) (sp : StreamP) (r : Bool) : (mkStream cfg sp r).name = sp.name := rfl

theorem foldl_addStream (cfg : Cfg) : ∀ (sps : List StreamP) (acc : State), acc.groups = [] →
    (allNames acc ++ sps.map (·.name)).Nodup →
    (sps.foldl (fun a sp => addStream cfg a sp true 0) acc).streams = acc.streams ++ sps.map (mkStream cfg · true) ∧
    (sps.foldl (fun a sp => addStream cfg a sp true 0) acc).groups = []
  | [], acc, hg, _ => by simp [hg]
  | sp :: sps, acc, hg, hnd => by
    have hfresh : ∀ st ∈ acc.streams, st.name ≠ sp.name := fun st hst hn =>
      not_mem_of_nodup_append_cons hnd (List.mem_map.2 ⟨st, hst, hn⟩)
    have hstr : (addStream cfg acc sp true 0).streams = acc.streams ++ [mkStream cfg sp true] := by
      simp only [addStream, List.filter_eq_self.2 fun st hst => decide_eq_true (hfresh st hst)]
    have hgr : (addStream cfg acc sp true 0).groups = [] := by
      simp only [addStream, hg, notifyDeleted, List.map_nil, ite_self]
    have := foldl_addStream cfg sps (addStream cfg acc sp true 0) hgr (by
      simpa [allNames, hstr, mkStream_name] using hnd)
    rw [List.foldl_cons, this.1, this.2, hstr, List.append_assoc]
    exact ⟨rfl, rfl⟩

theorem foldl_addGroup : ∀ (gps : List GroupP) (acc : State),
    (gps.foldl (fun a gp => addGroup a gp true) acc).groups = acc.groups ++ gps.map (mkGroup · true) ∧
    (gps.foldl (fun a gp => addGroup a gp true) acc).streams = acc.streams
  | [], acc => by simp
  | gp :: gps, acc => by
    have := foldl_addGroup gps (addGroup acc gp true)
    rw [List.foldl_cons, this.1, this.2]
    simp [addGroup]

theorem restore_snapshot (cfg : Cfg) (d : List String) (s : State) (hnd : (allNames s).Nodup) :
    (restore cfg { disk := d } (snapshot s)).streams = s.streams.map (fun st => mkStream cfg (snapStream st) true) ∧
    (restore cfg { disk := d } (snapshot s)).groups = s.groups.map (fun g => mkGroup (snapGroup g) true) := by
  have h1 := foldl_addStream cfg (snapshot s).streams { disk := d } rfl
    (by simpa [allNames, snapshot, Function.comp_def, snapStream] using hnd)
  have h2 := foldl_addGroup (snapshot s).groups
    ((snapshot s).streams.foldl (fun a sp => addStream cfg a sp true 0) { disk := d })
  refine ⟨h2.2.trans (h1.1.trans ?_), h2.1.trans ?_⟩
  · simp [snapshot, Function.comp_def]
  · rw [h1.2]; simp [snapshot, Function.comp_def]

theorem tombNames_restore (cfg : Cfg) (d : List String) (s : State) (hnd : (allNames s).Nodup) :
    tombNames (restore cfg { disk := d } (snapshot s)) = [] := by
  simp [tombNames, (restore_snapshot cfg d s hnd).1, mkStream]

theorem allNames_restore (cfg : Cfg) (d : List String) (s : State) (hnd : (allNames s).Nodup) :
    allNames (restore cfg { disk := d } (snapshot s)) = allNames s := by
  simp [allNames, (restore_snapshot cfg d s hnd).1, mkStream, snapStream, Function.comp_def]

theorem noTomb_restore (cfg : Cfg) (d : List String) (s : State) (hnd : (allNames s).Nodup) :
    NoTomb (restore cfg { disk := d } (snapshot s)) := fun st hst => by
  rw [(restore_snapshot cfg d s hnd).1] at hst
  obtain ⟨_, _, rfl⟩ := List.mem_map.1 hst
  rfl

theorem names_restore (cfg : Cfg) (d : List String) {s : State} (h : LInv s) :
    names (restore cfg { disk := d } (snapshot s)) = names s := by
  rw [names_eq_allNames h.noTomb, ← allNames_restore cfg d s h.nodup,
    names_eq_allNames (noTomb_restore cfg d s h.nodup)]

theorem rinv_restore_fold (cfg : Cfg) {d0 : List String} (sps : List StreamP) {acc : State} (h : RInv d0 acc) :
    RInv d0 (sps.foldl (fun a sp => addStream cfg a sp true 0) acc) := by
  refine List.foldlRecOn (motive := RInv d0) sps _ h fun acc h sp _ => rinv_create_shape (n := sp.name) h ?_ rfl
  simp only [allNames, addStream, List.map_append, List.filter_map]
  rfl

/-- Every `AddStream` and `AddConsumerGroup` of `Restore` keeps the invariant. -/
theorem rinv_restore (cfg : Cfg) (d0 : List String) (snap : Snap) : RInv d0 (restore cfg { disk := d0 } snap) :=
  List.foldlRecOn (motive := RInv d0) snap.groups _
    (rinv_restore_fold cfg snap.streams ⟨List.nodup_nil, fun _ h => (by cases h), fun x hx => hx, fun x hx => Or.inl hx⟩)
    fun _ h _ _ => h.congr rfl rfl

theorem obsPart_finish (p : Part) : obsPart (finishPart p) = obsPart p := by
  unfold finishPart
  split <;> rfl

theorem obsStreams_finish (cfg : Cfg) (s : State) (e : Nat) : obsStreams (finish cfg s e) = obsStreams s := by
  have hst : ∀ st : Stream, obsStream { st with parts := st.parts.map finishPart } = obsStream st := fun st => by
    simp only [obsStream, List.map_map, Function.comp_def, obsPart_finish]
  show (((s.streams.filter nt).map fun st => { st with parts := st.parts.map finishPart }).filter nt).map obsStream = _
  rw [filter_map_of_inv nt (fun st => { st with parts := st.parts.map finishPart }) (fun _ => rfl), List.filter_filter,
    List.map_map]
  simp only [Bool.and_self, obsStreams]
  exact List.map_congr_left fun st _ => hst st

theorem run_append (cfg : Cfg) (pre suf : List Op) :
    run cfg (pre ++ suf) = runFrom cfg false (run cfg pre) pre.length suf := by
  rw [run, runFrom_append, Nat.zero_add]
  rfl

/-- Without any hypothesis on the history the replaying server shows the stream names of the live one. -/
theorem names_replay (cfg : Cfg) (pre suf : List Op) (d : List String) :
    names (runFrom cfg true (restore cfg { disk := d } (snapshot (run cfg pre))) pre.length suf) =
      names (run cfg (pre ++ suf)) := by
  rw [run_append]
  exact names_runFrom cfg true false suf _ _ _ (names_restore cfg d (linv_run cfg pre init 0 linv_init))

theorem names_finish (cfg : Cfg) (s : State) (e : Nat) : names (finish cfg s e) = names s := by
  rw [names_eq, names_eq, obsStreams_finish]

theorem mem_disk_finish {cfg : Cfg} {s : State} {e : Nat} {x : String} :
    x ∈ (finish cfg s e).disk ↔ (x ∈ s.disk ∧ x ∉ tombNames s) := by
  simp [finish]

end Liftbridge.Proofs.Metadata
