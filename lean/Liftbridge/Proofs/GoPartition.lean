/-
Helper lemmas for Props/GoPartition.lean: look-ups in the translated program, and the loop that
rebuilds the persisted in-sync list (`for x := range p.isr { p.Isr = append(p.Isr, x) }`) as an
explicit state transformer.
-/
import Liftbridge.Proofs.GoCodeBase
import Liftbridge.Model.GoPartitionEnv

namespace Liftbridge.Props.GoPartition
open Liftbridge Liftbridge.GoMini Liftbridge.GoCode
open Liftbridge.Gen.GoPartition Liftbridge.GoPartitionEnv

theorem lk (f : String) : evalE.lookup' f prog =
    if f = "truncateUncommitted" then some fn_partition_truncateUncommitted
    else if f = "truncateToHW" then some fn_partition_truncateToHW
    else if f = "inReplicas" then some fn_partition_inReplicas
    else if f = "inISR" then some fn_partition_inISR
    else if f = "RemoveFromISR" then some fn_partition_RemoveFromISR
    else if f = "AddToISR" then some fn_partition_AddToISR else none := by rfl

/-- state after the loop `for <x> := range p.isr { p.Isr = append(p.Isr, <x>) }` -/
def isrSt (x : String) (pf : List (String × Val)) : List (String × Val) → List Val → St → St
  | [], _, st => st
  | (k, _) :: rest, acc, st =>
    isrSt x pf rest (acc ++ [.str k]) ((st.set x (.str k)).set "p" (.struct (update "Isr" (.list (acc ++ [.str k])) pf)))

theorem isr_loop (n : Nat) (x : String) (hx : x ≠ "p") (pf : List (String × Val)) (kv : List (String × Val)) :
    ∀ (acc : List Val) (st : St), st.env "p" = some (.struct (update "Isr" (.list acc) pf)) →
    runRangeMap (runBlock (exec prog noExt (n+6))
        [(.assign [(.sel (.var "p") "Isr")] [(.call "append" [(.sel (.var "p") "Isr"), (.var x)])])])
      (some x) none kv st = .ok (.next, isrSt x pf kv acc st) := by
  induction kv with
  | nil => intro acc st _; simp [gomini, isrSt]
  | cons e rest ih =>
    intro acc st hp
    obtain ⟨k, v⟩ := e
    have := ih (acc ++ [.str k]) ((st.set x (.str k)).set "p" (.struct (update "Isr" (.list (acc ++ [.str k])) pf)))
      (by simp [gomini])
    simp [gomini, isrSt, hp, update_update, Ne.symm hx]
    exact this

theorem isrSt_p (x : String) (pf : List (String × Val)) (kv : List (String × Val)) :
    ∀ (acc : List Val) (st : St), st.env "p" = some (.struct (update "Isr" (.list acc) pf)) →
    (isrSt x pf kv acc st).env "p" = some (.struct (update "Isr" (.list (acc ++ kv.map (fun e => .str e.1))) pf)) := by
  induction kv with
  | nil => intro acc st h; simpa [isrSt] using h
  | cons e rest ih =>
    intro acc st _
    obtain ⟨k, v⟩ := e
    simp only [isrSt]
    rw [ih _ _ (by simp [gomini])]
    simp

theorem isrSt_frame (x : String) (pf : List (String × Val)) (y : String) (hy1 : y ≠ "p") (hy2 : y ≠ x) (kv : List (String × Val)) :
    ∀ (acc : List Val) (st : St), (isrSt x pf kv acc st).env y = st.env y := by
  induction kv with
  | nil => intro acc st; rfl
  | cons e rest ih =>
    intro acc st
    obtain ⟨k, v⟩ := e
    simp [isrSt, ih, gomini, hy1, hy2]

theorem isrSt_eff (x : String) (pf : List (String × Val)) (kv : List (String × Val)) :
    ∀ (acc : List Val) (st : St), (isrSt x pf kv acc st).eff = st.eff := by
  induction kv with
  | nil => intro acc st; rfl
  | cons e rest ih =>
    intro acc st
    obtain ⟨k, v⟩ := e
    simp [isrSt, ih, gomini]

/-- `*partition`: the fields the in-sync-set mutators touch -/
def encPart (rs m : List (String × Val)) (persisted : List Val) (below : Bool) (minISR : Int) (leading : Bool) : Val :=
  .struct [("replicas", .struct rs), ("isr", .struct m), ("Isr", .list persisted), ("belowMinISR", .bool below),
           ("minISR", .int minISR), ("isLeading", .bool leading)]

def fieldOf (f : String) : Option Val → Option Val
  | some (.struct fs) => lookup f fs
  | _ => none

def isrView : R Out → Option (Option Val × Option Val × List Val)
  | .ok o => some (fieldOf "isr" o.recv, fieldOf "Isr" o.recv, o.rets)
  | _ => none

end Liftbridge.Props.GoPartition
