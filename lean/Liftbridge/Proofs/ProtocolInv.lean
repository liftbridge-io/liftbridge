/-
The leader's view of the replica offsets is sound WITHIN a leadership term: `TermInv` (every
recorded offset `isrOff r = v` is at most the newest offset of replica `r`'s real log, every
replication request in flight reports at most its sender's newest offset, every response carries
offset-sorted records, every log satisfies the commit-log invariant, the offset at which a replica
was last seen caught up is one it stores) is preserved by every step that does not change roles or
truncate a log (`InTerm`). It is NOT established by `becomeLeader` on a partition object that led
before (Props/C04 `isrOff_unsound_across_terms`).
-/
import Liftbridge.Model.Protocol
import Liftbridge.Proofs.Log
import Liftbridge.Proofs.LogRead
import Liftbridge.Proofs.Protocol

namespace Liftbridge.Proofs.Protocol
open Liftbridge Liftbridge.Log Liftbridge.Log.CLog Liftbridge.Protocol Liftbridge.Proofs.Log

/-! ### commit-log facts used by the glue -/

/-- Well-formed log whose empty state starts at offset 0 (true for every log of the protocol
model: nothing ever removes the head of a log). -/
def LogOK (l : CLog) : Prop := Inv l ∧ (l.abs = [] → l.nextOffset = 0)

theorem LogOK.setHW {l : CLog} (h : LogOK l) (hw : Int) : LogOK (l.setHW hw) :=
  ⟨inv_setHW h.1 hw, by rw [abs_setHW, nextOffset_setHW]; exact h.2⟩

theorem LogOK.newest_ge {l : CLog} (h : LogOK l) : -1 ≤ l.newest := by
  have := h.1.next_nonneg; unfold newest; omega

theorem logOK_append {l l' : CLog} {rs : List Rec} (hinv : Inv l') (habs : l'.abs = l.abs ++ rs) (hne : rs ≠ []) :
    LogOK l' ∧ ∃ r ∈ rs, rs.getLast? = some r ∧ l'.newest = r.offset := by
  obtain ⟨r, hr⟩ : ∃ r, rs.getLast? = some r := ⟨_, List.getLast?_eq_some_getLast hne⟩
  exact ⟨⟨hinv, fun he => by simp [habs, hne] at he⟩, r, List.mem_of_getLast? hr, hr,
    newest_last hinv (by rw [habs, getLast?_append_ne hne, hr])⟩

theorem appendSet_grow {l l' : CLog} {rs : List Rec} {offs : List Int} (h : LogOK l) (hne : rs ≠ [])
    (hs : Sorted rs) (hge : ∀ r ∈ rs, l.nextOffset ≤ r.offset) (ha : l.appendSet rs = .ok (l', offs)) :
    LogOK l' ∧ l.newest ≤ l'.newest := by
  obtain ⟨hok, r, hrm, _, hn⟩ := logOK_append (inv_appendSet h.1 hs hge ha) (appendSet_full h.1 ha).1 hne
  have := hge r hrm
  exact ⟨hok, by unfold newest at hn ⊢; omega⟩

theorem append_grow {l l' : CLog} {ms : List CLog.Msg} {offs : List Int} (h : LogOK l)
    (ha : l.append ms = .ok (l', offs)) :
    LogOK l' ∧ l.newest ≤ l'.newest ∧ offs.getLast?.getD (-1) = l'.newest := by
  obtain ⟨hinv, hoffs, rs, habs, hro, _⟩ := append_full h.1 ha
  -- an empty batch is refused
  have hrne : rs ≠ [] := by
    rintro rfl
    have hm : ms = [] := List.eq_nil_of_length_eq_zero (by simpa [← hro] using (congrArg List.length hoffs).symm)
    subst hm
    unfold append at ha
    split at ha
    · cases ha
    · dsimp only at ha
      split at ha
      · cases ha
      · simp [stamp, write] at ha
  obtain ⟨hok, r, hrm, hr, hn⟩ := logOK_append hinv habs hrne
  -- the last record's offset is one of the offsets handed out, all at or after the old next offset
  have hmem : r.offset ∈ offs := hro ▸ List.mem_map_of_mem hrm
  rw [hoffs] at hmem
  obtain ⟨i, _, hi⟩ := List.mem_map.mp hmem
  refine ⟨hok, by unfold newest at hn ⊢; omega, ?_⟩
  rw [← hro, List.getLast?_map, hr, hn]
  rfl

theorem LogOK.checkSplitIfWritable {l : CLog} (h : LogOK l) : LogOK l.checkSplitIfWritable ∧
    l.checkSplitIfWritable.newest = l.newest :=
  ⟨⟨inv_checkSplitIfWritable h.1, by rw [abs_checkSplitIfWritable, Occ.nextOffset_checkSplitIfWritable]; exact h.2⟩,
   by unfold newest; rw [Occ.nextOffset_checkSplitIfWritable]⟩

/-- What a replication response can carry is offset-sorted. -/
theorem read_for_serve_sorted {l : CLog} (h : LogOK l) {off : Int} (h1 : -1 ≤ off) (h2 : off < l.newest) :
    ∀ rs, l.readUncommitted (off + 1) = .ok rs → Sorted rs := by
  intro rs hr
  have hne : l.abs ≠ [] := fun he => by have := h.2 he; unfold newest at h2; omega
  have hn := newest_last h.1 (List.getLast?_eq_some_getLast hne)
  rw [readUncommitted_eq h.1 _ ⟨_, List.getLast_mem hne, by omega⟩] at hr
  cases hr
  exact h.1.sorted.filter _

theorem get_lt {st : State} {i : Sid} {sv : Srv} (h : st.get i = some sv) : i < st.srv.length := by
  unfold State.get at h; exact (List.getElem?_eq_some_iff.mp h).1

theorem get_set_self {st : State} {i : Sid} (sv' : Srv) (hi : i < st.srv.length) :
    (st.set i sv').get i = some sv' := by
  simp [State.get, State.set, hi]

theorem get_set_ne {st : State} {i j : Sid} (sv' : Srv) (h : j ≠ i) : (st.set i sv').get j = st.get j := by
  simp only [State.get, State.set]
  rw [List.getElem?_set_ne (Ne.symm h)]

theorem get_set {st : State} {i j : Sid} {sv' x : Srv} (h : (st.set i sv').get j = some x) :
    (j = i ∧ x = sv') ∨ st.get j = some x := by
  by_cases hji : j = i
  · subst hji
    have hlt : j < st.srv.length := by simpa [State.set] using get_lt h
    rw [get_set_self sv' hlt] at h
    exact Or.inl ⟨rfl, (Option.some.inj h).symm⟩
  · exact Or.inr (get_set_ne sv' hji ▸ h)

theorem init_get {c : Cfg} {s : Sid} {sv : Srv} (h : (Protocol.init c).get s = some sv) :
    sv = { log := CLog.init c.maxSeg c.occ } :=
  (List.mem_replicate.mp (List.mem_of_getElem? h)).2

structure TermInv (st : State) : Prop where
  logs : ∀ s sv, st.get s = some sv → LogOK sv.log
  offs : ∀ l sv, st.get l = some sv → ∀ r v, lookup sv.isrOff r = some v →
    ∃ sr, st.get r = some sr ∧ v ≤ sr.log.newest
  reqs : ∀ src off ep rid, Net.replReq src off ep rid ∈ st.net →
    -1 ≤ off ∧ ∃ sr, st.get src = some sr ∧ off ≤ sr.log.newest
  resps : ∀ dst rid ep hw recs, Net.replResp dst rid ep hw recs ∈ st.net → Sorted recs
  /-- the offset at which a replica was last seen caught up is an offset it really stores -/
  cu : ∀ l sv, st.get l = some sv → ∀ r v, lookup sv.caughtUp r = some v →
    ∃ sr, st.get r = some sr ∧ v ≤ sr.log.newest

/-- Steps that neither change a role nor truncate a log. -/
def InTerm : Step → Prop
  | .publish .. | .fetch _ | .serve .. | .applyResp .. | .drop _ | .commit _ | .shrinkDecision ..
  | .expandDecision .. | .clearCaughtUp .. | .clearSeen .. | .electDecision _ | .raftCommit _ | .offServe .. => True
  | _ => False

/-- Replacing server `i` by one whose log is well-formed and has only grown, whose recorded
offsets are old ones, its own new newest offset, or an offset reported by a request in flight. -/
theorem TermInv.set {st : State} (J : TermInv st) {i : Sid} {sv sv' : Srv} (hi : st.get i = some sv)
    (hlog : LogOK sv'.log) (hgrow : sv.log.newest ≤ sv'.log.newest)
    (hoffs : ∀ r v, lookup sv'.isrOff r = some v →
      lookup sv.isrOff r = some v ∨ (r = i ∧ v ≤ sv'.log.newest) ∨
      ∃ ep rid, Net.replReq r v ep rid ∈ st.net)
    (hcu : ∀ r v, lookup sv'.caughtUp r = some v →
      lookup sv.caughtUp r = some v ∨ ∃ ep rid, Net.replReq r v ep rid ∈ st.net) :
    TermInv (st.set i sv') := by
  have hself := get_set_self sv' (get_lt hi)
  -- every server's newest offset only grows
  have up : ∀ {r v}, (∃ sr, st.get r = some sr ∧ v ≤ sr.log.newest) →
      ∃ sr, (st.set i sv').get r = some sr ∧ v ≤ sr.log.newest := by
    rintro r v ⟨sr, hr, hle⟩
    by_cases hri : r = i
    · subst hri
      cases hi.symm.trans hr
      exact ⟨sv', hself, Int.le_trans hle hgrow⟩
    · exact ⟨sr, (get_set_ne sv' hri).trans hr, hle⟩
  refine ⟨fun s x hs => ?_, fun l x hl r v hv => ?_, fun src off ep rid hm => ?_, J.resps, fun l x hl r v hv => ?_⟩
  · rcases get_set hs with ⟨_, rfl⟩ | hs
    · exact hlog
    · exact J.logs s x hs
  · rcases get_set hl with ⟨rfl, rfl⟩ | hl
    · rcases hoffs r v hv with h | ⟨rfl, h⟩ | ⟨ep, rid, h⟩
      · exact up (J.offs _ _ hi r v h)
      · exact ⟨_, hself, h⟩
      · exact up (J.reqs r v ep rid h).2
    · exact up (J.offs l x hl r v hv)
  · exact ⟨(J.reqs src off ep rid hm).1, up (J.reqs src off ep rid hm).2⟩
  · rcases get_set hl with ⟨rfl, rfl⟩ | hl
    · rcases hcu r v hv with h | ⟨ep, rid, h⟩
      · exact up (J.cu _ _ hi r v h)
      · exact up (J.reqs r v ep rid h).2
    · exact up (J.cu l x hl r v hv)

theorem TermInv.set_log {st : State} (J : TermInv st) {i : Sid} {sv sv' : Srv} (hi : st.get i = some sv)
    (hlog : LogOK sv'.log) (hgrow : sv.log.newest ≤ sv'.log.newest) (ho : sv'.isrOff = sv.isrOff)
    (hc : sv'.caughtUp = sv.caughtUp) : TermInv (st.set i sv') :=
  J.set hi hlog hgrow (fun _ _ hv => Or.inl (ho ▸ hv)) fun _ _ hv => Or.inl (hc ▸ hv)

/-- What `TermInv` asks of a message in flight. -/
def NetOK (st : State) : Net → Prop
  | .replReq src off _ _ => -1 ≤ off ∧ ∃ sr, st.get src = some sr ∧ off ≤ sr.log.newest
  | .replResp _ _ _ _ recs => Sorted recs
  | _ => True

theorem TermInv.net {st : State} (J : TermInv st) (net' : List Net) (h : ∀ m ∈ net', m ∈ st.net ∨ NetOK st m) :
    TermInv { st with net := net' } :=
  ⟨J.logs, J.offs, fun src off ep rid hm => (h _ hm).elim (J.reqs src off ep rid) id,
   fun dst rid ep hw recs hm => (h _ hm).elim (J.resps dst rid ep hw recs) id, J.cu⟩

theorem TermInv.congr {st st' : State} (J : TermInv st) (hs : st'.srv = st.srv) (hn : st'.net = st.net) :
    TermInv st' := by
  cases st; cases st'; cases hs; cases hn
  exact ⟨J.logs, J.offs, J.reqs, J.resps, J.cu⟩

theorem TermInv.acks {st : State} (J : TermInv st) (a : List Ack) : TermInv { st with acks := a } :=
  J.congr rfl rfl

theorem TermInv.proposed {st : State} (J : TermInv st) (p : List MetaOp) : TermInv { st with proposed := p } :=
  J.congr rfl rfl

theorem TermInv.committed {st : State} (J : TermInv st) (p q : List MetaOp) :
    TermInv { st with proposed := p, committed := q } :=
  J.congr rfl rfl

theorem lookup_mSet (m : List (Sid × Int)) (k r : Sid) (v : Int) :
    lookup (mSet m k v) r = if k = r then some v else lookup m r := by
  induction m with
  | nil => rw [mSet, lookup_cons]
  | cons p ps ih =>
    obtain ⟨k', v'⟩ := p
    rw [mSet]
    split
    · rw [lookup_cons]
    · split
      · rename_i hk
        rw [lookup_cons, lookup_cons, ← hk]
        split <;> rfl
      · rename_i hk
        rw [lookup_cons, lookup_cons, ih]
        split
        · rename_i h; rw [if_neg (h ▸ hk)]
        · rfl

theorem lookup_mSet_some {m : List (Sid × Int)} {k r : Sid} {v w : Int}
    (h : lookup (mSet m k v) r = some w) : (r = k ∧ w = v) ∨ lookup m r = some w := by
  rw [lookup_mSet] at h
  split at h
  · rename_i hk; exact Or.inl ⟨hk.symm, (Option.some.inj h).symm⟩
  · exact Or.inr h

theorem lookup_updateOffset {m : List (Sid × Int)} {k r : Sid} {v w : Int}
    (h : lookup (updateOffset m k v).1 r = some w) : (r = k ∧ w = v) ∨ lookup m r = some w := by
  unfold updateOffset at h
  split at h
  · exact Or.inr h
  · split at h
    · exact lookup_mSet_some h
    · exact Or.inr h

theorem lookup_mErase (m : List (Sid × Int)) (k r : Sid) :
    lookup (mErase m k) r = if k = r then none else lookup m r := by
  unfold lookup mErase
  rw [List.find?_filter]
  split
  · rename_i h; subst h
    rw [List.find?_eq_none.mpr (by simp)]; rfl
  · rename_i h
    congr 2; funext a
    by_cases ha : a.1 = r <;> simp [ha, Ne.symm h]

/-! ### per-server effects of the in-term steps -/

/-- A fetch is dropped, or recorded: the replica's offset (upwards only), the "seen" flag and — only
if the fetch reached the log end — the "caught up" flag; the answer carries what the log holds beyond
the offset. -/
theorem serveStep_cases (c : Cfg) (sv : Srv) (src : Sid) (off : Int) (ep rid : Nat) :
    serveStep c sv src off ep rid = (sv, []) ∨
    ∃ cc cu recs, serveStep c sv src off ep rid =
        ({ sv with isrOff := (updateOffset sv.isrOff src off).1, commitCheck := cc, seen := sInsert sv.seen src,
                   caughtUp := cu }, [.replResp src rid sv.leaderEpoch sv.log.hw recs]) ∧
      (∀ x w, lookup cu x = some w → lookup sv.caughtUp x = some w ∨ (x = src ∧ w = off ∧ sv.log.newest ≤ off)) ∧
      (recs = [] ∨ (off < sv.log.newest ∧ sv.log.readUncommitted (off + 1) = .ok recs)) := by
  unfold serveStep
  by_cases hrej : rejectFetch ep sv.leaderEpoch = true
  · exact Or.inl (if_pos hrej)
  by_cases hn : (!decide (src < c.n)) = true
  · exact Or.inl ((if_neg hrej).trans (if_pos hn))
  rw [if_neg hrej, if_neg hn]
  refine Or.inr ?_
  dsimp only
  split
  · rename_i hcu
    have hle : sv.log.newest ≤ off := by simpa [Gen.Protocol.caughtUpCmp, Cmp.evalInt] using hcu
    exact ⟨_, _, [], rfl, fun x w h => (lookup_mSet_some h).elim (fun ⟨h1, h2⟩ => Or.inr ⟨h1, h2, hle⟩) Or.inl, Or.inl rfl⟩
  · rename_i hcu
    -- below the log end the flag is left alone: the regenerated `Gen.Protocol.caughtUpGuarded` is `true`
    refine ⟨_, _, _, rfl, fun x w h => Or.inl h, ?_⟩
    split
    · rename_i rs hr
      exact Or.inr ⟨by simpa [Gen.Protocol.caughtUpCmp, Cmp.evalInt] using hcu, hr⟩
    · exact Or.inl rfl

/-- `handleReplicationResponse` touches the log only, which stays well-formed and only grows. The HW
the follower adopts plays no part in this (any value keeps the log invariant), so the proof does not
look at the regenerated `Gen.Protocol.followerHwCapped`: it covers the follower with and without the cap. -/
theorem applyRespStep_spec (sv : Srv) (ep : Nat) (hw : Int) (recs : List Rec) :
    ∃ log', applyRespStep sv ep hw recs = { sv with log := log' } ∧
      (LogOK sv.log → Sorted recs → LogOK log' ∧ sv.log.newest ≤ log'.newest) := by
  have same : ∃ log', sv = { sv with log := log' } ∧
      (LogOK sv.log → Sorted recs → LogOK log' ∧ sv.log.newest ≤ log'.newest) :=
    ⟨sv.log, rfl, fun h _ => ⟨h, Int.le_refl _⟩⟩
  unfold applyRespStep
  by_cases hr : sv.role ≠ .follower
  · rwa [if_pos hr]
  by_cases he : Gen.Protocol.replRespEpochCmp.evalNat sv.leaderEpoch ep = true
  · rwa [if_neg hr, if_pos he]
  rw [if_neg hr, if_neg he]
  extract_lets cap log
  -- from here on the HW the follower adopts is an arbitrary function `cap` of its log
  clear_value cap
  have hn' : sv.log.newest ≤ log.newest := Int.le_of_eq (newest_setHW _ _).symm
  have hwOnly : ∃ log', { sv with log := log } = { sv with log := log' } ∧
      (LogOK sv.log → Sorted recs → LogOK log' ∧ sv.log.newest ≤ log'.newest) :=
    ⟨_, rfl, fun h _ => ⟨h.setHW _, hn'⟩⟩
  cases recs with
  | nil => exact hwOnly
  | cons r rest =>
    dsimp only
    by_cases hoff : Gen.Protocol.replRespOffsetCmp.evalInt r.offset (log.newest + 1) = true
    · rwa [if_pos hoff]
    rw [if_neg hoff]
    simp only [Gen.Protocol.replRespOffsetCmp, Cmp.evalInt, decide_eq_true_eq, Int.not_lt] at hoff
    split
    · rename_i log' offs ha
      refine ⟨_, rfl, fun hlog hs => ?_⟩
      have hge : ∀ y ∈ r :: rest, log.nextOffset ≤ y.offset := by
        intro y hy
        unfold newest at hoff
        rcases List.mem_cons.mp hy with rfl | hy
        · omega
        · have := (List.pairwise_cons.mp hs).1 y hy
          omega
      obtain ⟨h1, h2⟩ := appendSet_grow (hlog.setHW _) (List.cons_ne_nil _ _) hs hge ha
      split
      · exact ⟨h1.setHW _, by rw [newest_setHW]; exact Int.le_trans hn' h2⟩
      · exact ⟨h1, Int.le_trans hn' h2⟩
    · exact hwOnly

theorem publishStep_spec {c : Cfg} {me : Sid} {sv sv' : Srv} {b : List PubMsg} {acks : List Ack}
    (hlog : LogOK sv.log) (h : publishStep c me sv b = some (sv', acks)) :
    LogOK sv'.log ∧ sv.log.newest ≤ sv'.log.newest ∧
    (∀ r v, lookup sv'.isrOff r = some v → lookup sv.isrOff r = some v ∨ (r = me ∧ v ≤ sv'.log.newest)) ∧
    sv'.caughtUp = sv.caughtUp := by
  rcases publishStep_cases h with ⟨_, rfl, _⟩ | ⟨e, _, rfl, _⟩ | ⟨log, offs, log', cc, he, hl', rfl, _⟩
  · exact ⟨hlog, Int.le_refl _, fun r v hv => Or.inl hv, rfl⟩
  · exact ⟨hlog.checkSplitIfWritable.1, Int.le_of_eq hlog.checkSplitIfWritable.2.symm, fun r v hv => Or.inl hv, rfl⟩
  · obtain ⟨g1, g2, g3⟩ := append_grow hlog he
    have hl2 : LogOK log' ∧ log'.newest = log.newest := by
      rcases hl' with rfl | rfl
      · exact ⟨g1, rfl⟩
      · exact ⟨g1.setHW _, newest_setHW _ _⟩
    refine ⟨hl2.1, hl2.2 ▸ g2, fun r v hv => ?_, rfl⟩
    rcases lookup_updateOffset hv with ⟨h1, h2⟩ | h1
    · exact Or.inr ⟨h1, by rw [h2, hl2.2, g3]; exact Int.le_refl _⟩
    · exact Or.inl h1

/-- With `termInv_init`: the leader's recorded offsets are sound along every run of in-term steps
(Props/C02 `leader_view_sound_within_term`, C04 `isrOff_sound_within_term`). -/
theorem termInv_step (c : Cfg) (st st' : State) (s : Step) (J : TermInv st) (hs : InTerm s)
    (h : step c st s = some st') : TermInv st' := by
  cases Steps.of_step h with
  | publish sv sv' as hsv hp =>
    obtain ⟨h1, h2, h3, h4⟩ := publishStep_spec (J.logs _ sv hsv) hp
    exact (J.set hsv h1 h2 (fun r v hv => (h3 r v hv).imp_right Or.inl) fun r v hv => Or.inl (h4 ▸ hv)).acks _
  | commit sv hsv =>
    have hlog := J.logs _ sv hsv
    rcases commitStep_srv c sv with e | ⟨q, e⟩ <;> rw [e]
    · exact (J.set_log (sv' := { sv with commitCheck := sv.commitCheck - 1 }) hsv hlog (Int.le_refl _) rfl rfl).acks _
    · exact (J.set_log (sv' := { sv with commitCheck := sv.commitCheck - 1, queue := q, log := sv.log.setHW _ }) hsv (hlog.setHW _)
        (Int.le_of_eq (newest_setHW _ _).symm) rfl rfl).acks _
  | fetch sv hsv =>
    refine (J.set_log (sv' := { sv with rid := sv.rid + 1, waiting := some (sv.rid + 1) }) hsv (J.logs _ sv hsv)
      (Int.le_refl _) rfl rfl).net _ fun m hm => (List.mem_append.mp hm).imp_right fun hm => ?_
    cases List.mem_singleton.mp hm
    exact ⟨(J.logs _ sv hsv).newest_ge, _, get_set_self _ (get_lt hsv), Int.le_refl _⟩
  | serve sv src off ep rid hsv hm =>
    have hlog := J.logs _ sv hsv
    rcases serveStep_cases c sv src off ep rid with e | ⟨cc, cu, recs, e, hcu, hrecs⟩ <;> rw [e]
    · exact (J.set_log (sv' := sv) hsv hlog (Int.le_refl _) rfl rfl).net _
        fun m hm => Or.inl (mem_removeFirst (List.append_nil _ ▸ hm))
    · refine (J.set (sv' := { sv with isrOff := _, commitCheck := cc, seen := _, caughtUp := cu }) hsv hlog
        (Int.le_refl _) (fun r v hv => ?_) fun r v hv => ?_).net _
        fun m hm => (List.mem_append.mp hm).imp mem_removeFirst fun hm => ?_
      · rcases lookup_updateOffset hv with ⟨rfl, rfl⟩ | hv
        · exact Or.inr (Or.inr ⟨ep, rid, hm⟩)
        · exact Or.inl hv
      · rcases hcu r v hv with h | ⟨rfl, rfl, _⟩
        · exact Or.inl h
        · exact Or.inr ⟨ep, rid, hm⟩
      · cases List.mem_singleton.mp hm
        rcases hrecs with rfl | ⟨hlt, hread⟩
        · exact List.Pairwise.nil
        · exact read_for_serve_sorted hlog (J.reqs _ _ _ _ ‹_›).1 hlt _ hread
  | applyResp sv rid ep hw recs hsv hm =>
    obtain ⟨log', e, hspec⟩ := applyRespStep_spec sv ep hw recs
    obtain ⟨h1, h2⟩ := hspec (J.logs _ sv hsv) (J.resps _ _ _ _ _ hm)
    rw [e]
    exact (J.set_log (sv' := { sv with log := log', waiting := none }) hsv h1 h2 rfl rfl).net _
      fun m hm => Or.inl (mem_removeFirst hm)
  | drop => exact J.net _ fun m hm => Or.inl (mem_removeFirst hm)
  | shrinkDecision | expandDecision | electDecision => exact J.proposed _
  | clearCaughtUp sv hsv =>
    refine J.set (sv' := { sv with caughtUp := _ }) hsv (J.logs _ sv hsv) (Int.le_refl _) (fun _ _ hv => Or.inl hv)
      fun _ _ hv => Or.inl ?_
    rw [lookup_mErase] at hv
    split at hv
    · cases hv
    · exact hv
  | clearSeen sv hsv =>
    exact J.set_log (sv' := { sv with seen := _ }) hsv (J.logs _ sv hsv) (Int.le_refl _) rfl rfl
  | raftCreate => exact J.congr rfl rfl
  | raftCommit => exact J.committed _ _
  | offServe =>
    refine J.net _ fun m hm => (List.mem_append.mp hm).imp mem_removeFirst fun hm => ?_
    cases List.mem_singleton.mp hm
    trivial
  | _ => exact hs.elim

theorem termInv_run (c : Cfg) : ∀ (steps : List Step) (st st' : State), TermInv st → (∀ s ∈ steps, InTerm s) →
    run c st steps = some st' → TermInv st' :=
  run_invariant (termInv_step c)

/-- The invariant holds before anything happened (fresh, empty logs; no partition object yet). -/
theorem termInv_init (c : Cfg) (hm : 0 < c.maxSeg) : TermInv (Protocol.init c) := by
  refine ⟨fun s sv h => ?_, fun l sv h r v hv => ?_, fun _ _ _ _ hm => (nomatch hm), fun _ _ _ _ _ hm => (nomatch hm),
    fun l sv h r v hv => ?_⟩
  · rw [init_get h]
    exact ⟨Proofs.Log.inv_init c.maxSeg c.occ hm, fun _ => rfl⟩
  · cases init_get h; cases hv
  · cases init_get h; cases hv

end Liftbridge.Proofs.Protocol
