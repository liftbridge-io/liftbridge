/-
Leader-epoch cache (server/commitlog/leader_epoch_cache.go, `Epochs` of Model/Log.lean):
order invariant kept by `assign` / `clearLatest` / `clearEarliest`, and the specification of the
binary-search lookups `findEpoch` / `lastOffsetFor` (through `searchOpt`).
-/
import Liftbridge.Model.Log
import Liftbridge.Proofs.LogBasic

namespace Liftbridge.Proofs.Epochs
open Liftbridge Liftbridge.Log Liftbridge.Proofs.Log

/-- The cache is strictly increasing in epoch and non-decreasing in start offset. -/
def EpochsOK (c : Epochs) : Prop := c.Pairwise (fun a b => a.1 < b.1 ∧ a.2 ≤ b.2)

theorem epochsOK_nil : EpochsOK [] := List.Pairwise.nil

theorem le_latest {c : Epochs} (h : EpochsOK c) {a : Nat × Int} (ha : a ∈ c) :
    a.1 ≤ c.latestEpoch ∧ a.2 ≤ c.latestOffset := by
  obtain ⟨init, last, rfl⟩ := (eq_nil_or_snoc c).resolve_left (List.ne_nil_of_mem ha)
  simp only [Epochs.latestEpoch, Epochs.latestOffset, List.getLast?_concat]
  rcases List.mem_append.mp ha with hi | hl
  · have := (List.pairwise_append.mp h).2.2 a hi last (by simp)
    exact ⟨Nat.le_of_lt this.1, this.2⟩
  · simp at hl; subst hl; exact ⟨Nat.le_refl _, Int.le_refl _⟩

/-- What `assign` does: appends exactly when the epoch is newer and the offset not smaller. -/
theorem assign_eq (c : Epochs) (e : Nat) (o : Int) :
    c.assign e o = if c.latestEpoch < e ∧ c.latestOffset ≤ o then c ++ [(e, o)] else c := by
  unfold Epochs.assign
  simp only [Gen.Log.assignEpochCmp, Gen.Log.assignOffsetCmp, Cmp.evalNat, Cmp.evalInt, Bool.and_eq_true,
    decide_eq_true_eq, gt_iff_lt, ge_iff_le]

/-- `assign` keeps the cache ordered (it silently refuses anything else). -/
theorem assign_ok {c : Epochs} (h : EpochsOK c) (e : Nat) (o : Int) : EpochsOK (c.assign e o) := by
  rw [assign_eq]
  split
  · rename_i hc
    refine List.pairwise_append.mpr ⟨h, List.pairwise_singleton _ _, fun a ha b hb => ?_⟩
    obtain rfl : b = (e, o) := by simpa using hb
    have := le_latest h ha
    exact ⟨by simp only; omega, by simp only; omega⟩
  · exact h

theorem clearLatest_ok {c : Epochs} (h : EpochsOK c) (o : Int) : EpochsOK (c.clearLatest o) := by
  unfold Epochs.clearLatest
  split
  · exact h
  · exact h.filter _

/-- On an ordered cache the entries below an offset form a prefix. -/
theorem filter_lt_split {c : Epochs} (h : EpochsOK c) (o : Int) :
    ∃ post, c = c.filter (fun e => decide (e.2 < o)) ++ post ∧ ∀ b ∈ post, o ≤ b.2 := by
  induction c with
  | nil => exact ⟨[], rfl, by simp⟩
  | cons x xs ih =>
    have hx := List.pairwise_cons.mp h
    by_cases hlt : x.2 < o
    · obtain ⟨post, hc, hp⟩ := ih hx.2
      exact ⟨post, by simp only [List.filter_cons, hlt, decide_true, if_true, List.cons_append, ← hc], hp⟩
    · have hge : ∀ b ∈ x :: xs, o ≤ b.2 := fun b hb => by
        rcases List.mem_cons.mp hb with rfl | hb
        · omega
        · have := (hx.1 b hb).2; omega
      refine ⟨x :: xs, ?_, hge⟩
      rw [List.filter_eq_nil_iff.mpr fun a ha => by have := hge a ha; simp; omega, List.nil_append]

theorem clearEarliest_ok {c : Epochs} (h : EpochsOK c) (o : Int) : EpochsOK (c.clearEarliest o) := by
  unfold Epochs.clearEarliest
  split
  · exact h
  · simp only
    obtain ⟨post, hc, hp⟩ := filter_lt_split h o
    generalize c.filter (fun e => decide (e.2 < o)) = pre at hc
    subst hc
    rw [List.drop_left]
    have hpw := List.pairwise_append.mp h
    split
    · exact h
    · rename_i lastE hl
      split
      · exact List.pairwise_cons.mpr
          ⟨fun b hb => ⟨(hpw.2.2 lastE (List.mem_of_getLast? hl) b hb).1, hp b hb⟩, hpw.2.1⟩
      · exact hpw.2.1

theorem findEpoch_searchOpt (c : Epochs) (e : Nat) :
    c.findEpoch e = (searchOpt c (fun x => decide (e ≤ x.1))).bind (fun i => c[i]?) := by
  have key : ∀ f : Nat → Bool,
      (∀ i, f i = match c[i]? with | some x => decide (e ≤ x.1) | none => true) →
      c[goSearch c.length f]? = (searchOpt c (fun x => decide (e ≤ x.1))).bind (fun i => c[i]?) := by
    intro f hf
    rw [← searchOpt_probe c _ f fun i => by rw [hf i]; cases c[i]? <;> rfl]
    split
    · rename_i h; simp [h]
    · rfl
  exact key _ fun i => by cases c[i]? <;> rfl

/-- `findEpoch e` = the first entry whose epoch is at least `e` (on an ordered cache the literal
`sort.Search` finds it). -/
theorem findEpoch_spec {c : Epochs} (h : EpochsOK c) (e : Nat) :
    c.findEpoch e = c.find? (fun x => decide (e ≤ x.1)) := by
  rw [findEpoch_searchOpt, List.find?_eq_bind_findIdx?_getElem?, searchOpt_eq_findIdx?]
  exact h.imp fun hab ha => by simp only [decide_eq_true_eq] at ha ⊢; omega

/-- `LastOffsetForLeaderEpoch` of the cache: the start offset recorded for the first epoch greater
than `e`, or the sentinel -1 when there is none. -/
theorem lastOffsetFor_spec {c : Epochs} (h : EpochsOK c) (e : Nat) :
    c.lastOffsetFor e = match c.find? (fun x => decide (e < x.1)) with
      | some x => x.2
      | none => -1 := by
  unfold Epochs.lastOffsetFor
  rw [findEpoch_spec h]
  rfl

end Liftbridge.Proofs.Epochs
