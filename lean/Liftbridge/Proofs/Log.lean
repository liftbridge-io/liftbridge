/- Invariant of the commit-log model and the lemmas about its operations. -/
import Liftbridge.Model.Log
import Liftbridge.Proofs.Res
import Liftbridge.Proofs.Search
import Liftbridge.Proofs.LogBasic
namespace Liftbridge.Proofs.Log
open Liftbridge Liftbridge.Log Liftbridge.Log.CLog

/-- Invariant of every reachable log state. -/
structure Inv (l : CLog) : Prop where
  /-- there is always an active segment -/
  nonempty : l.segs ≠ []
  /-- a positive segment size limit (a segment that holds nothing is never rolled) -/
  maxPos : 0 < l.maxSegBytes
  /-- offsets strictly increase along the whole log -/
  sorted : l.abs.Pairwise (fun a b => a.offset < b.offset)
  /-- segment bases are non-negative and bound their records from below -/
  base_le : ∀ s ∈ l.segs, 0 ≤ s.base ∧ ∀ r ∈ s.recs, s.base ≤ r.offset
  /-- a later segment starts at or after the next offset of every earlier one, strictly after its base -/
  chain : l.segs.Pairwise (fun a b => a.nextOffset ≤ b.base ∧ a.base < b.base)
  /-- a segment is only ever rolled at the next offset of its predecessor, and truncation keeps
  that — so consecutive segments are linked exactly (hence every segment but the last holds a
  record); without it the other fields admit unreachable states in which `nextOffset_spec` /
  `readCommitted_spec` fail, see LogInvNote.lean -/
  link : ∀ i a b, l.segs[i]? = some a → l.segs[i + 1]? = some b → b.base = a.nextOffset

theorem Inv.wf {l : CLog} (h : Inv l) : WF l.segs := ⟨⟨h.sorted, h.base_le, h.chain⟩, h.link⟩

theorem Inv.wfc {l : CLog} (h : Inv l) : WFC l.segs := h.wf.toWFC

theorem Inv.of_wf {l : CLog} (hne : l.segs ≠ []) (hm : 0 < l.maxSegBytes) (wf : WF l.segs) : Inv l :=
  ⟨hne, hm, wf.sorted, wf.base_le, wf.chain, wf.link⟩

theorem Inv.congr {l l' : CLog} (h : Inv l) (hs : l'.segs = l.segs)
    (hm : l'.maxSegBytes = l.maxSegBytes) : Inv l' :=
  Inv.of_wf (hs ▸ h.nonempty) (hm ▸ h.maxPos) (hs ▸ h.wf)

/-- Every segment but the last holds a record: the next one starts at its next offset (`link`),
strictly after its base (`chain`). -/
theorem Inv.inner_nonempty {l : CLog} (h : Inv l) : ∀ s ∈ l.segs.dropLast, s.recs ≠ [] := by
  intro s hs
  obtain ⟨i, hi, rfl⟩ := List.mem_iff_getElem.mp hs
  have hlen : i + 1 < l.segs.length := by simp at hi; omega
  rw [List.getElem_dropLast]
  have hl := h.link i _ _ (List.getElem?_eq_getElem (by omega)) (List.getElem?_eq_getElem hlen)
  have hc := (List.pairwise_iff_getElem.mp h.chain i (i + 1) (by omega) hlen (by omega)).2
  exact SegOK.recs_ne_nil (by omega)

theorem segs_eq_dropLast_active {l : CLog} (hne : l.segs ≠ []) :
    l.segs = l.segs.dropLast ++ [l.active] := by
  obtain ⟨init, z, h⟩ := (eq_nil_or_snoc l.segs).resolve_left hne
  simp [active, h]

theorem active_mem {l : CLog} (hne : l.segs ≠ []) : l.active ∈ l.segs := by
  rw [segs_eq_dropLast_active hne]; simp

theorem getLast?_segs {l : CLog} (hne : l.segs ≠ []) : l.segs.getLast? = some l.active := by
  rw [segs_eq_dropLast_active hne]; simp

theorem abs_inner_active (l : CLog) : l.abs = l.segs.dropLast.flatMap Seg.recs ++ l.active.recs := by
  rcases eq_nil_or_snoc l.segs with h | ⟨init, last, h⟩ <;> simp [abs, active, h]

theorem abs_eq_dropLast_active {l : CLog} (_ : l.segs ≠ []) :
    l.abs = l.segs.dropLast.flatMap Seg.recs ++ l.active.recs := abs_inner_active l

/-! ### What a well-formed, non-empty segment list says about the active segment
(shared by `Inv` and the invariant `InvC` of cleaned logs) -/

theorem WFC.activeOK {l : CLog} (wf : WFC l.segs) (hne : l.segs ≠ []) : SegOK l.active :=
  wf.segOK (active_mem hne)

theorem WFC.seg_cases {l : CLog} (wf : WFC l.segs) (hne : l.segs ≠ []) {a : Seg} (ha : a ∈ l.segs) :
    a = l.active ∨ (a.nextOffset ≤ l.active.base ∧ a.base < l.active.base) := by
  have hs := segs_eq_dropLast_active hne
  rw [hs] at ha
  rcases List.mem_append.mp ha with ha | ha
  · exact .inr ((wf.split hs).1 a ha)
  · exact .inl (List.mem_singleton.mp ha)

theorem WFC.seg_next_le {l : CLog} (wf : WFC l.segs) (hne : l.segs ≠ []) :
    ∀ a ∈ l.segs, a.nextOffset ≤ l.nextOffset := by
  intro a ha
  rcases wf.seg_cases hne ha with rfl | ⟨hn, _⟩
  · exact Int.le_refl _
  · exact Int.le_trans hn (wf.activeOK hne).base_le_next

theorem WFC.abs_lt_next {l : CLog} (wf : WFC l.segs) (hne : l.segs ≠ []) :
    ∀ r ∈ l.abs, r.offset < l.nextOffset :=
  wf.lt_of_next_le (fun _ ha => ha) (wf.seg_next_le hne)

/-- Rolling a segment at the next offset, which lies above every base. -/
theorem WFC.roll {l : CLog} (wf : WFC l.segs) (hne : l.segs ≠ []) (hrecs : l.active.recs ≠ []) :
    WFC l.roll.segs := by
  have hb : l.newest + 1 = l.nextOffset := by simp only [newest]; omega
  have ok := wf.activeOK hne
  have hlt := ok.base_lt_next hrecs
  refine wf.snoc ⟨?_, by simp, by simp [Sorted]⟩ fun a ha => ?_
  · show 0 ≤ l.newest + 1
    rw [hb]; exact ok.next_nonneg
  · show a.nextOffset ≤ l.newest + 1 ∧ a.base < l.newest + 1
    rw [hb]
    refine ⟨wf.seg_next_le hne a ha, ?_⟩
    rcases wf.seg_cases hne ha with rfl | ⟨_, hlt'⟩
    · exact hlt
    · exact Int.lt_trans hlt' hlt

/-- Writing increasing records at or above the next offset into the active segment. -/
theorem WFC.write {l : CLog} (wf : WFC l.segs) (hne : l.segs ≠ []) {rs : List Rec}
    (hsorted : Sorted rs) (hge : ∀ r ∈ rs, l.nextOffset ≤ r.offset) :
    WFC (l.segs.dropLast ++ [{ l.active with recs := l.active.recs ++ rs }]) := by
  have ok := wf.activeOK hne
  have hs := segs_eq_dropLast_active hne
  refine (hs ▸ wf).of_append.snoc ⟨ok.base_nonneg, fun r hr => ?_, ?_⟩ (wf.split hs).1
  · rcases List.mem_append.mp hr with hr | hr
    · exact ok.base_le r hr
    · have := hge r hr; have := ok.base_le_next
      show l.active.base ≤ r.offset
      unfold CLog.nextOffset at *; omega
  · refine sorted_append ok.sorted hsorted fun a ha b hb => ?_
    have := ok.lt_next a ha; have := hge b hb
    unfold CLog.nextOffset at *; omega

theorem Inv.activeOK {l : CLog} (h : Inv l) : SegOK l.active := h.wfc.activeOK h.nonempty

theorem Inv.next_nonneg {l : CLog} (h : Inv l) : 0 ≤ l.nextOffset := h.activeOK.next_nonneg

theorem Inv.seg_next_le {l : CLog} (h : Inv l) : ∀ a ∈ l.segs, a.nextOffset ≤ l.nextOffset :=
  h.wfc.seg_next_le h.nonempty

theorem Inv.lt_next {l : CLog} (h : Inv l) : ∀ r ∈ l.abs, r.offset < l.nextOffset :=
  h.wfc.abs_lt_next h.nonempty

theorem abs_roll (l : CLog) : l.roll.abs = l.abs := by simp [abs, roll]

theorem active_roll (l : CLog) : l.roll.active = { base := l.newest + 1, recs := [] } := by
  simp [active, roll]

theorem nextOffset_roll (l : CLog) : l.roll.nextOffset = l.nextOffset := by
  unfold CLog.nextOffset
  rw [active_roll, nextOffset_nil rfl]
  simp only [newest, CLog.nextOffset]
  omega

/-! `checkSplit` rolls or does nothing, `checkSplitIfWritable` is `checkSplit` or nothing: what a roll
keeps, both keep. A roll changes nothing but the segment list, and neither the records nor the
next offset. -/

theorem checkSplit_keeps {α} (f : CLog → α) (l : CLog) (h : f l.roll = f l) :
    f l.checkSplit = f l := by
  unfold checkSplit; split
  · exact h
  · rfl

theorem checkSplitIfWritable_keeps {α} (f : CLog → α) (l : CLog) (h : f l.checkSplit = f l) :
    f l.checkSplitIfWritable = f l := by
  unfold checkSplitIfWritable; split
  · rfl
  · exact h

theorem abs_checkSplit (l : CLog) : l.checkSplit.abs = l.abs := checkSplit_keeps abs l (abs_roll l)

theorem nextOffset_checkSplit (l : CLog) : l.checkSplit.nextOffset = l.nextOffset :=
  checkSplit_keeps CLog.nextOffset l (nextOffset_roll l)

theorem occ_checkSplit (l : CLog) : l.checkSplit.occ = l.occ := checkSplit_keeps occ l rfl

theorem readonly_checkSplit (l : CLog) : l.checkSplit.readonly = l.readonly :=
  checkSplit_keeps readonly l rfl

theorem epochs_checkSplit (l : CLog) : l.checkSplit.epochs = l.epochs := checkSplit_keeps epochs l rfl

theorem abs_checkSplitIfWritable (l : CLog) : l.checkSplitIfWritable.abs = l.abs :=
  checkSplitIfWritable_keeps abs l (abs_checkSplit l)

theorem abs_setHW (l : CLog) (hw : Int) : (l.setHW hw).abs = l.abs := by
  unfold setHW; split <;> rfl

theorem nextOffset_setHW (l : CLog) (hw : Int) : (l.setHW hw).nextOffset = l.nextOffset := by
  unfold setHW; split <;> rfl

theorem newest_setHW (l : CLog) (hw : Int) : (l.setHW hw).newest = l.newest := by
  unfold newest; rw [nextOffset_setHW]

theorem inv_setHW {l : CLog} (h : Inv l) (hw : Int) : Inv (l.setHW hw) := by
  unfold setHW; split
  · exact h.congr rfl rfl
  · exact h

theorem needSplit_recs_ne {l : CLog} (h : Inv l) (hn : l.needSplit = true) : l.active.recs ≠ [] := by
  intro he
  have := h.maxPos
  simp [needSplit, Gen.Log.splitCmp, Cmp.evalInt, Seg.position, he] at hn
  omega

theorem inv_init (m : Int) (occ : Bool) (hm : 0 < m) : Inv (CLog.init m occ) := by
  refine ⟨by simp [CLog.init], hm, by simp [CLog.init, CLog.abs], ?_, by simp [CLog.init], ?_⟩
  · intro s hs
    simp [CLog.init] at hs
    subst hs
    simp
  · intro i a b ha hb
    simp [CLog.init] at hb

theorem inv_roll_of_ne {l : CLog} (h : Inv l) (hne : l.active.recs ≠ []) : Inv l.roll :=
  Inv.of_wf (by simp [roll]) h.maxPos ⟨h.wfc.roll h.nonempty hne, Link.snoc h.link fun a ha => by
    cases (getLast?_segs h.nonempty).symm.trans ha
    show l.newest + 1 = l.nextOffset
    simp only [newest]; omega⟩

theorem inv_roll {l : CLog} (h : Inv l) (hn : l.needSplit = true) : Inv l.roll :=
  inv_roll_of_ne h (needSplit_recs_ne h hn)

theorem inv_checkSplit {l : CLog} (h : Inv l) : Inv l.checkSplit := by
  unfold checkSplit; split
  · rename_i hn; exact inv_roll h hn
  · exact h

theorem inv_checkSplitIfWritable {l : CLog} (h : Inv l) : Inv l.checkSplitIfWritable := by
  unfold checkSplitIfWritable; split
  · exact h
  · exact inv_checkSplit h

theorem write_eq (l : CLog) {rs : List Rec} (hne : rs ≠ []) :
    l.write rs = .ok ({ l with segs := l.segs.dropLast ++ [{ l.active with recs := l.active.recs ++ rs }],
                               epochs := assignEpochs l.epochs l.epochs.latestEpoch rs },
                      rs.map Rec.offset) := by
  simp [write, setActive, hne]

theorem write_ok_ne {l l' : CLog} {rs : List Rec} {offs : List Int}
    (h : l.write rs = .ok (l', offs)) : rs ≠ [] := by
  rintro rfl
  simp [write] at h

theorem write_spec {l l' : CLog} {rs : List Rec} {offs : List Int} (hne : l.segs ≠ [])
    (h : l.write rs = .ok (l', offs)) : l'.abs = l.abs ++ rs ∧ offs = rs.map Rec.offset := by
  rw [write_eq l (write_ok_ne h)] at h
  cases h
  exact ⟨by rw [abs_inner_active l]; simp [abs], rfl⟩

theorem inv_write {l l' : CLog} {rs : List Rec} {offs : List Int} (h : Inv l)
    (hsorted : Sorted rs) (hge : ∀ r ∈ rs, l.nextOffset ≤ r.offset)
    (hw : l.write rs = .ok (l', offs)) : Inv l' := by
  rw [write_eq l (write_ok_ne hw)] at hw
  cases hw
  have hl : Link (l.segs.dropLast ++ [l.active]) := segs_eq_dropLast_active h.nonempty ▸ h.link
  exact Inv.of_wf (by simp) h.maxPos
    ⟨h.wfc.write h.nonempty hsorted hge, hl.of_append.snoc fun _ ha => hl.last_pre ha⟩

def mkRec (o : Int) (m : Msg) : Rec := { offset := o, ts := m.ts, epoch := m.epoch, body := m.body }

/-- One step of `newMessageSetFromProto`: the message is encoded, then checked against its expected
offset, then the rest of the batch follows (an unencodable message is an error). -/
theorem stamp_cons (occ : Bool) (base : Int) (i : Nat) (m : Msg) (ms : List Msg) :
    stamp occ base i (m :: ms) =
      if m.body.encodable = false then .err "encode"
      else if occ = true ∧ m.expected ≠ -1 ∧ m.expected ≠ base + i then .err "incorrect-offset"
      else stamp occ base (i + 1) ms >>= fun rest => .ok (mkRec (base + i) m :: rest) := by
  simp only [stamp, Gen.Log.encodeErrPanics, Gen.Log.occWaiveCmp, Gen.Log.occExpectedCmp, Cmp.evalInt,
    mkRec, Bool.and_eq_true, decide_eq_true_eq, Bool.not_eq_true', ne_comm (a := base + (i : Int)),
    and_assoc, Bool.false_eq_true, if_false]

theorem stamp_cons_ok {occ : Bool} {base : Int} {i : Nat} {m : Msg} {ms : List Msg} {rs : List Rec} :
    stamp occ base i (m :: ms) = .ok rs ↔
      m.body.encodable = true ∧ ¬(occ = true ∧ m.expected ≠ -1 ∧ m.expected ≠ base + i) ∧
      ∃ rest, stamp occ base (i + 1) ms = .ok rest ∧ rs = mkRec (base + i) m :: rest := by
  rw [stamp_cons]
  by_cases he : m.body.encodable = false
  · simp [he]
  by_cases hr : occ = true ∧ m.expected ≠ -1 ∧ m.expected ≠ base + i
  · simp [he, hr]
  · rw [if_neg he, if_neg hr, Res.bind_eq_ok]
    simp [he, hr, eq_comm (a := rs)]

theorem stamp_spec (occ : Bool) (base : Int) (ms : List Msg) :
    ∀ (i : Nat) (rs : List Rec), stamp occ base i ms = .ok rs →
    rs.map Rec.offset = (List.range ms.length).map (fun (k : Nat) => base + ((i + k : Nat) : Int)) ∧
    rs.map (fun r => (r.ts, r.epoch, r.body)) = ms.map (fun m => (m.ts, m.epoch, m.body)) ∧
    Sorted rs ∧ ∀ r ∈ rs, base + (i : Int) ≤ r.offset := by
  induction ms with
  | nil =>
    intro i rs h
    cases h
    simp [Sorted]
  | cons m ms ih =>
    intro i rs h
    obtain ⟨-, -, rest, hrest, rfl⟩ := stamp_cons_ok.mp h
    obtain ⟨h1, h2, h3, h4⟩ := ih (i + 1) rest hrest
    refine ⟨?_, by simp [h2, mkRec], List.pairwise_cons.mpr ⟨fun r hr => ?_, h3⟩, fun r hr => ?_⟩
    · simp only [List.map_cons, List.length_cons, List.range_succ_eq_map, List.map_map, h1, mkRec,
        Nat.add_zero, List.cons.injEq, true_and]
      exact List.map_congr_left fun k _ => by simp only [Function.comp]; omega
    · have := h4 r hr
      show base + (i : Int) < r.offset
      omega
    · rcases List.mem_cons.mp hr with rfl | hr
      · exact Int.le_refl _
      · have := h4 r hr; omega

theorem stamp_no_panic (occ : Bool) (base : Int) (ms : List Msg) (i : Nat) :
    stamp occ base i ms ≠ .panic := by
  induction ms generalizing i with
  | nil => simp [stamp]
  | cons m ms ih =>
    rw [stamp_cons]
    split
    · simp
    split
    · simp
    have := ih (i + 1)
    cases h : stamp occ base (i + 1) ms <;> simp_all

theorem stamp_ne_nil {occ : Bool} {base : Int} {i : Nat} {ms : List Msg} {rs : List Rec}
    (hne : ms ≠ []) (h : stamp occ base i ms = .ok rs) : rs ≠ [] := by
  obtain ⟨m, ms, rfl⟩ := List.exists_cons_of_ne_nil hne
  obtain ⟨-, -, rest, -, rfl⟩ := stamp_cons_ok.mp h
  exact List.cons_ne_nil _ _

/-- The concurrency-control check refuses the message. -/
def Refused (l : CLog) (m : Msg) : Prop :=
  l.occ = true ∧ m.expected ≠ -1 ∧ m.expected ≠ l.nextOffset

instance (l : CLog) (m : Msg) : Decidable (Refused l m) := by unfold Refused; infer_instance

/-- `Append` of one message on a writable log, spelled out: the message is encoded first, then
checked against the expected offset, then written. -/
theorem append_single (l : CLog) (m : Msg) (hro : l.readonly = false) :
    l.append [m] =
      if m.body.encodable = false then .err "encode"
      else if Refused l m then .err "incorrect-offset"
      else l.checkSplit.write [mkRec l.nextOffset m] := by
  have stamp_nil : ∀ occ base i, stamp occ base i [] = .ok [] := fun _ _ _ => rfl
  simp only [append, hro, Gen.Log.occBatchCmp, Cmp.evalNat, stamp_cons, stamp_nil, occ_checkSplit,
    nextOffset_checkSplit, Refused, List.length_singleton, Nat.lt_irrefl, gt_iff_lt, decide_false,
    Bool.and_false, Bool.false_eq_true, if_false, Int.natCast_zero, Int.add_zero, Res.bind_ok]
  split
  · rfl
  · split <;> rename_i h <;> simp [h]

theorem append_ok {l l' : CLog} {ms : List Msg} {offs : List Int}
    (ha : l.append ms = .ok (l', offs)) :
    ∃ rs, stamp l.checkSplit.occ l.checkSplit.nextOffset 0 ms = .ok rs ∧
      l.checkSplit.write rs = .ok (l', offs) := by
  unfold append at ha
  split at ha
  · cases ha
  simp only at ha
  split at ha
  · cases ha
  exact Res.bind_eq_ok.mp ha

theorem append_full {l l' : CLog} {ms : List Msg} {offs : List Int} (h : Inv l)
    (ha : l.append ms = .ok (l', offs)) :
    Inv l' ∧ offs = (List.range ms.length).map (fun (i : Nat) => l.nextOffset + (i : Int)) ∧
    ∃ rs, l'.abs = l.abs ++ rs ∧ rs.map Rec.offset = offs ∧
      rs.map (fun r => (r.ts, r.epoch, r.body)) = ms.map (fun m => (m.ts, m.epoch, m.body)) := by
  obtain ⟨rs, hst, hw⟩ := append_ok ha
  have hi := inv_checkSplit h
  obtain ⟨h1, h2, h3, h4⟩ := stamp_spec _ _ _ _ _ hst
  obtain ⟨w1, w2⟩ := write_spec hi.nonempty hw
  rw [abs_checkSplit] at w1
  rw [nextOffset_checkSplit] at h1
  simp only [Nat.zero_add] at h1
  exact ⟨inv_write hi h3 (by simpa using h4) hw, by rw [w2, h1], rs, w1, by rw [w2], h2⟩

theorem appendSet_full {l l' : CLog} {rs : List Rec} {offs : List Int} (h : Inv l)
    (ha : l.appendSet rs = .ok (l', offs)) : l'.abs = l.abs ++ rs ∧ offs = rs.map Rec.offset := by
  have := write_spec (inv_checkSplit h).nonempty ha
  rwa [abs_checkSplit] at this

theorem inv_appendSet {l l' : CLog} {rs : List Rec} {offs : List Int} (h : Inv l)
    (hsorted : Sorted rs) (hge : ∀ r ∈ rs, l.nextOffset ≤ r.offset)
    (ha : l.appendSet rs = .ok (l', offs)) : Inv l' :=
  inv_write (inv_checkSplit h) hsorted (by simpa [nextOffset_checkSplit] using hge) ha

theorem truncate_cases {l : CLog} (h : Inv l) (o : Int) :
    ((∀ a ∈ l.segs, a.nextOffset ≤ o) ∧ l.truncate o = l) ∨
    ∃ pre x post, l.segs = pre ++ x :: post ∧ o < x.nextOffset ∧ (∀ a ∈ pre, a.nextOffset ≤ o) ∧
      ((x.base = o ∧ pre ≠ [] ∧
          l.truncate o = { l with segs := pre, epochs := l.epochs.clearLatest o }) ∨
       (¬(x.base = o ∧ pre ≠ []) ∧
          l.truncate o = { l with
            segs := pre ++ [{ x with recs := x.recs.takeWhile (fun r => decide (r.offset < o)) }],
            epochs := l.epochs.clearLatest o })) := by
  rcases findSegmentIdx_cases h.wfc o with ⟨hi, hall⟩ | ⟨pre, x, post, hs, hi, hx, hpre⟩
  · left; refine ⟨hall, ?_⟩
    unfold truncate; rw [hi]
  · right; refine ⟨pre, x, post, hs, hx, hpre, ?_⟩
    have hget : l.segs[pre.length]? = some x := by simp [hs]
    have htake : l.segs.take pre.length = pre := by rw [hs]; exact List.take_left' rfl
    have hlen : pre.length ≠ 0 ↔ pre ≠ [] := by cases pre <;> simp
    unfold truncate
    rw [hi]
    simp only [hget, htake, Gen.Log.truncateBaseCmp, Gen.Log.truncateKeepCmp, Cmp.evalInt,
      decide_eq_true_eq, hlen]
    by_cases hc : x.base = o ∧ pre ≠ []
    · left; exact ⟨hc.1, hc.2, by rw [if_pos hc]⟩
    · right; exact ⟨hc, by rw [if_neg hc]⟩

theorem truncate_abs {l : CLog} (h : Inv l) (o : Int) :
    (l.truncate o).abs = l.abs.filter (fun r => decide (r.offset < o)) := by
  rcases truncate_cases h o with ⟨hall, ht⟩ | ⟨pre, x, post, hs, hx, hpre, hc⟩
  · rw [ht, List.filter_eq_self.mpr]
    exact fun r hr => by simpa using h.wfc.lt_of_next_le (fun _ ha => ha) hall r hr
  · have okx : SegOK x := h.wf.segOK (by simp [hs])
    have habs : l.abs = pre.flatMap Seg.recs ++ (x.recs ++ post.flatMap Seg.recs) := by
      simp [abs, hs]
    have hf1 : (pre.flatMap Seg.recs).filter (fun r => decide (r.offset < o)) = pre.flatMap Seg.recs :=
      List.filter_eq_self.mpr fun r hr => by
        simpa using h.wfc.lt_of_next_le (fun a ha => by simp [hs, ha]) hpre r hr
    have hf3 : (post.flatMap Seg.recs).filter (fun r => decide (r.offset < o)) = [] :=
      List.filter_eq_nil_iff.mpr fun r hr => by have := h.wf.post_ge hs r hr; simp; omega
    rw [habs, List.filter_append, List.filter_append, hf1, hf3, List.append_nil,
      filter_lt_eq_takeWhile _ _ okx.sorted]
    rcases hc with ⟨hb, _, ht⟩ | ⟨_, ht⟩ <;> rw [ht]
    · -- the whole segment is dropped: none of its records lies below its base `o`
      have : x.recs.takeWhile (fun r => decide (r.offset < o)) = [] := by
        rw [← filter_lt_eq_takeWhile _ _ okx.sorted]
        exact List.filter_eq_nil_iff.mpr fun r hr => by have := okx.base_le r hr; simp; omega
      simp [abs, this]
    · simp [abs]

theorem inv_truncate {l : CLog} (h : Inv l) (o : Int) : Inv (l.truncate o) := by
  rcases truncate_cases h o with ⟨hall, ht⟩ | ⟨pre, x, post, hs, hx, hpre, hc⟩
  · rw [ht]; exact h
  · have wf := h.wf
    rw [hs] at wf
    rcases hc with ⟨hb, hne, ht⟩ | ⟨_, ht⟩ <;> rw [ht]
    · exact Inv.of_wf hne h.maxPos wf.of_append
    · exact Inv.of_wf (by simp) h.maxPos
        (wf.replace ((h.wf.segOK (by simp [hs])).sublist (List.takeWhile_sublist _)) rfl)

theorem getLast?_append_ne {α} {xs ys : List α} (h : ys ≠ []) :
    (xs ++ ys).getLast? = ys.getLast? := by
  obtain ⟨init, z, rfl⟩ := (eq_nil_or_snoc ys).resolve_left h
  rw [← List.append_assoc, List.getLast?_concat, List.getLast?_concat]

theorem nextOffset_last {l : CLog} (h : Inv l) {r : Rec} (hr : l.abs.getLast? = some r) :
    l.nextOffset = r.offset + 1 := by
  have hs := segs_eq_dropLast_active h.nonempty
  rw [abs_inner_active] at hr
  by_cases hne : l.active.recs = []
  · -- the active segment is empty: it starts at the next offset of the one before, which holds `r`
    rw [hne, List.append_nil] at hr
    rcases eq_nil_or_snoc l.segs.dropLast with hn | ⟨init, a, ha⟩
    · simp [hn] at hr
    · have hl : Link (l.segs.dropLast ++ [l.active]) := hs ▸ h.link
      have hlink := hl.last_pre (a := a) (by simp [ha])
      have hane := h.inner_nonempty a (by simp [ha])
      rw [ha, List.flatMap_append, List.flatMap_cons, List.flatMap_nil, List.append_nil,
        getLast?_append_ne hane] at hr
      have := (h.wf.segOK (s := a) (by rw [hs, ha]; simp)).next_eq_last hr
      unfold CLog.nextOffset
      rw [nextOffset_nil hne]; omega
  · rw [getLast?_append_ne hne] at hr
    exact h.activeOK.next_eq_last hr

theorem newest_last {l : CLog} (h : Inv l) {r : Rec} (hr : l.abs.getLast? = some r) :
    l.newest = r.offset := by
  rw [newest, nextOffset_last h hr]; omega

/-- `OldestOffset` on the flat log: the first segment holds a record unless it is the only one. -/
theorem oldest_eq {l : CLog} (hin : ∀ s ∈ l.segs.dropLast, s.recs ≠ []) :
    l.oldest = (l.abs.head?.map Rec.offset).getD (-1) := by
  cases hsegs : l.segs with
  | nil => simp [oldest, abs, hsegs]
  | cons s0 rest =>
    cases hrecs : s0.recs with
    | cons r rs => simp [oldest, abs, hsegs, Seg.firstOffset, hrecs]
    | nil =>
      cases rest with
      | nil => simp [oldest, abs, hsegs, Seg.firstOffset, hrecs]
      | cons b rest' => exact absurd hrecs (hin s0 (by simp [hsegs]))

theorem oldest_ne_of {l : CLog} (wf : WFC l.segs) (hin : ∀ s ∈ l.segs.dropLast, s.recs ≠ [])
    (hne : l.abs ≠ []) : l.oldest ≠ -1 := by
  obtain ⟨r, rs, h⟩ := List.exists_cons_of_ne_nil hne
  have := wf.ge_of_le_base (fun _ h => h) (fun a ha => (wf.base_le a ha).1) r (by
    show r ∈ l.abs
    simp [h])
  rw [oldest_eq hin, h]
  simp; omega

theorem oldest_ne {l : CLog} (h : Inv l) (hne : l.abs ≠ []) : l.oldest ≠ -1 :=
  oldest_ne_of h.wfc h.inner_nonempty hne

theorem dense_append {xs rs : List Rec} {n : Int}
    (hd : ∀ i (h : i + 1 < xs.length), xs[i + 1].offset = xs[i].offset + 1)
    (hlast : ∀ r, xs.getLast? = some r → n = r.offset + 1)
    (hrs : rs.map Rec.offset = (List.range rs.length).map (fun (i : Nat) => n + (i : Int))) :
    ∀ i (h : i + 1 < (xs ++ rs).length), (xs ++ rs)[i + 1].offset = (xs ++ rs)[i].offset + 1 := by
  have hk : ∀ k (hk : k < rs.length), rs[k].offset = n + (k : Int) := by
    intro k hk
    have := congrArg (fun l => l[k]?) hrs
    simpa [hk] using this
  intro i hi
  rw [List.length_append] at hi
  rcases Nat.lt_or_ge (i + 1) xs.length with h1 | h1
  · rw [List.getElem_append_left h1, List.getElem_append_left (by omega)]
    exact hd i h1
  · rcases Nat.lt_or_ge i xs.length with h2 | h2
    · -- the junction: `xs[i]` is the last record of `xs`
      have hl : xs.getLast? = some xs[i] := by
        rw [List.getLast?_eq_getElem?, ← List.getElem?_eq_getElem h2]; congr 1; omega
      rw [List.getElem_append_right h1, List.getElem_append_left h2, hk, hlast _ hl]
      omega
    · rw [List.getElem_append_right h1, List.getElem_append_right h2, hk, hk]
      omega

end Liftbridge.Proofs.Log
