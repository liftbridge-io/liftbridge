import Lean.Meta.Tactic.Simp.RegisterCommand
/-- the equations of the GoMini interpreter, one per constructor, with which `simp` runs translated code (GoMiniLemmas.lean) -/
register_simp_attr gomini
