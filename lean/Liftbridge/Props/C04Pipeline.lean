/-
C04 — Acknowledgements mean what the ack policy says: the LEADER'S PUBLISH PIPELINE.

Model: `Liftbridge/Model/Pipeline.lean` — `messageProcessingLoop` with its receive sites (every
site evaluated through the regenerated per-site facts `Gen.Pipeline.sites`), the Append error
path, `processPendingMessage`, the RF=1 fast path and `commitLoop` with its gate, within one
leadership term. The theorems are about ARBITRARY event sequences (`Pipeline.run`, induction via
the invariant `Proofs.Pipeline.Inv`): receives at any site the control state allows, batch
dispatches, commit-loop iterations, replica progress reports, ISR shrinks and expansions, from any
initial ISR (also one that is below `minISR` from the start), any replication factor / min ISR /
batch size, with or without optimistic concurrency control.

They rest on structural facts of the source (`source_facts`); a site that does not leave before the
join, a nack that is dropped, a commit gate that does not read the current ISR size make
`Proofs.Pipeline.facts_*` — and with them every theorem below — fail to check.

What is NOT here: that a replica's REPORTED offset means it really stores the prefix (that is the
cross-term business of Props/C04.lean: `C04_partial`, `isrOff_sound_within_term` and the known
findings); the commit log itself (C01 / C16: Append assigns contiguous offsets and stores nothing
when it refuses an expected offset).
-/
import Liftbridge.Model.Pipeline
import Liftbridge.Proofs.Pipeline

namespace Liftbridge.Props.C04Pipeline
open Liftbridge Liftbridge.Pipeline Liftbridge.Proofs.Pipeline
open Liftbridge.Protocol (PubMsg Ack Policy AckErr Sid lookup)

/-- The structural facts regenerated from server/partition.go that the theorems below rest on:
every receive site of `messageProcessingLoop` checks seal errors and the size, sends the negative
ack and leaves before `msgBatch = append(msgBatch, m)`; a refused Append leaves before any positive
ack is built and nacks `msgBatch[0]` with INCORRECT_OFFSET; with concurrency control the batch size
is 1; a positive ack takes offset / correlation id / inbox / policy from `offsets[i]` and
`msgBatch[i]`; the commit loop's gate compares the current size of `p.isr` with `p.minISR`. -/
theorem source_facts :
    Gen.Pipeline.sites.all siteSound = true ∧ 3 ≤ Gen.Pipeline.sites.length ∧
    Gen.Pipeline.appendErrSkips = true ∧ Gen.Pipeline.incorrectOffsetNack = true ∧
    Gen.Pipeline.incorrectOffsetNackFirst = true ∧ Gen.Partition.occBatchOne = true ∧
    ackFieldsOK = true ∧ Gen.Pipeline.commitGateCurrentIsr = true ∧ Gen.Pipeline.commitGateCmp = .lt := by
  decide

/-- Rejected ⇒ negatively acknowledged and never stored. After any event sequence, every message the
property calls rejected — its seal failed, it was too large (at whatever receive site it arrived),
or Append refused its expected offset — is listed in `rejected` (first clause), is at no offset of
the leader's log and in no pending batch, has no positive ack published or queued, and, if it
carried an ack inbox, its negative ack with its correlation id and the reason was published. -/
theorem rejected_nacked_not_stored (c : Cfg) (isr : List Sid) (evs : List Ev) :
    let st := run c (init isr) evs
    (∀ m ∈ st.received, ∀ e, rejectReason m = some e → (m, e) ∈ st.rejected) ∧
    ∀ p ∈ st.rejected,
      (∀ s ∈ st.log, s.seq ≠ p.1.mid) ∧ (∀ m ∈ st.batch, m.mid ≠ p.1.mid) ∧
      (∀ a ∈ st.acks ++ st.queue, a.err = .ok → a.mid ≠ p.1.mid) ∧
      (p.1.ackInbox = true → ∃ a ∈ st.acks, a.mid = p.1.mid ∧ a.cid = p.1.cid ∧ a.err = p.2 ∧ p.2 ≠ .ok) := by
  intro st
  have J : Inv c st := inv_run evs (inv_init c isr)
  refine ⟨J.rejComplete, fun p hp => ⟨?_, ?_, ?_, ?_⟩⟩
  · exact fun s hs h => J.logNotRej s hs p hp h.symm
  · exact fun m hm h => J.batchNotRej m hm p hp h.symm
  · exact fun a ha hok hmid => J.justified_not_rejected
      ((List.mem_append.mp ha).elim (fun ha => (J.ackOK a ha hok).2) fun ha => (J.queueOK a ha).2) hp hmid.symm
  · intro hin
    obtain ⟨a, ha, h1, h2, h3⟩ := J.nacked p hp hin
    -- the reason is never `ok`: a positive ack points into the log, which holds nothing rejected
    exact ⟨a, ha, h1, h2, h3, fun hok => J.justified_not_rejected (J.ackOK a ha (h3.trans hok)).2 hp h1.symm⟩

/-- Positive ack ⇒ stored at that offset with that correlation id. After any event sequence, every
positive ack on the ack stream carries an offset of the leader's log at which exactly the
acknowledged message is stored, together with the correlation id and the ack policy that message
was published with; the policy is LEADER or ALL (never NONE). Since the invariant holds in every
state, a LEADER ack is only ever on the stream when the leader has stored the message. -/
theorem positive_ack_stored (c : Cfg) (isr : List Sid) (evs : List Ev) :
    let st := run c (init isr) evs
    ∀ a ∈ st.acks, a.err = .ok →
      a.policy ≠ .none ∧
      ∃ o : Nat, a.offset = (o : Int) ∧ st.log[o]? = some ⟨a.mid, a.cid⟩ ∧
        ∃ m ∈ st.received, m.mid = a.mid ∧ m.cid = a.cid ∧ m.policy = a.policy ∧ rejectReason m = none := by
  intro st a ha hok
  have J : Inv c st := inv_run evs (inv_init c isr)
  obtain ⟨h1, o, h2, h3, m, hm, h4, h5, h6⟩ := J.ackOK a ha hok
  refine ⟨h1, o, h2, h3, m, hm, h4, h5, h6, ?_⟩
  cases hr : rejectReason m with
  | none => rfl
  | some e => exact absurd h4 (J.justified_not_rejected (J.ackOK a ha hok).2 (J.rejComplete m hm e hr))

/-- NONE ⇒ no ack. A message published with the NONE policy never gets a positive ack, whatever
site it arrived at and whatever happens afterwards. -/
theorem none_never_acked (c : Cfg) (isr : List Sid) (evs : List Ev) :
    let st := run c (init isr) evs
    ∀ m ∈ st.received, m.policy = .none → ∀ a ∈ st.acks, a.err = .ok → a.mid ≠ m.mid := by
  intro st m hm hnone a ha hok hmid
  have J : Inv c st := inv_run evs (inv_init c isr)
  obtain ⟨h1, _, _, _, m', hm', h4, _, h6⟩ := J.ackOK a ha hok
  have : m' = m := received_unique J hm' hm (by rw [h4, hmid])
  subst this
  rw [hnone] at h6
  exact h1 h6.symm

/-- ALL ack ⇒ |ISR at that moment| ≥ minISR, every ISR member reported it, the leader stores it.
In the state reached by any event sequence, a positive ALL-policy ack is published only by a
commit-loop iteration, and then the CURRENT in-sync set of the leader has at least `minISR`
members, the offset recorded for every one of them is at least the ack's offset, and the leader's
log holds exactly that message with that correlation id at that offset. In particular a partition
whose ISR is below the minimum — from the start or after a shrink — never acknowledges ALL. -/
theorem all_ack_checked (c : Cfg) (isr : List Sid) (evs : List Ev) (e : Ev) (st' : St) :
    let st := run c (init isr) evs
    step c st e = some st' → ∀ a ∈ newAcks st st', a.err = .ok → a.policy = .all →
      e = .commit ∧ c.minISR ≤ st.isr.length ∧ (∀ r v, lookup st.isr r = some v → a.offset ≤ v) ∧
      ∃ o : Nat, a.offset = (o : Int) ∧ st.log[o]? = some ⟨a.mid, a.cid⟩ := by
  intro st h a ha hok hall
  have J : Inv c st := inv_run evs (inv_init c isr)
  obtain ⟨he, hc⟩ := all_ack_from_commit h ha hok hall
  obtain ⟨_, hq, hmin, hle⟩ := commitAcks_checked hc
  obtain ⟨o, h1, h2, _⟩ := (J.queueOK a hq).2
  exact ⟨he, hmin, hle, o, h1, h2⟩

/-- Below the minimum ISR size the commit loop publishes nothing and does not move the HW. -/
theorem below_min_isr_no_commit (c : Cfg) (st : St) (h : st.isr.length < c.minISR) :
    commitAcks c st = [] ∧ (commit c st).hw = st.hw ∧ (commit c st).queue = st.queue := by
  have hg : gate c st = true := by
    simp [gate, facts_gate, facts_gateCmp, Cmp.evalNat, h]
  simp [commitAcks, commit, hg]

/-- The batch-level `Protocol.screen` (behind `nack_not_stored`, `ack_leader_step`, … of
Props/C04.lean) is justified site by site: whatever sound sites the messages of a batch arrive at,
the receive phase lets through and negatively acknowledges exactly what `screen` says. -/
theorem screen_is_sitewise (c : Cfg) (xs : List (Site × PubMsg)) (hs : ∀ p ∈ xs, p.1 ∈ Gen.Pipeline.sites) :
    joinAll c xs = Protocol.screen c.me 0 (xs.map (·.2)) :=
  joinAll_eq_screen c xs (fun p hp => List.all_eq_true.mp facts_sites p.1 (hs p hp))

/-! ### non-vacuity -/

/-- A batch opened by a small message (site 0), an oversized message arriving during the timed
wait (site 2), a small NONE-policy message drained (site 1), dispatch, commit on a single-replica
partition: offsets 0 and 1 are stored, the oversized message got its TOO_LARGE nack and is not
stored, the LEADER message is acked at offset 0, the NONE message is not acked. -/
example :
    let st := run { rf := 1, minISR := 1 } (init [0])
      [.recv 0 { mid := 0, cid := 10, policy := .leader }, .recv 2 { mid := 0, cid := 11, policy := .leader, tooLarge := true },
       .recv 1 { mid := 0, cid := 12, policy := .none }, .dispatch, .commit]
    (st.log, st.acks.map (fun a => (a.cid, a.err, a.offset)), st.rejected.map (fun p => (p.1.cid, p.2)), st.hw) =
      ([⟨0, 10⟩, ⟨2, 12⟩], [(11, .tooLarge, 0), (10, .ok, 0)], [(11, .tooLarge)], 1) := by
  decide

/-- A partition that STARTS with an ISR below the minimum (replication factor 1, min ISR 2): the
LEADER-policy message is acked, the ALL-policy message is stored and queued but never acked, and the
HW does not move past the fast-path value. -/
example :
    let st := run { rf := 1, minISR := 2 } (init [0])
      [.recv 0 { mid := 0, cid := 10, policy := .leader }, .dispatch, .commit,
       .recv 0 { mid := 0, cid := 11, policy := .all }, .dispatch, .commit, .commit]
    (st.log.length, st.acks.map (fun a => (a.cid, a.err, a.offset)), st.queue.map (·.cid), st.hw) =
      (2, [(10, .ok, 0)], [11], 0) := by
  decide

/-- Optimistic concurrency control: a wrong expected offset is nacked with INCORRECT_OFFSET and
nothing is stored; the right one is stored and acked. -/
example :
    let st := run { rf := 1, minISR := 1, occ := true } (init [0])
      [.recv 0 { mid := 0, cid := 10, policy := .leader, expected := 5 }, .dispatch,
       .recv 0 { mid := 0, cid := 11, policy := .leader, expected := 0 }, .dispatch]
    (st.log, st.acks.map (fun a => (a.cid, a.err, a.offset))) = ([⟨1, 11⟩], [(10, .incorrectOffset, 0), (11, .ok, 0)]) := by
  decide

end Liftbridge.Props.C04Pipeline
