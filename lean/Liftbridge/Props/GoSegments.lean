/-
The segment lookups of the commit-log model ARE the translated Go code.

`Gen/GoSegments.lean` holds server/commitlog/util.go (`findSegment`, `findSegmentContains`,
`findSegmentByBaseOffset`, `roundDown`). For every list of segments and every offset the translated
bodies return the segment (and index) the model's `CLog.findSegmentIdx` /
`CLog.findSegmentByBaseIdx` compute; the binary search of the embedding is Go's `sort.Search`
literally (`GoMini.search = goSearch`, Proofs/GoCodeBase). No sortedness is assumed: the equality
holds on any list, the *meaning* of the result on sorted lists is Proofs/Search.
-/
import Liftbridge.Proofs.GoCodeBase
import Liftbridge.Gen.GoSegments

namespace Liftbridge.Props.GoSegments
open Liftbridge Liftbridge.GoMini Liftbridge.GoCode Liftbridge.Log
open Liftbridge.Gen.GoSegments


theorem translation_complete : unsupported = [] := rfl

def encSegs (segs : List Seg) : Val := .list (segs.map encSeg)

@[simp] theorem lk_a : evalE.lookup' "findSegment" prog = some fn_findSegment := by simp [prog, gomini]
@[simp] theorem lk_b : evalE.lookup' "findSegmentContains" prog = some fn_findSegmentContains := by simp [prog, gomini]
@[simp] theorem lk_c : evalE.lookup' "findSegmentByBaseOffset" prog = some fn_findSegmentByBaseOffset := by simp [prog, gomini]
@[simp] theorem lk_d : evalE.lookup' "roundDown" prog = some fn_roundDown := by simp [prog, gomini]
@[simp] theorem lk_e : evalE.lookup' "NextOffset" prog = none := by simp [prog, gomini]

@[simp] theorem sig_a : fn_findSegment.recv = none ∧ fn_findSegment.params = ["segments", "offset"] := ⟨rfl, rfl⟩
@[simp] theorem sig_b : fn_findSegmentContains.recv = none ∧ fn_findSegmentContains.params = ["segments", "offset"] := ⟨rfl, rfl⟩
@[simp] theorem sig_c : fn_findSegmentByBaseOffset.recv = none ∧ fn_findSegmentByBaseOffset.params = ["segments", "offset"] := ⟨rfl, rfl⟩
@[simp] theorem sig_d : fn_roundDown.recv = none ∧ fn_roundDown.params = ["total", "factor"] := ⟨rfl, rfl⟩

theorem facts : Gen.Log.findSegmentCmp = .gt ∧ Gen.Log.findSegmentByBaseCmp = .ge ∧ Gen.Log.containsCmp = .le := by decide

/-- what `findSegment` returns, from the model's index -/
def segResult (segs : List Seg) : Option Nat → List Val
  | some i => [match segs[i]? with | some s => encSeg s | none => .nil, .int i]
  | none => [.nil, .int segs.length]

/-- the model's search index for `findSegment` -/
def fsIdx (segs : List Seg) (offset : Int) : Nat :=
  goSearch segs.length (fun i => match segs[i]? with | some s => Gen.Log.findSegmentCmp.evalInt s.nextOffset offset | none => true)

theorem findSegmentIdx_eq (segs : List Seg) (offset : Int) :
    CLog.findSegmentIdx segs offset = if fsIdx segs offset = segs.length then none else some (fsIdx segs offset) := rfl

/-- `sort.Search` over the indices of the segment list with a predicate that compares one field of the segment with the
offset: the shape of both look-ups (`j`: the model's name for the index, `fsIdx` or `fbIdx`) -/
theorem search_segs (segs : List Seg) (offset : Int) (field : Seg → Int) (cmp : Cmp) (j : Nat)
    (hj : j = goSearch segs.length fun i => match segs[i]? with | some s => cmp.evalInt (field s) offset | none => true)
    (f : Nat → R Bool) (h : ∀ k (hk : k < segs.length), f k = .ok (cmp.evalInt (field segs[k]) offset)) :
    search segs.length f = .ok j :=
  hj ▸ search_eq _ _ _ fun k hk => by simp [h k hk, hk]

theorem findSegment_body (n : Nat) (segs : List Seg) (offset : Int) (eff : List (String × List Val)) :
    runBlock (exec prog noExt (n + 12)) fn_findSegment.body
        { env := envOf [("segments", encSegs segs), ("offset", .int offset)], eff := eff } =
      .ok (.ret (segResult segs (CLog.findSegmentIdx segs offset)),
        (({ env := envOf [("segments", encSegs segs), ("offset", .int offset)], eff := eff } : St).set "n" (.int segs.length)).set "idx"
          (.int (fsIdx segs offset))) := by
  have hle : fsIdx segs offset ≤ segs.length := Proofs.goSearch_le _ _
  simp [fn_findSegment, gomini, encSegs]
  rw [search_segs segs offset Seg.nextOffset Gen.Log.findSegmentCmp (fsIdx segs offset) rfl, findSegmentIdx_eq]
  · by_cases hlt : fsIdx segs offset < segs.length
    · have h1 : fsIdx segs offset ≠ segs.length := by omega
      simp [h1, hlt, gomini, binInt, segResult, Int.natCast_inj]
    · have h1 : fsIdx segs offset = segs.length := by omega
      simp [h1, gomini, binInt, segResult]
  · intro k hk
    simp [gomini, hk, encSeg, binInt, facts, Cmp.evalInt]

/-- `findSegment(segments, offset)`: the first segment whose next offset is above `offset` and its index,
or `(nil, len)` — exactly the model's `findSegmentIdx`, for every list and offset. -/
theorem go_findSegment (segs : List Seg) (offset : Int) :
    run prog noExt 20 "findSegment" none [encSegs segs, .int offset] =
      .ok { rets := segResult segs (CLog.findSegmentIdx segs offset), recv := none, eff := [] } := by
  simp [run, runG, gomini, findSegment_body]

/-- what `findSegmentContains` returns -/
def containsResult (segs : List Seg) (offset : Int) : List Val :=
  match CLog.findSegmentIdx segs offset with
  | none => [.nil, .bool false]
  | some i => match segs[i]? with
    | some s => [encSeg s, .bool (Gen.Log.containsCmp.evalInt s.base offset)]
    | none => [.nil, .bool false]

/-- `findSegmentContains`: the segment found by `findSegment`, and whether its base offset is at or below
the offset (an offset in a gap BEFORE the segment is "not contained") -/
theorem go_findSegmentContains (segs : List Seg) (offset : Int) :
    run prog noExt 30 "findSegmentContains" none [encSegs segs, .int offset] =
      .ok { rets := containsResult segs offset, recv := none, eff := [] } := by
  cases hi : CLog.findSegmentIdx segs offset with
  | none =>
    simp [run, runG, fn_findSegmentContains, gomini, findSegment_body, segResult, containsResult, hi]
  | some i =>
    cases hs : segs[i]? with
    | none =>
      simp [run, runG, fn_findSegmentContains, gomini, findSegment_body, segResult, containsResult, hi, hs]
    | some sg =>
      simp [run, runG, fn_findSegmentContains, gomini, findSegment_body, segResult, containsResult, hi, hs, encSeg, binInt,
        facts, Cmp.evalInt]

/-- the model's search index for `findSegmentByBaseOffset` -/
def fbIdx (segs : List Seg) (offset : Int) : Nat :=
  goSearch segs.length (fun i => match segs[i]? with | some s => Gen.Log.findSegmentByBaseCmp.evalInt s.base offset | none => true)

theorem findSegmentByBaseIdx_eq (segs : List Seg) (offset : Int) :
    CLog.findSegmentByBaseIdx segs offset = if fbIdx segs offset = segs.length then none else some (fbIdx segs offset) := rfl

/-- `findSegmentByBaseOffset`: the first segment whose base offset is at or above `offset`, or nil —
the model's `findSegmentByBaseIdx`, for every list and offset. -/
theorem go_findSegmentByBaseOffset (segs : List Seg) (offset : Int) :
    run prog noExt 20 "findSegmentByBaseOffset" none [encSegs segs, .int offset] =
      .ok { rets := [match CLog.findSegmentByBaseIdx segs offset with
                     | some i => (match segs[i]? with | some s => encSeg s | none => .nil)
                     | none => .nil],
            recv := none, eff := [] } := by
  have hle : fbIdx segs offset ≤ segs.length := Proofs.goSearch_le _ _
  simp [run, runG, fn_findSegmentByBaseOffset, gomini, encSegs]
  rw [search_segs segs offset Seg.base Gen.Log.findSegmentByBaseCmp (fbIdx segs offset) rfl, findSegmentByBaseIdx_eq]
  · by_cases hlt : fbIdx segs offset < segs.length
    · have h1 : fbIdx segs offset ≠ segs.length := by omega
      simp [h1, hlt, gomini, binInt, Int.natCast_inj]
    · have h1 : fbIdx segs offset = segs.length := by omega
      simp [h1, gomini, binInt]
  · intro k hk
    simp [gomini, hk, encSeg, binInt, facts, Cmp.evalInt]

/-- `roundDown(total, factor)` = `factor * (total / factor)` with Go's truncating division; a zero factor
panics (integer division by zero) -/
theorem go_roundDown (total factor : Int) :
    run prog noExt 10 "roundDown" none [.int total, .int factor] =
      if factor = 0 then .panic else .ok { rets := [.int (factor * Int.tdiv total factor)], recv := none, eff := [] } := by
  by_cases h : factor = 0 <;> simp [run, runG, fn_roundDown, gomini, binInt, h]

/-- for the sizes it is used with (non-negative total, positive factor) the result is the largest multiple of
`factor` that does not exceed `total` -/
theorem roundDown_spec (total factor : Int) (ht : 0 ≤ total) (hf : 0 < factor) :
    factor * Int.tdiv total factor ≤ total ∧ total < factor * Int.tdiv total factor + factor := by
  rw [Int.tdiv_eq_ediv_of_nonneg ht]
  have h1 := Int.mul_ediv_add_emod total factor
  have h2 := Int.emod_nonneg total (by omega : factor ≠ 0)
  have h3 := Int.emod_lt_of_pos total hf
  omega

/-! ### non-vacuity: two segments, offsets inside, between and beyond them -/
def p0 : Payload := { key := none, val := some [1], hdrs := [] }
def s0 : Seg := { base := 0, recs := [{ offset := 0, ts := 1, epoch := 1, body := p0 }, { offset := 1, ts := 2, epoch := 1, body := p0 }] }
def s1 : Seg := { base := 5, recs := [{ offset := 5, ts := 3, epoch := 1, body := p0 }] }
theorem idx_examples : CLog.findSegmentIdx [s0, s1] 1 = some 0 ∧ CLog.findSegmentIdx [s0, s1] 3 = some 1 ∧
    CLog.findSegmentIdx [s0, s1] 6 = none := by
  simp [CLog.findSegmentIdx, goSearch, goSearchAux, s0, s1, Seg.nextOffset, Seg.lastOffset, facts, Cmp.evalInt]
example : containsResult [s0, s1] 1 = [encSeg s0, .bool true] := by
  rw [containsResult, idx_examples.1]; simp [facts, Cmp.evalInt, s0]
example : containsResult [s0, s1] 3 = [encSeg s1, .bool false] := by
  rw [containsResult, idx_examples.2.1]; simp [facts, Cmp.evalInt, s1]
example : containsResult [s0, s1] 6 = [.nil, .bool false] := by
  rw [containsResult, idx_examples.2.2]

end Liftbridge.Props.GoSegments
