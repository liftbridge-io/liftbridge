/-
C03 — Consumers see only committed messages: all of them, once, in order.

Property theorems about the small-step model `Liftbridge.HWReader` (Model/HWReader.lean):
a shared commit log with high watermark and `hwWaiters`, any number of committed readers, and
an environment that appends, rolls segments, moves the HW (any value, any step size) and
toggles read-only. `run s ops` applies a list of operations, each ONE critical section of the
Go code; "for every interleaving" is "for every `ops : List Op`". Every theorem below is
universally quantified over the initial log (any log satisfying the log invariant `Inv` of
C01 — fresh, rolled, trimmed by retention or compacted), over `ops`, and over the reader.

Safety (`hw_monotone`, `never_beyond_hw`, `in_order_once`, `parked_complete`,
`no_lost_wakeup`, `readers_independent`) holds for ALL schedules, including a HW set beyond
the end of the log. The "eventually receives" half of the property is proved as ENABLEDNESS
invariants, not as temporal liveness (`progress_partial`): in every reachable state a reader
that has not seen the current HW is not parked and has an operation that changes it, and it is
not dead — the latter only for runs whose HW writers are `Disciplined` (never name a message
the log does not have). Without that side condition it is false (`progress_asStated_false`):
a HW beyond the log end kills every committed reader that re-syncs
(`getHWPos` → ErrSegmentNotFound); this is how `partition.handleReplicationResponse` drives a
follower's log unless the regenerated flag `Gen.HWReader.followerHWCapped` holds.

Not covered (see the manifest): the Go memory model, `sync.RWMutex` and channel semantics are
ASSUMED to implement the atomic steps; truncation, retention and compaction WHILE readers run
are outside the step relation.
-/
import Liftbridge.Model.HWReader
import Liftbridge.Proofs.HWReader

namespace Liftbridge.Props.C03
open Liftbridge Liftbridge.Log Liftbridge.Log.CLog Liftbridge.HWReader Liftbridge.Proofs.Log
open Liftbridge.Proofs.HWReader

/-- Initial states: any log satisfying the commit-log invariant, HW at least -1, no readers. -/
def Start (l : CLog) : Prop := Inv l ∧ -1 ≤ l.hw

/-- Initial states of disciplined runs: additionally the HW names a retained message (or
nothing), and an empty log has nothing left to commit (true of every fresh log). -/
def LeaderStart (l : CLog) : Prop := Start l ∧ Covered l l.hw ∧ (l.abs = [] → l.newest ≤ l.hw)

theorem reach_ginv {l0 : CLog} (h : Start l0) (ops : List Op) : GInv (run (State.init l0) ops) :=
  ginv_run (ginv_init h.1 h.2) ops

/-- While the log is open its HW never moves backwards: no operation, in any state, lowers it. -/
theorem hw_monotone_step (s : State) (op : Op) : s.log.hw ≤ (step s op).log.hw := step_hw_le s op

/-- ... hence along every run, from any state. -/
theorem hw_monotone (s : State) (ops ops' : List Op) :
    (run s ops).log.hw ≤ (run s (ops ++ ops')).log.hw := by
  have : run s (ops ++ ops') = run (run s ops) ops' := by simp [run, List.foldl_append]
  rw [this]
  exact run_hw_le _ _

/-- The writers of the HW are the three the model has operations for — the leader's fast path
and commit loop (`setHW`, disciplined), the follower's adoption (`followerHW`) — and nothing
outside tests calls `OverrideHighWatermark` (which could lower it). Regenerated from server/*.go. -/
theorem hw_writers_known :
    Gen.HWReader.hwWriterFuncs = ["commitLoop", "handleReplicationResponse", "messageProcessingLoop"] ∧
    Gen.HWReader.hwOverrideCalls = 0 := by decide

/-- Never beyond the HW: in every reachable state, everything any committed reader has been
handed lies at or below the current HW — for every schedule (also when the HW was set past the
log end, or the message at the HW is no longer retained). -/
theorem never_beyond_hw {l0 : CLog} (h0 : Start l0) (ops : List Op) (id : Nat) (r : Reader)
    (hr : (run (State.init l0) ops).readers id = some r) :
    ∀ x ∈ r.delivered, x.offset ≤ (run (State.init l0) ops).log.hw :=
  (reach_ginv h0 ops).delivered_le_hw hr

/-- ... and was at or below the HW at the moment it was handed out: a delivery is one `readStep`,
and after it (as in every reachable state) the bound holds with the HW of that moment. -/
theorem never_beyond_hw_at_delivery {l0 : CLog} (h0 : Start l0) (ops : List Op) (id : Nat) (r r' : Reader)
    (hr : (run (State.init l0) ops).readers id = some r)
    (hr' : (step (run (State.init l0) ops) (.readStep id)).readers id = some r') :
    ∀ x ∈ r'.delivered, x.offset ≤ (run (State.init l0) ops).log.hw :=
  (step_frame _ (.readStep id) rfl).1 ▸ (ginv_step (reach_ginv h0 ops) (.readStep id)).delivered_le_hw hr'

/-- In order, once, no skip: in every reachable state the deliveries of a reader are strictly
increasing in offset and form an initial part of the retained records at or above its effective
start `eff` (`start`, or creation-HW + 1 for a reader that parked at creation — the code's
`offset := r.hw + 1`): nothing is skipped, repeated or reordered. -/
theorem in_order_once {l0 : CLog} (h0 : Start l0) (ops : List Op) (id : Nat) (r : Reader)
    (hr : (run (State.init l0) ops).readers id = some r) :
    r.delivered.Pairwise (fun a b => a.offset < b.offset) ∧
    r.delivered <+: (run (State.init l0) ops).log.abs.filter (fun x => decide (r.eff ≤ x.offset)) := by
  have g := reach_ginv h0 ops
  exact ⟨delivered_sorted g.inv (g.rinv id r hr), delivered_prefix (g.rinv id r hr)⟩

/-- The effective start, case 1 (the parking rule of `newReaderCommitted`): a reader created beyond
the sampled HW, or on a log whose first segment is empty, is created unpositioned and will resume
at sampled-HW + 1 — whatever offset was asked for (cf. C10's recorded finding). -/
theorem eff_parked (l : CLog) (r : Reader)
    (h : (Gen.Log.readerBeyondHWCmp.evalInt r.start r.hwSeen || decide (l.oldest = -1)) = true) :
    (initReader l r).seg = none ∧ (initReader l r).eff = r.hwSeen + 1 ∧ (initReader l r).phase = .idle := by
  unfold initReader
  simp only [h, if_true, and_self]

/-- The effective start, case 2: a reader that `newReaderCommitted` positions starts at the offset
it was given. -/
theorem eff_positioned (l : CLog) (r : Reader) (i : Nat) (hn : r.seg = none)
    (hs : (initReader l r).seg = some i) : (initReader l r).eff = r.start := by
  rcases initReader_cases l r with ⟨e, h⟩ | ⟨_, _, h⟩ | ⟨_, _, _, _, h⟩ <;> rw [h] at hs ⊢
  · cases hn.symm.trans hs
  · cases hs

/-- A reader that stands at its limit (about to sample the HW, about to park, parked, about to
re-sync, or ended by read-only / cancellation) has delivered EXACTLY the retained records in
`[eff, hwSeen]`. -/
theorem at_limit_complete {l0 : CLog} (h0 : Start l0) (ops : List Op) (id : Nat) (r : Reader)
    (hr : (run (State.init l0) ops).readers id = some r) (ha : atLim r.phase = true) :
    r.delivered = (run (State.init l0) ops).log.abs.filter
      (fun x => decide (r.eff ≤ x.offset ∧ x.offset ≤ r.hwSeen)) := by
  have g := reach_ginv h0 ops
  exact delivered_complete g.inv (g.rinv id r hr) ha

/-- No lost wake-up: a parked reader is registered in `hwWaiters` and has seen the CURRENT HW;
so it is parked only while there is nothing new for it, and every effective `SetHighWatermark`
(which notifies all registered waiters) wakes it. -/
theorem no_lost_wakeup {l0 : CLog} (h0 : Start l0) (ops : List Op) (id : Nat) (r : Reader)
    (hr : (run (State.init l0) ops).readers id = some r) (hw : r.phase = .waiting) :
    r.hwSeen = (run (State.init l0) ops).log.hw ∧ id ∈ (run (State.init l0) ops).waiters := by
  have g := reach_ginv h0 ops
  exact ⟨(g.rinv id r hr).waiting_hw hw, g.wait_mem id r hr hw⟩

/-- Only parked readers are in the map (no stale entries that would swallow a notification). -/
theorem waiters_are_parked {l0 : CLog} (h0 : Start l0) (ops : List Op) (id : Nat)
    (hm : id ∈ (run (State.init l0) ops).waiters) :
    ∃ r, (run (State.init l0) ops).readers id = some r ∧ r.phase = .waiting :=
  (reach_ginv h0 ops).mem_wait id hm

/-- After an effective HW advance nobody is parked any more. -/
theorem setHW_wakes_all {l0 : CLog} (h0 : Start l0) (ops : List Op) (h : Int)
    (hgt : h > (run (State.init l0) ops).log.hw) (id : Nat) (r' : Reader)
    (hr' : (step (run (State.init l0) ops) (.setHW h)).readers id = some r') : r'.phase ≠ .waiting := by
  intro hw
  -- a parked reader would be registered, but the notification has cleared the map
  have := (ginv_step (reach_ginv h0 ops) (.setHW h)).wait_mem id r' hr' hw
  simp only [step, setHW_eq, if_pos hgt, wakeAll_waiters] at this
  cases this

/-- A parked reader has received everything committed so far: exactly the retained records
in `[eff, hw]`. -/
theorem parked_complete {l0 : CLog} (h0 : Start l0) (ops : List Op) (id : Nat) (r : Reader)
    (hr : (run (State.init l0) ops).readers id = some r) (hw : r.phase = .waiting) :
    r.delivered = (run (State.init l0) ops).log.abs.filter
      (fun x => decide (r.eff ≤ x.offset ∧ x.offset ≤ (run (State.init l0) ops).log.hw)) := by
  have := at_limit_complete h0 ops id r hr (by rw [hw]; rfl)
  rw [(no_lost_wakeup h0 ops id r hr hw).1] at this
  exact this

/-- A reader ended by "end of read-only log" has received everything in `[eff, hwSeen]`. -/
theorem readonly_end_complete {l0 : CLog} (h0 : Start l0) (ops : List Op) (id : Nat) (r : Reader)
    (hr : (run (State.init l0) ops).readers id = some r) (hf : r.phase = .failed "readonly") :
    r.delivered = (run (State.init l0) ops).log.abs.filter
      (fun x => decide (r.eff ≤ x.offset ∧ x.offset ≤ r.hwSeen)) :=
  at_limit_complete h0 ops id r hr (by rw [hf]; rfl)

/-- A reader's own operation changes neither the log nor any other reader; with
`in_order_once` / `at_limit_complete` (which describe a reader's deliveries by the log and its
own position only) the readers are independent of each other. -/
theorem readers_independent (s : State) (op : Op) (id : Nat) (hop : op.reader = some id) :
    (step s op).log = s.log ∧ ∀ j, j ≠ id → (step s op).readers j = s.readers j :=
  step_frame s op hop

/-- The statement one would like — no committed reader ever dies except by the end of a
read-only log or cancellation, in EVERY schedule. -/
def progress_asStated : Prop :=
  ∀ l0, LeaderStart l0 → ∀ (ops : List Op) (id : Nat) (r : Reader) (e : String),
    (run (State.init l0) ops).readers id = some r → r.phase = .failed e → e = "readonly" ∨ e = "eof"

def witnessOps : List Op :=
  [.newReader 0 0, .initReader 0, .setHW 0, .beginRead 0, .checkHW 0, .resync 0]

def rec0 : Rec := { offset := 0, ts := 1, epoch := 0, body := { key := none, val := none, hdrs := [] } }

/- The witnesses below are concrete runs; the kernel evaluates them (`decide` alone does not unfold
the well-founded `sort.Search` mirror). -/
deriving instance DecidableEq for Op

/-- The witness: a reader parked on the empty log, the HW set to 0 before the message with
offset 0 is in the log (what a follower does when the leader's HW runs ahead of its log):
the reader samples the HW, re-syncs, `getHWPos` finds no segment, the reader is dead. -/
theorem witness_dead :
    ((run (State.init (CLog.init 1024 false)) witnessOps).readers 0).map (·.phase) =
      some (.failed "segment-not-found") := by
  decide +kernel

/-- ... and it never receives message 0, although message 0 is then appended below the HW. -/
theorem witness_misses :
    (run (State.init (CLog.init 1024 false)) (witnessOps ++ [.append [rec0]])).log.abs.map (·.offset) = [0] ∧
    (run (State.init (CLog.init 1024 false)) (witnessOps ++ [.append [rec0]])).log.hw = 0 ∧
    ((run (State.init (CLog.init 1024 false)) (witnessOps ++ [.append [rec0]])).readers 0).map
      (fun r => (r.delivered.length, nextOp 0 r.phase)) = some (0, none) := by
  decide +kernel

/-- The same undisciplined HW hits a reader that is already positioned and parked at its limit
inside `readLoop`. What the model does then follows the regenerated shape of the code: the error
of `getHWPos` ends the reader — unless `readLoop` swallows it (`err` shadowed by a loop-local
declaration: `Read` returns (0, nil), the caller parses a stale header and the CRC check of the
garbage read next panics), which the model represents by the terminal state "error-swallowed".
The harness replays this run on the implementation (corpus/C03/hw-beyond-log-positioned.ops). -/
theorem witness_positioned :
    ((run (State.init (CLog.init 1024 false))
      [.append [rec0], .setHW 0, .newReader 0 0, .initReader 0, .beginRead 0, .readStep 0, .beginRead 0,
       .readStep 0, .checkHW 0, .registerWait 0, .setHW 1, .checkHW 0, .resync 0]).readers 0).map
        (fun r => (r.delivered.length, r.phase)) =
      some (1, .failed (if Gen.HWReader.resyncErrPropagates then "segment-not-found" else "error-swallowed")) := by
  decide +kernel

theorem inv_init (m : Int) (occ : Bool) (hm : 0 < m) : Inv (CLog.init m occ) := Proofs.Log.inv_init m occ hm

theorem leaderStart_init (m : Int) (occ : Bool) (hm : 0 < m) : LeaderStart (CLog.init m occ) :=
  ⟨⟨inv_init m occ hm, by simp [CLog.init]⟩, Or.inl (by simp [CLog.init]),
    fun _ => by simp [CLog.init, CLog.newest, CLog.nextOffset, CLog.active, Seg.nextOffset, Seg.lastOffset]⟩

theorem progress_asStated_false : ¬ progress_asStated := by
  intro h
  obtain ⟨r, hr, hp⟩ := Option.map_eq_some_iff.mp witness_dead
  have := h _ (leaderStart_init 1024 false (by decide)) witnessOps 0 r _ hr hp
  revert this
  decide

/-- Progress (partial: HW writers disciplined; enabledness instead of temporal liveness).
In every state reachable by a run in which every `SetHighWatermark` names a message the log has
(`Disciplined`: what the leader's two call sites do; the follower's iff
`Gen.HWReader.followerHWCapped`), for every reader:
* it is dead only by the end of a read-only log or cancellation;
* if it has not yet seen the current HW it is NOT parked;
* if it is neither parked nor dead it has an enabled operation, and that operation changes it
  (never a stutter) — so under any fair scheduling of the reader it keeps moving until it
  parks, which by `parked_complete` is only after it received everything up to the HW. -/
theorem progress_partial {l0 : CLog} (h0 : LeaderStart l0) (ops : List Op)
    (hd : DisciplinedRun (State.init l0) ops) (id : Nat) (r : Reader)
    (hr : (run (State.init l0) ops).readers id = some r) :
    (∀ e, r.phase = .failed e → e = "readonly" ∨ e = "eof") ∧
    (r.hwSeen < (run (State.init l0) ops).log.hw → r.phase ≠ .waiting) ∧
    (r.phase ≠ .waiting → (∀ e, r.phase ≠ .failed e) →
      ∃ op, nextOp id r.phase = some op ∧ op.reader = some id ∧
        (step (run (State.init l0) ops) op).readers id ≠ some r) := by
  have g0 := ginv_init h0.1.1 h0.1.2
  have g := reach_ginv h0.1 ops
  have li := linv_run g0 (linv_init h0.2.1 h0.2.2) hd
  refine ⟨fun e he => li.nofail id r e hr he, ?_, ?_⟩
  · intro hlt hw
    have := (g.rinv id r hr).waiting_hw hw
    omega
  · intro hnw hnf
    obtain ⟨op, hn, hrd⟩ := nextOp_some id hnw hnf
    exact ⟨op, hn, hrd, step_changes g hr hn⟩

/-- The follower's HW adoption is disciplined exactly when the regenerated call shape caps the
leader's HW at the follower's own log end. -/
theorem follower_disciplined_iff (s : State) (h : Int) :
    Disciplined s (.followerHW h) ↔ Gen.HWReader.followerHWCapped = true := Iff.rfl

/-- With the cap, a follower never sets its HW past its own log end. -/
theorem follower_capped_le_newest (hc : Gen.HWReader.followerHWCapped = true) (l : CLog) (h : Int) :
    followerArg l h ≤ l.newest ∧ followerArg l h ≤ h := followerArg_le hc l h

/-! ### Why `waitForHW` re-checks the HW under the log lock

`checkHW` (the reader samples `HighWatermark()` under a read lock it releases again) and
`registerWait` (`commitLog.waitForHW` under the write lock) are two steps; `setHW` notifies only
readers that are ALREADY registered. `no_lost_wakeup` above holds because `registerWait` compares
the reader's sample with the current HW before it registers the reader — a fact regenerated from
the source (`Gen.HWReader.waitRechecks`, `Gen.HWReader.waitRecheckCmp`): without the comparison
the model parks unconditionally, `ginv_step` (hence every theorem above) no longer checks, and the
harness replays the witness below on the implementation (`committed-reader-lost-wakeup`). -/

/-- The model is run with the regenerated flag: `step` IS `stepWith Gen.HWReader.waitRechecks`. -/
theorem step_uses_extracted_recheck (s : State) (op : Op) :
    stepWith Gen.HWReader.waitRechecks s op = step s op := stepWith_gen s op

/-- The re-check closes the window: in any state, a reader that decided to wait on a HW sample
which is no longer the log's HW (a `setHW` fell between its `checkHW` and its `registerWait`) is
NOT parked by `registerWait`: it is sent back to sample the HW again, and `hwWaiters` is untouched. -/
theorem recheck_closes_window (s : State) (id : Nat) (r : Reader) (hr : s.readers id = some r)
    (hp : r.phase = .mustWait) (hne : s.log.hw ≠ r.hwSeen) :
    (step s (.registerWait id)).readers id = some { r with phase := .atLimit } ∧
    (step s (.registerWait id)).waiters = s.waiters := by
  simp only [step, hr, hp, if_true, registerWait_eq]
  rw [if_pos ⟨rfl, hne⟩]
  exact ⟨setReader_self _ _ _, rfl⟩

/-- The read-only verdict (`ErrCommitLogReadonly`: the subscription ends) is given by `registerWait`
only to a reader whose sample IS the current HW, with the HW at the end of a read-only log — so
(`readonly_end_complete`) such a reader has received everything the log will ever commit. -/
theorem readonly_verdict_at_current_hw (s : State) (id : Nat) (r r' : Reader) (hr : s.readers id = some r)
    (hp : r.phase = .mustWait) (hr' : (step s (.registerWait id)).readers id = some r')
    (hf : r'.phase = .failed "readonly") :
    r.hwSeen = s.log.hw ∧ s.log.hw = s.log.newest ∧ s.log.readonly = true := by
  simp only [step, hr, hp, if_true, registerWait_eq] at hr'
  split at hr' <;> rename_i h
  · cases (setReader_self s id _).symm.trans hr'
    cases hf
  · split at hr' <;> rename_i h'
    · exact ⟨(Decidable.not_not.mp fun hne => h ⟨rfl, hne⟩).symm, h'.1, h'.2⟩
    · -- parked, not ended
      cases (setReader_self s id _).symm.trans hr'
      cases hf

def rec1 : Rec := { rec0 with offset := 1 }

/-- The witness schedule of the lost wake-up (one reader, one HW writer; the harness replays it
step by step on the real log: corpus/C03/wakeup-window.steps). -/
def lostWakeupOps : List Op :=
  [.append [rec0, rec1], .setHW 0,
   .newReader 0 0, .initReader 0, .beginRead 0, .readStep 0,   -- the reader receives message 0
   .beginRead 0, .readStep 0,                                   -- ... and reaches its limit
   .checkHW 0,                                                  -- the HW is still 0: it decides to wait
   .setHW 1,                                                    -- the writer commits message 1: nobody is registered, nobody is woken
   .registerWait 0]                                             -- the reader registers

/-- Without the re-check the wake-up is lost: after the witness schedule message 1 is in the log
at the HW (committed), the reader — positioned before it, having received only message 0 — is
parked on the stale sample 0, registered, and has no enabled operation. -/
theorem lost_wakeup_without_recheck :
    (runWith false (State.init (CLog.init 1024 false)) lostWakeupOps).log.abs.map (·.offset) = [0, 1] ∧
    (runWith false (State.init (CLog.init 1024 false)) lostWakeupOps).log.hw = 1 ∧
    (runWith false (State.init (CLog.init 1024 false)) lostWakeupOps).waiters = [0] ∧
    ((runWith false (State.init (CLog.init 1024 false)) lostWakeupOps).readers 0).map
      (fun r => (r.phase, r.hwSeen, r.delivered.map (·.offset), nextOp 0 r.phase)) =
        some (.waiting, 0, [0], none) := by
  decide +kernel

/-- ... and it stays lost however long the reader and everybody else is scheduled, until the NEXT
effective HW advance (or a read-only toggle, or its cancellation): under every continuation of
quiet operations — appends, rolls, HW writes that do not raise the HW, any operation of any reader
including its own — it is still parked with message 0 only, and the HW still is 1. Forever, if
message 1 was the last one published. -/
theorem lost_wakeup_without_recheck_forever (ops : List Op)
    (hq : QuietRun false 0 (runWith false (State.init (CLog.init 1024 false)) lostWakeupOps) ops) :
    (runWith false (State.init (CLog.init 1024 false)) (lostWakeupOps ++ ops)).log.hw = 1 ∧
    ((runWith false (State.init (CLog.init 1024 false)) (lostWakeupOps ++ ops)).readers 0).map
      (fun r => (r.phase, r.delivered.map (·.offset))) = some (.waiting, [0]) := by
  have hsplit : runWith false (State.init (CLog.init 1024 false)) (lostWakeupOps ++ ops) =
      runWith false (runWith false (State.init (CLog.init 1024 false)) lostWakeupOps) ops := by
    simp [runWith, List.foldl_append]
  obtain ⟨_, hhw, _, hrd⟩ := lost_wakeup_without_recheck
  obtain ⟨r, hr, hrd⟩ := Option.map_eq_some_iff.mp hrd
  simp only [Prod.mk.injEq] at hrd
  obtain ⟨h1, h2⟩ := parked_stays_run false ops hr hrd.1 hq
  rw [hsplit, h1, h2, hhw]
  exact ⟨rfl, by simp only [Option.map_some, hrd.1, hrd.2.2.1]⟩

/-- With the re-check (the model as regenerated from the code) the same schedule does not park
the reader, and three more steps of its own hand it message 1. -/
theorem same_schedule_with_recheck :
    ((run (State.init (CLog.init 1024 false)) lostWakeupOps).readers 0).map (·.phase) = some .atLimit ∧
    (run (State.init (CLog.init 1024 false)) lostWakeupOps).waiters = [] ∧
    ((run (State.init (CLog.init 1024 false)) (lostWakeupOps ++ [.checkHW 0, .resync 0, .readStep 0])).readers 0).map
      (fun r => r.delivered.map (·.offset)) = some [0, 1] := by
  decide +kernel

/-- The read-only variant of the lost wake-up: if the log becomes read-only inside the same window
(`notifyReadonly` finds nobody registered), a `waitForHW` without the re-check gives the reader
the read-only verdict — the subscription ENDS with committed message 1 undelivered. -/
theorem readonly_end_incomplete_without_recheck :
    ((runWith false (State.init (CLog.init 1024 false))
      [.append [rec0, rec1], .setHW 0, .newReader 0 0, .initReader 0, .beginRead 0, .readStep 0,
       .beginRead 0, .readStep 0, .checkHW 0, .setHW 1, .setReadonly true, .registerWait 0]).readers 0).map
        (fun r => (r.phase, r.delivered.map (·.offset))) = some (.failed "readonly", [0]) := by
  decide +kernel

/-- A disciplined run on a fresh log in which a reader created before any data receives both
messages and parks. -/
def demoOps : List Op :=
  [.newReader 0 0, .initReader 0, .beginRead 0, .checkHW 0, .registerWait 0,
   .append [rec0, rec1], .setHW 1,
   .checkHW 0, .resync 0, .readStep 0, .beginRead 0, .readStep 0, .beginRead 0, .readStep 0,
   .checkHW 0, .registerWait 0]

example : LeaderStart (CLog.init 1024 false) := leaderStart_init 1024 false (by decide)

example :
    ((run (State.init (CLog.init 1024 false)) demoOps).readers 0).map
      (fun r => (r.delivered.map (·.offset), r.phase)) = some ([0, 1], .waiting) ∧
    (run (State.init (CLog.init 1024 false)) demoOps).waiters = [0] ∧
    (run (State.init (CLog.init 1024 false)) demoOps).log.hw = 1 := by
  decide +kernel

example : DisciplinedRun (State.init (CLog.init 1024 false)) demoOps := by
  simp only [demoOps, DisciplinedRun, Disciplined, Covered, and_true, true_and]
  decide +kernel

/-- The lost-wake-up window is real in the model: between `checkHW` (HW unchanged) and
`registerWait` the HW may move; `registerWait` then does NOT park. -/
example :
    ((run (State.init (CLog.init 1024 false))
      [.newReader 0 0, .initReader 0, .beginRead 0, .checkHW 0, .append [rec0], .setHW 0, .registerWait 0]).readers 0).map
        (·.phase) = some .atLimit ∧
    (run (State.init (CLog.init 1024 false))
      [.newReader 0 0, .initReader 0, .beginRead 0, .checkHW 0, .append [rec0], .setHW 0, .registerWait 0]).waiters = [] := by
  decide +kernel

end Liftbridge.Props.C03
