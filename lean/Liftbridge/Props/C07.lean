/-
C07 — Partition leadership changes are safe and fenced by epochs.

Theorems about `Liftbridge.Failover` (Model/Failover.lean: the controller's view of ReportLeader /
ShrinkISR / ExpandISR / electNewPartitionLeader / the FSM's RemoveFromISR, AddToISR, ChangeLeader /
expiry timer / LostLeadership / stream deletion and re-creation) for EVERY history of steps —
requests and their proposals are separate steps, so every interleaving of checks and commits is a
history — over any number of partitions, replicas, reporters (replicas or not), stale, old and
future (leader, epoch) pairs, any Raft index gaps and any choice of the elected candidate.
Proved by induction over the step list with the invariant `Proofs.Failover.Inv` (+ `WitOk`).

The theorems are about the code WITH fixes/C07-*.diff (`Cfg.fixed`); `code_is_fixed` ties that
to the source (the six structural facts are regenerated by extract/gen_failover.go). For the code as
it was found every clause that fails has its full-strength statement as a `def … : Prop`, a
refutation on a concrete history (`decide`) for exactly the structural fact that is missing, and
the same history is replayed on the real server (corpus/C07/*.ops).
Only statements here; the lemmas are in Liftbridge/Proofs/Failover.lean.
-/
import Liftbridge.Model.Failover
import Liftbridge.Proofs.Failover

namespace Liftbridge.Props.C07
open Liftbridge Liftbridge.Failover Liftbridge.Proofs.Failover

/-- **Tie.** The source has the six structural properties the theorems below are about: the
failover entry is dropped when a failover is triggered and when the leader changes, only in-sync
followers count towards the quorum, the (leader, epoch) pair and the candidate are re-validated by
the `applyOperation` precondition, the leader cannot be removed from the ISR, only replicas can be
added to / removed from it. (Fails to build on a tree without fixes/C07-*.diff.) -/
theorem code_is_fixed : Cfg.code = Cfg.fixed := by decide

/-- The arithmetic facts of the source the proofs unfold (a change breaks the build). -/
example : Gen.Failover.quorumSub = 1 ∧ Gen.Failover.quorumDiv = 2 ∧ Gen.Failover.quorumCmp = .gt := ⟨rfl, rfl, rfl⟩

/-- A history of steps from the empty controller, under the repaired code. -/
abbrev reach (steps : List Step) : Ctl := run Cfg.fixed Ctl.init steps

/-! ### the leader is in the in-sync set, which is a subset of the replicas -/

/-- **Invariant.** After any history every partition's leader is in its in-sync set and the
in-sync set is a (duplicate-free) subset of the replicas. -/
theorem leader_in_isr_subset_replicas (steps : List Step) (p : PKey) (pt : Part)
    (h : (reach steps).parts p = some pt) :
    pt.leader ∈ pt.isr ∧ (∀ x ∈ pt.isr, x ∈ pt.replicas) ∧ pt.isr.Nodup := by
  have := (inv_run steps).parts p pt h
  exact ⟨this.leader_isr, this.isr_rep, this.isr_nodup⟩

/-- The same statement for a given configuration of the code. -/
def leader_in_isr_asStated (cfg : Cfg) : Prop :=
  ∀ (steps : List Step) (p : PKey) (pt : Part), (run cfg Ctl.init steps).parts p = some pt → pt.leader ∈ pt.isr

/-- As found, `ShrinkISR` naming the current (leader, epoch) removes the LEADER from the ISR
(corpus/C07/isr-shrink-leader.ops). Only `shrinkNotLeader` is switched off. -/
theorem leader_in_isr_shrinkLeader_false : ¬ leader_in_isr_asStated { Cfg.fixed with shrinkNotLeader := false } :=
  fun h => absurd
    (h [.create "s" ["b", "c", "d"] "b" 0, .reqShrink "s" "b" "b" 1, .commit 0 0] "s"
      ⟨["b", "c", "d"], ["c", "d"], "b", 1, 2⟩ (by decide))
    (by decide)

/-- Without the re-validation under the Raft lock (everything else repaired): leader `b` asks to
remove `c`, `c`'s report elects `c`, both were checked on the same state; the shrink is proposed
first and the leader change is applied on an ISR that no longer contains `c`
(corpus/C07/failover-check-then-propose.ops). -/
theorem leader_in_isr_race_false : ¬ leader_in_isr_asStated { Cfg.fixed with underLock := false } :=
  fun h => absurd
    (h [.create "s" ["b", "c"] "b" 0, .reqShrink "s" "c" "b" 1, .report "s" "c" "b" 1 "c", .commit 0 0, .commit 0 0] "s"
      ⟨["b", "c"], ["b"], "c", 3, 3⟩ (by decide))
    (by decide)

/-! ### epochs -/

/-- **Partition and leader epochs only increase**, between any two moments of any history at which
the partition exists — also across a deletion and re-creation of the stream in between. -/
theorem epochs_increase (xs ys : List Step) (p : PKey) (a b : Part)
    (ha : (reach xs).parts p = some a) (hb : (reach (xs ++ ys)).parts p = some b) :
    a.epoch ≤ b.epoch ∧ a.leaderEpoch ≤ b.leaderEpoch := by
  have hB := ((inv_run (xs ++ ys)).parts p b hb).le_e
  rcases terms_ordered ha hb with ⟨_, h2, h3⟩ | ⟨h1, h2⟩
  · exact ⟨h3, Nat.le_of_eq h2⟩
  · omega

/-- **Exactly one leader per leader epoch**: two moments of a history at which the partition has the
same leader epoch have the same leader (again also across deletion and re-creation). -/
theorem one_leader_per_epoch (xs ys : List Step) (p : PKey) (a b : Part)
    (ha : (reach xs).parts p = some a) (hb : (reach (xs ++ ys)).parts p = some b)
    (he : a.leaderEpoch = b.leaderEpoch) : a.leader = b.leader := by
  rcases terms_ordered ha hb with ⟨h1, _, _⟩ | ⟨_, h2⟩
  · exact h1
  · omega

/-- A leader epoch is the Raft index of the entry that began the term: strictly larger than every
index applied before (so it never repeats). -/
theorem new_term_has_new_epoch (s : Ctl) (st : Step) (p : PKey) (a b : Part) (cfg : Cfg)
    (ha : s.parts p = some a) (hb : (step cfg s st).1.parts p = some b)
    (hne : a.leader ≠ b.leader ∨ a.leaderEpoch ≠ b.leaderEpoch) : s.index < b.leaderEpoch := by
  rcases (step_after cfg s st).2 p b hb with ⟨a', ha', h1, h2, _⟩ | h
  · cases ha'.symm.trans ha
    exact (hne.elim (· h1) (· h2)).elim
  · exact h

/-! ### stale requests are refused -/

/-- **A request naming a stale leader or epoch is refused and changes nothing** — leader reports,
ISR shrinks and ISR expands alike, in every state, whatever else the request says (any
configuration of the code: this check was there from the start). -/
theorem stale_refused (cfg : Cfg) (s : Ctl) (halive : s.crashed = false) (p : PKey) (pt : Part) (r l : Id) (e : Nat)
    (hp : s.parts p = some pt) (hst : l ≠ pt.leader ∨ e ≠ pt.leaderEpoch) :
    (∀ c, step cfg s (.report p r l e c) = (s, .refused .stale)) ∧
    step cfg s (.reqShrink p r l e) = (s, .refused .stale) ∧
    step cfg s (.reqExpand p r l e) = (s, .refused .stale) := by
  have h := (stale_iff pt l e).2 hst
  refine ⟨fun c => ?_, ?_, ?_⟩
  · simp [step, halive, report, hp, Gen.Failover.staleLeaderReport, Gen.Failover.staleEpochReport, h]
  · simp [step, halive, reqShrink, hp, Gen.Failover.staleLeaderShrink, Gen.Failover.staleEpochShrink, h]
  · simp [step, halive, reqExpand, hp, Gen.Failover.staleLeaderExpand, Gen.Failover.staleEpochExpand, h]

/-- **…also when the pair has become stale between the check and the proposal**: under the
repaired code a proposal (ISR shrink, ISR expand or leader change) whose (leader, epoch) is not
the partition's current one is refused by the precondition and changes no partition and no
failover entry, in every state. -/
theorem stale_refused_at_commit (cfg : Cfg) (hlock : cfg.underLock = true) (s : Ctl) (halive : s.crashed = false)
    (k g : Nat) (op : Op) (pt : Part)
    (hk : s.inflight[k]? = some op) (hp : s.parts op.part = some pt)
    (hst : op.leader ≠ pt.leader ∨ op.epoch ≠ pt.leaderEpoch) :
    (step cfg s (.commit k g)).2 = .refused .stale ∧
    (step cfg s (.commit k g)).1.parts = s.parts ∧ (step cfg s (.commit k g)).1.fos = s.fos ∧
    (step cfg s (.commit k g)).1.index = s.index := by
  have := commitOp_stale hlock { s with inflight := s.inflight.eraseIdx k } (s.index + 1 + g) op pt hp hst
  unfold step
  rw [if_neg (by rw [halive]; decide)]
  simp only [commit, hk]
  rw [this]
  exact ⟨rfl, rfl, rfl, rfl⟩

/-- The full-strength statement for a configuration of the code. -/
def stale_refused_at_commit_asStated (cfg : Cfg) : Prop :=
  ∀ (s : Ctl) (k g : Nat) (op : Op) (pt : Part), s.crashed = false →
    s.inflight[k]? = some op → s.parts op.part = some pt →
    (op.leader ≠ pt.leader ∨ op.epoch ≠ pt.leaderEpoch) → (step cfg s (.commit k g)).1.parts op.part = some pt

/-- As found (`underLock = false`, all other repairs in place): partition `[b,c,d]` led by `b`;
`ShrinkISR(c)` by `b` and the report that completes the quorum are checked on the same state; the
leader change to `c` commits first; the shrink naming the deposed `(b, 1)` is applied under the new
leader and removes the NEW LEADER `c` from the ISR. -/
theorem stale_refused_asFound_false : ¬ stale_refused_at_commit_asStated { Cfg.fixed with underLock := false } :=
  fun h => absurd
    (h (run { Cfg.fixed with underLock := false } Ctl.init
        [.create "s" ["b", "c", "d"] "b" 0, .report "s" "d" "b" 1 "-", .reqShrink "s" "c" "b" 1,
         .report "s" "c" "b" 1 "c", .commit 1 0])
      0 0 (.shrink "s" "c" "b" 1) ⟨["b", "c", "d"], ["b", "c", "d"], "c", 2, 2⟩
      (by decide) (by decide) (by decide) (by decide))
    (by decide)

/-! ### the elected candidate -/

/-- **Candidate at the election**: whenever a report triggers a failover (any configuration, any
state), the chosen candidate is in the in-sync set and is not the reported leader, and the report
named the current (leader, epoch). -/
theorem candidate_ok (cfg : Cfg) (s : Ctl) (p : PKey) (r l : Id) (e : Nat) (choice c : Id)
    (h : (step cfg s (.report p r l e choice)).2 = .triggered c) :
    ∃ pt, s.parts p = some pt ∧ c ∈ pt.isr ∧ c ≠ pt.leader ∧ pt.leader = l ∧ pt.leaderEpoch = e := by
  obtain ⟨pt, hp, hl, he, _, hc1, hc2⟩ := step_triggered h
  exact ⟨pt, hp, hc1, hc2, hl, he⟩

/-- **Candidate when the change is applied** (repaired code, every reachable state, every
interleaving): a leader change is applied only on the very (leader, epoch) it was decided on, its
candidate is in the in-sync set AT THAT MOMENT and differs from the leader it replaces; the new
leader epoch is the Raft index of the entry. -/
theorem candidate_ok_at_commit (steps : List Step) (k g : Nat) (p : PKey) (c ol : Id) (oe : Nat)
    (hk : (reach steps).inflight[k]? = some (.change p c ol oe))
    (h : (step Cfg.fixed (reach steps) (.commit k g)).2 = .applied) :
    ∃ pt, (reach steps).parts p = some pt ∧ c ∈ pt.isr ∧ c ≠ pt.leader ∧ pt.leader = ol ∧ pt.leaderEpoch = oe ∧
      (step Cfg.fixed (reach steps) (.commit k g)).1.parts p =
        some { pt with leader := c, leaderEpoch := (reach steps).index + 1 + g, epoch := (reach steps).index + 1 + g } := by
  have hinv := inv_run steps
  obtain ⟨pt, hp, hc, hl, he, hres⟩ := commit_change_applied rfl hinv.alive hk h
  exact ⟨pt, hp, hc, hl ▸ (hinv.ops _ (List.mem_of_getElem? hk)).2, hl, he, hres⟩

def candidate_ok_at_commit_asStated (cfg : Cfg) : Prop :=
  ∀ (steps : List Step) (k g : Nat) (p : PKey) (c ol : Id) (oe : Nat),
    (run cfg Ctl.init steps).inflight[k]? = some (.change p c ol oe) →
    (step cfg (run cfg Ctl.init steps) (.commit k g)).2 = .applied →
    ∃ pt, (run cfg Ctl.init steps).parts p = some pt ∧ c ∈ pt.isr

/-- As found: the candidate `c` is selected, `c` is removed from the ISR by a shrink that was
proposed first, and the leader change to `c` is applied all the same. -/
theorem candidate_ok_asFound_false : ¬ candidate_ok_at_commit_asStated { Cfg.fixed with underLock := false } :=
  fun h => absurd
    (h [.create "s" ["b", "c"] "b" 0, .reqShrink "s" "c" "b" 1, .report "s" "c" "b" 1 "c", .commit 0 0]
      0 0 "s" "c" "b" 1 (by decide) (by decide))
    (by decide)

/-! ### the quorum -/

/-- **A failover is triggered only after more than half of the in-sync followers reported the
current leader within the window.** After any history (recorded as `(runH …).2`, newest first), if
a report by `r` naming `(l, e)` triggers a failover of partition `p`, then `(l, e)` is the
partition's current (leader, leader epoch) and more than half of its in-sync followers are among `r`
and the replicas that reported exactly `(l, e)` for `p` since the window last ended (timer fired /
leadership lost / stream deleted) — `reporters` is defined on the observable history alone. -/
theorem quorum_ok (steps : List Step) (p : PKey) (r l : Id) (e : Nat) (choice c : Id)
    (htrig : (step Cfg.fixed (runH Cfg.fixed Ctl.init [] steps).1 (.report p r l e choice)).2 = .triggered c) :
    ∃ pt, (runH Cfg.fixed Ctl.init [] steps).1.parts p = some pt ∧ pt.leader = l ∧ pt.leaderEpoch = e ∧
      2 * ((followers pt).filter
            (fun f => decide (f ∈ r :: reporters p l e (runH Cfg.fixed Ctl.init [] steps).2))).length
        > (followers pt).length := by
  obtain ⟨hinv, hwit⟩ := runH_ok steps inv_init witOk_init
  obtain ⟨pt, hp, hl, he, hq, _, _⟩ := step_triggered htrig
  have hpo := hinv.parts p pt hp
  subst hl he
  exact ⟨pt, hp, rfl, rfl,
    quorum_count hpo.leader_isr hpo.isr_nodup (tally_nodup hinv p r) (hwit.tally hp r) hq⟩

/-- The statement of `quorum_ok` for a configuration of the code. -/
def quorum_ok_asStated (cfg : Cfg) : Prop :=
  ∀ (steps : List Step) (p : PKey) (r l : Id) (e : Nat) (choice c : Id),
    (step cfg (runH cfg Ctl.init [] steps).1 (.report p r l e choice)).2 = .triggered c →
    ∃ pt, (runH cfg Ctl.init [] steps).1.parts p = some pt ∧
      2 * ((followers pt).filter
            (fun f => decide (f ∈ r :: reporters p l e (runH cfg Ctl.init [] steps).2))).length
        > (followers pt).length

/-- F-C07-a: the failover entry (witnesses `c, d`, stopped timer) survives the failover it
triggered. Partition `[b,c,d]` led by `b`; `c` and `d` report, `c` is elected (epoch 2); then ONE
report against the new leader `(c, 2)` — by `b`, now an in-sync follower — triggers the next
failover: 1 of the 2 in-sync followers reported. Only the two "drop the entry" facts are switched
off (corpus/C07/failover-witnesses-survive.ops). -/
theorem quorum_ok_survivors_false :
    ¬ quorum_ok_asStated { Cfg.fixed with dropOnTrigger := false, dropOnChange := false } :=
  fun h => absurd
    (h [.create "s" ["b", "c", "d"] "b" 0, .report "s" "c" "b" 1 "-", .report "s" "d" "b" 1 "c", .commit 0 0]
      "s" "b" "c" 2 "d" "d" (by decide))
    (by decide)

/-- F-C07-b: any string is a witness. Two reports by brokers that are not replicas depose the
leader of `[b,c,d]`: 0 of 2 in-sync followers reported. Only `followerOnly` is switched off
(corpus/C07/failover-non-isr-witness.ops). -/
theorem quorum_ok_strangers_false : ¬ quorum_ok_asStated { Cfg.fixed with followerOnly := false } :=
  fun h => absurd
    (h [.create "s" ["b", "c", "d"] "b" 0, .report "s" "x" "b" 1 "-"] "s" "y" "b" 1 "c" "c" (by decide))
    (by decide)

/-- F-C07-b, second half: witnesses survive ISR changes. `[b,c,d,e,f]` led by `b`: `c` and `d`
report (2 of 4: no quorum), both are removed from the ISR, and the single report of `e` triggers:
1 of the 2 remaining in-sync followers reported (corpus/C07/failover-witness-left-isr.ops). -/
theorem quorum_ok_left_isr_false : ¬ quorum_ok_asStated { Cfg.fixed with followerOnly := false } :=
  fun h => absurd
    (h [.create "s" ["b", "c", "d", "e", "f"] "b" 0, .report "s" "c" "b" 1 "-", .report "s" "d" "b" 1 "-",
        .reqShrink "s" "c" "b" 1, .commit 0 0, .reqShrink "s" "d" "b" 1, .commit 0 0]
      "s" "e" "b" 1 "f" "f" (by decide))
    (by decide)

/-- **Every failover entry is live and fresh** (repaired code, every reachable state): its expiry
timer is armed — no entry with a stopped timer stays behind, so no witness outlives the window —
its partition exists, and every witness in it reported the partition's CURRENT (leader, epoch)
within the current window. -/
theorem failover_entries_fresh (steps : List Step) (p : PKey) (fo : FStat)
    (h : (runH Cfg.fixed Ctl.init [] steps).1.fos p = some fo) :
    fo.armed = true ∧ fo.witnesses.Nodup ∧
    ∃ pt, (runH Cfg.fixed Ctl.init [] steps).1.parts p = some pt ∧
      ∀ w ∈ fo.witnesses, w ∈ reporters p pt.leader pt.leaderEpoch (runH Cfg.fixed Ctl.init [] steps).2 := by
  obtain ⟨hinv, hwit⟩ := runH_ok steps inv_init witOk_init
  obtain ⟨pt, hpt⟩ := hinv.fo_part p fo h
  exact ⟨hinv.fo_armed p fo h, hinv.fo_nodup p fo h, pt, hpt, hwit p fo pt h hpt⟩

/-! ### the FSM never fails on these entries -/

/-- **No history makes the FSM fail to apply an ISR or leader entry** (`Server.Apply` panics on
such an error on every server): `SetLeader` never sees a smaller epoch, `RemoveFromISR`/`AddToISR`
never see a non-replica — also when the stream was deleted and re-created with other replicas
between a request's check and its proposal. -/
theorem no_crash (steps : List Step) : (reach steps).crashed = false := (inv_run steps).alive

def no_crash_asStated (cfg : Cfg) : Prop := ∀ steps : List Step, (run cfg Ctl.init steps).crashed = false

/-- As found: `ExpandISR` naming the current (leader, epoch) and a broker that is not a replica is
proposed and kills the server when applied (corpus/C07/isr-non-replica-crash.ops). -/
theorem no_crash_asFound_false : ¬ no_crash_asStated { Cfg.fixed with replicaOnly := false } :=
  fun h => absurd (h [.create "s" ["b", "c", "d"] "b" 0, .reqExpand "s" "q" "b" 1, .commit 0 0]) (by decide)

/-- …and without the re-validation under the lock, with the membership check in place: the stream
is deleted and re-created with other replicas between the check and the proposal. -/
theorem no_crash_race_false : ¬ no_crash_asStated { Cfg.fixed with underLock := false } :=
  fun h => absurd
    (h [.create "s" ["b", "c", "d"] "b" 0, .reqShrink "s" "d" "b" 1, .remove "s" 0, .create "s" ["b", "c"] "b" 0, .commit 0 0])
    (by decide)

/-! ### non-vacuity -/

/-- The hypotheses are satisfiable and the histories are not degenerate: two partitions, a report
window ended by the timer, a stale report, a non-replica reporter, an ISR shrink, a failover by
quorum, a leader change applied, a deletion and re-creation. -/
example :
    let steps : List Step :=
      [.create "s" ["b", "c", "d", "e"] "b" 0, .create "t" ["b", "c"] "c" 3,
       .report "s" "c" "b" 1 "-", .expire "s", .report "s" "x" "b" 1 "-", .report "s" "d" "b" 0 "-",
       .reqShrink "s" "e" "b" 1, .commit 0 1,
       .report "s" "d" "b" 1 "-", .report "s" "c" "b" 1 "d", .commit 0 0,
       .remove "t" 0, .create "t" ["c", "d"] "d" 0]
    (reach steps).parts "s" = some ⟨["b", "c", "d", "e"], ["b", "c", "d"], "d", 8, 8⟩ ∧
    (reach steps).parts "t" = some ⟨["c", "d"], ["c", "d"], "d", 10, 10⟩ ∧
    ((reach steps).fos "s").isNone ∧ (reach steps).inflight = [] ∧ (reach steps).index = 10 := by
  decide

/-- `quorum_ok` is not vacuous: the last report of this history triggers, and 2 of the 2 in-sync
followers are among the reporters of the window. -/
example :
    let steps : List Step := [.create "s" ["b", "c", "d"] "b" 0, .report "s" "x" "b" 1 "-", .report "s" "c" "b" 1 "-"]
    (step Cfg.fixed (runH Cfg.fixed Ctl.init [] steps).1 (.report "s" "d" "b" 1 "c")).2 = .triggered "c" ∧
    reporters "s" "b" 1 (runH Cfg.fixed Ctl.init [] steps).2 = ["c", "x"] := by
  decide

/-- `stale_refused_at_commit` is not vacuous: a stale proposal exists in a reachable state. -/
example :
    let s := reach [.create "s" ["b", "c", "d"] "b" 0, .report "s" "d" "b" 1 "-", .reqShrink "s" "c" "b" 1,
      .report "s" "c" "b" 1 "c", .commit 1 0]
    s.inflight[0]? = some (.shrink "s" "c" "b" 1) ∧ s.parts "s" = some ⟨["b", "c", "d"], ["b", "c", "d"], "c", 2, 2⟩ ∧
    (step Cfg.fixed s (.commit 0 0)).2 = .refused .stale := by
  decide

end Liftbridge.Props.C07
