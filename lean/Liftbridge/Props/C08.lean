/-
C08 — Compaction keeps the latest value of every key and changes nothing else.
Theorems about `Liftbridge.Compact` for every key pattern, segment layout and HW position.
`InvC` (Proofs/Compact.lean) is the invariant of logs that may have been compacted or
trimmed (it follows from `Inv` and is preserved by cleaning); the reader theorems of C01 are
re-proved under it, i.e. without assuming dense offsets.
-/
import Liftbridge.Model.Compact
import Liftbridge.Proofs.Log
import Liftbridge.Proofs.Compact

namespace Liftbridge.Props.C08
open Liftbridge Liftbridge.Log Liftbridge.Log.CLog Liftbridge.Compact Liftbridge.Proofs.Log
open Liftbridge.Proofs.Compact

/-- A clean with compaction enabled and no retention limit. -/
def compactLog (l : CLog) : CLog := cleanLog ⟨0, 0, 0⟩ 0 true l

/-- Records of the newest (active) segment. -/
def newestSegRecs (l : CLog) : List Rec := (l.segs.getLast?.map Seg.recs).getD []

/-- `r` is the most recent committed message of its key. Keys are compared as given: no key
(`none`) is not a key, and the empty key `some []` is a key of its own. -/
def LatestOfKey (l : CLog) (r : Rec) : Prop :=
  ∃ k, r.body.key = some k ∧ r.offset ≤ l.hw ∧
    ∀ r' ∈ l.abs, r'.body.key = some k → r'.offset ≤ l.hw → r'.offset ≤ r.offset

theorem invC_of_inv (l : CLog) (h : Inv l) : InvC l :=
  ⟨h.nonempty, h.sorted, h.base_le, h.chain, h.inner_nonempty⟩

/-- Cleaning (any retention limits, compaction on or off) preserves the invariant. -/
theorem invC_cleanLog (l : CLog) (lim : Retention.Limits) (ttl : Int) (c : Bool) (h : InvC l) :
    InvC (cleanLog lim ttl c l) := invC_cleanLog' l lim ttl c h

/-- Each surviving message is unchanged, at its original offset and in its original order:
the compacted log is a sublist of the log before (records carry offset, timestamp, epoch,
key, value and headers). -/
theorem survivors_unchanged (l : CLog) : (compactLog l).abs.Sublist l.abs := survivors_sublist l

/-- The most recent committed message of every key survives. -/
theorem latest_kept (l : CLog) (h : InvC l) (r : Rec) (hr : r ∈ l.abs) (hl : LatestOfKey l r) :
    r ∈ (compactLog l).abs := latest_kept' l h r hr hl

/-- Every message without a key survives. -/
theorem keyless_kept (l : CLog) (r : Rec) (hr : r ∈ l.abs) (hk : r.body.key = none) :
    r ∈ (compactLog l).abs := kept_of_retain l r hr (retain_keyless _ _ r hk)

/-- Every message at or above the high watermark survives. -/
theorem above_hw_kept (l : CLog) (r : Rec) (hr : r ∈ l.abs) (hhw : l.hw ≤ r.offset) :
    r ∈ (compactLog l).abs := kept_of_retain l r hr (retain_above_hw _ _ r hhw)

/-- Every message in the newest segment survives. -/
theorem newest_segment_kept (l : CLog) (r : Rec) (hr : r ∈ newestSegRecs l) :
    r ∈ (compactLog l).abs := by
  rw [compactLog, compactLog_abs]
  refine List.mem_append_right _ ?_
  cases h : l.segs.getLast? <;> simp_all [newestSegRecs, active]

/-- Nothing else changes: a message is removed only if a later committed message has the same key. -/
theorem removed_only_superseded (l : CLog) (h : InvC l) (r : Rec) (hr : r ∈ l.abs)
    (hgone : r ∉ (compactLog l).abs) :
    ∃ k r', r.body.key = some k ∧ r' ∈ l.abs ∧ r'.body.key = some k ∧ r.offset < r'.offset ∧ r'.offset ≤ l.hw := by
  -- `r` failed the retain test, so (`retain_iff`) it has a key and is not the latest of it
  have hk : ¬ Keep l.abs l.hw r := fun hk => hgone (kept_of_retain l r hr ((retain_iff h.seg_sorted hr).mpr hk))
  cases hkey : r.body.key with
  | none => exact absurd (Or.inl hkey) hk
  | some k =>
    apply Classical.byContradiction
    intro hno
    refine hk (Or.inr (Or.inr fun r' hr' hk' hle => ?_))
    apply Classical.byContradiction
    intro hlt
    exact hno ⟨k, r', rfl, hr', by rw [hk', hkey], by omega, hle⟩

/-- The record at the high watermark survives, so committed readers stay well defined. -/
theorem hw_record_survives (l : CLog) (r : Rec) (hr : r ∈ l.abs) (hhw : r.offset = l.hw) :
    r ∈ (compactLog l).abs := above_hw_kept l r hr (by omega)

set_option linter.unusedVariables false in -- holds even without `InvC` (the last segment is untouched)
/-- Compaction does not move the end of the log or the high watermark. -/
theorem compact_keeps_ends (l : CLog) (h : InvC l) :
    (compactLog l).nextOffset = l.nextOffset ∧ (compactLog l).hw = l.hw :=
  ⟨compactLog_nextOffset l, cleanLog_hw _ _ _ l⟩

/-- Repeated compaction (no appends in between) removes nothing more. -/
theorem compact_idempotent (l : CLog) (h : InvC l) : (compactLog (compactLog l)).abs = (compactLog l).abs := by
  have h' := invC_cleanLog' l ⟨0, 0, 0⟩ 0 true h
  unfold compactLog
  rw [compactLog_abs, abs_inner_active (cleanLog _ _ _ l)]
  congr 1
  -- a record that passed the retain test passes it again: there are fewer competitors now
  apply List.filter_eq_self.mpr
  intro r hr
  have hr' : r ∈ (cleanLog ⟨0, 0, 0⟩ 0 true l).abs := by
    rw [abs_inner_active]; exact List.mem_append_left _ hr
  rw [compactLog_inner] at hr
  obtain ⟨hr1, hr2⟩ := List.mem_filter.mp hr
  have hrl : r ∈ l.abs := by rw [abs_inner_active]; exact List.mem_append_left _ hr1
  rw [cleanLog_hw]
  exact (retain_iff h'.seg_sorted hr').mpr
    (((retain_iff h.seg_sorted hrl).mp hr2).mono fun x hx => (survivors_sublist l).subset hx)

/-- Forward readers on a compacted (sparse) log: from ANY start offset, exactly the surviving
messages at or after it, in order. -/
theorem readUncommitted_sparse (l : CLog) (s : Int) (h : InvC l) (hs : ∃ r ∈ l.abs, s ≤ r.offset) :
    l.readUncommitted s = .ok (l.abs.filter (fun r => s ≤ r.offset)) :=
  readUncommitted_eq_wfc h.wfc s hs

/-- Committed readers on a compacted log (the HW record always survives compaction). -/
theorem readCommitted_sparse (l : CLog) (s : Int) (h : InvC l)
    (hhw : ∃ r ∈ l.abs, r.offset = l.hw) (hs : s ≤ l.hw) :
    l.readCommitted s = .ok (l.abs.filter (fun r => s ≤ r.offset ∧ r.offset ≤ l.hw)) :=
  readCommitted_eq_wfc h.wfc (h.oldest_ne fun he => by simp [he] at hhw) s hhw hs

end Liftbridge.Props.C08
