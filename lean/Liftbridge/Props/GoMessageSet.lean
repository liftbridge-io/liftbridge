/-
The offset stamping and the concurrency-control decision of the model ARE the translated Go code.

`Gen/GoMessageSet.lean` holds `newMessageSetFromProto` of server/commitlog/message_set.go.
`go_newMessageSet`: for EVERY base offset, message list and concurrency-control flag, the translated
body panics exactly when the model's `append` does (concurrency control with a batch of more than
one message), returns the encode error / the incorrect-offset error exactly when `CLog.stamp` does,
and otherwise returns one index entry per message carrying exactly the offsets, timestamps and
leader epochs `CLog.stamp` assigns. `encode`, `binary.Write` and the buffer are external calls (the
byte layout is C01's codec model); positions and sizes of the entries are not part of this
statement.
-/
import Liftbridge.Proofs.GoCodeBase
import Liftbridge.Gen.GoMessageSet

namespace Liftbridge.Props.GoMessageSet
open Liftbridge Liftbridge.GoMini Liftbridge.GoCode Liftbridge.Log Liftbridge.Log.CLog
open Liftbridge.Gen.GoMessageSet

theorem translation_complete : unsupported = [] := rfl

/-- `*Message`: what `newMessageSetFromProto` reads, and what `encode` says about it -/
def encMsg (m : Msg) : Val :=
  .struct [("Offset", .int m.expected), ("Timestamp", .int m.ts), ("LeaderEpoch", .int m.epoch),
           ("encodable", .bool m.body.encodable), ("encLen", .int m.body.encLen)]

/-- `encode(m)` yields `encLen` bytes or its error; `buf.Write` two values; `binary.Write` nil -/
def msExt : Ext := fun f args _ =>
  if f = "encode" then
    match args with
    | [.struct fs] =>
      match lookup "encodable" fs, lookup "encLen" fs with
      | some (.bool true), some (.int k) => some (.tup [.list (List.replicate k.toNat (.int 0)), .nil])
      | some (.bool false), _ => some (.tup [.nil, .str "error: encode"])
      | _, _ => none
    | _ => none
  else if f = "Write" then some (.tup [.int 0, .nil])
  else none

def globals : List (String × Val) := [("ErrIncorrectOffset", .str "incorrect offset"), ("encoding", .struct [])]

/-- (offset, timestamp, leader epoch) of an index entry -/
def entryView : Val → Option (Int × Int × Int)
  | .struct fs => match lookup "Offset" fs, lookup "Timestamp" fs, lookup "LeaderEpoch" fs with
    | some (.int o), some (.int t), some (.int e) => some (o, t, e)
    | _, _, _ => none
  | _ => none

def entriesView : List Val → Option (List (Int × Int × Int))
  | [] => some []
  | v :: rest => match entryView v, entriesView rest with
    | some x, some xs => some (x :: xs)
    | _, _ => none

inductive Outcome where
  | entries (es : List (Int × Int × Int))
  | encodeError
  | incorrectOffset
  | panic
  | other
  deriving Repr, DecidableEq

def ofGo : R Out → Outcome
  | .ok o => match o.rets with
    | [_, .list es, .nil] => (match entriesView es with | some v => .entries v | none => .other)
    | [.nil, .nil, .str "error: encode"] => .encodeError
    | [.nil, .nil, .str "incorrect offset"] => .incorrectOffset
    | _ => .other
  | .panic => .panic
  | .stuck _ => .other

/-- the model: `append`'s batch check, then `stamp` -/
def ofModel (occ : Bool) (base : Int) (ms : List Msg) : Outcome :=
  if occ && Gen.Log.occBatchCmp.evalNat ms.length 1 then .panic else
  match stamp occ base 0 ms with
  | .ok rs => .entries (rs.map fun r => (r.offset, r.ts, (r.epoch : Int)))
  | .err e => if e = "encode" then .encodeError else if e = "incorrect-offset" then .incorrectOffset else .other
  | .panic => .panic

theorem lk_fn : evalE.lookup' "newMessageSetFromProto" prog = some fn_newMessageSetFromProto := by simp [prog, gomini]
theorem lk_none (f : String) (h : f ≠ "newMessageSetFromProto") : evalE.lookup' f prog = none := by
  simp [prog, evalE.lookup', h]
theorem builtin_encode (fs : List (String × Val)) : builtin "encode" [.struct fs] = none := by simp [builtin]
theorem builtin_binaryWrite (a b c : Val) : builtin "binary.Write" [a, b, c] = none := by cases a <;> simp [builtin]
theorem sig_a : fn_newMessageSetFromProto.recv = none ∧
    fn_newMessageSetFromProto.params = ["baseOffset", "basePos", "msgs", "concurrencyControl"] := ⟨rfl, rfl⟩

theorem facts : Gen.Log.occExpectedCmp = .ne ∧ Gen.Log.occWaiveCmp = .ne ∧ Gen.Log.occBatchCmp = .gt ∧
    Gen.Log.encodeErrPanics = false := by decide

/-- concurrency control and more than one message: the body panics, as the model's `append` does -/
theorem go_batch_panics (base pos : Int) (ms : List Msg) (h : 1 < ms.length) :
    ofGo (runG prog msExt 40 "newMessageSetFromProto" none
      [.int base, .int pos, .list (ms.map encMsg), .bool true] globals) = ofModel true base ms := by
  have h' : ((1 : Int) < (ms.length : Int)) := by omega
  simp [runG, fn_newMessageSetFromProto, gomini, bind, R.bind, lk_fn, binInt, h', ofGo, ofModel,
    facts, Cmp.evalNat, h]

def loopBody : List Stmt :=
  match fn_newMessageSetFromProto.body with
  | [_, _, _, _, .forRange _ _ _ b, _] => b
  | _ => []

theorem body_shape : ∃ a b c d e, fn_newMessageSetFromProto.body = [a, b, c, d, .forRange (some "i") (some "m") (.var "msgs") loopBody, e] :=
  ⟨_, _, _, _, _, rfl⟩

def triple (r : Rec) : Int × Int × Int := (r.offset, r.ts, (r.epoch : Int))

def errVal (e : String) : Val := if e = "encode" then .str "error: encode" else .str "incorrect offset"

theorem set_at_length (P : List Val) (x v : Val) (R : List Val) : (P ++ x :: R).set P.length v = P ++ v :: R :=
  GoCode.set_at_length P x v R

theorem entriesView_append (A B : List Val) (a b : List (Int × Int × Int)) (ha : entriesView A = some a) (hb : entriesView B = some b) :
    entriesView (A ++ B) = some (a ++ b) := by
  induction A generalizing a with
  | nil => simp [entriesView] at ha; subst ha; simpa using hb
  | cons x A ih =>
    simp only [List.cons_append, entriesView] at ha ⊢
    cases hx : entryView x with
    | none => simp [hx] at ha
    | some t =>
      cases hA : entriesView A with
      | none => simp [hx, hA] at ha
      | some as =>
        simp [hx, hA] at ha
        subst ha
        simp [ih as hA]

/-- the variables the loop reads: the parameters and globals, the buffer, the entries filled so far (`P`) and still to
fill (`k` of them), the number of bytes written -/
def loopVars (occ : Bool) (base pos : Int) (P : List Val) (k : Nat) (nn : Int) : List (String × Val) :=
  [("concurrencyControl", .bool occ), ("baseOffset", .int base), ("basePos", .int pos), ("buf", .struct []), ("encoding", .struct []),
   ("ErrIncorrectOffset", .str "incorrect offset"), ("entries", .list (P ++ List.replicate k .nil)), ("n", .int nn)]

/-- one pass of the loop body, on message `m` at index `P.length`: the model's `stamp` refuses it (not encodable; under
concurrency control an expected offset that is not the one it would get), or its index entry is stored -/
theorem stamp_body (n : Nat) (occ : Bool) (base pos : Int) (m : Msg) (P : List Val) (k : Nat) (nn : Int) (st : St)
    (hP : P.length < 2 ^ 63)
    (hb : st.Binds (("i", .int P.length) :: ("m", encMsg m) :: loopVars occ base pos P (k + 1) nn)) :
    if m.body.encodable = false then
      ∃ st', runBlock (exec prog msExt (n + 12)) loopBody st = .ok (.ret [.nil, .nil, .str "error: encode"], st')
    else if occ = true ∧ m.expected ≠ -1 ∧ base + (P.length : Int) ≠ m.expected then
      ∃ st', runBlock (exec prog msExt (n + 12)) loopBody st = .ok (.ret [.nil, .nil, .str "incorrect offset"], st')
    else ∃ st' v nn', runBlock (exec prog msExt (n + 12)) loopBody st = .ok (.next, st') ∧
      entryView v = some (base + (P.length : Int), m.ts, (m.epoch : Int)) ∧ st'.Binds (loopVars occ base pos (P ++ [v]) k nn') := by
  have hw := wrapS64_nat P.length hP
  simp only [St.Binds, loopVars] at hb
  split
  · next henc =>
    refine ⟨?_, ?_⟩
    case refine_2 =>
      simp [loopBody, fn_newMessageSetFromProto, gomini, bind, R.bind, hb, encMsg, msExt, henc, lk_none, builtin_encode]
      rfl
  · next henc =>
    have henc : m.body.encodable = true := by simpa using henc
    -- up to the test: the message is encoded, its length, position and offset computed
    let sa : St := (st.log "encode" [encMsg m]).setAll [("data", .list (List.replicate m.body.encLen (.int 0))), ("err", .nil),
      ("len", .int (wrapS 32 m.body.encLen)), ("relPos", .int (wrapS 64 nn)), ("offset", .int ((P.length : Int) + base))]
    have hpre : runBlock (exec prog msExt (n + 12)) (loopBody.take 5) st = .ok (.next, sa) := by
      simp [sa, loopBody, fn_newMessageSetFromProto, gomini, bind, R.bind, St.setAll, encMsg, msExt, lk_none, builtin_encode, binInt, hb, henc, hw]
    split
    · next hconf =>
      obtain ⟨rfl, he1, he2⟩ := hconf
      have he2' : ¬ ((P.length : Int) + base = m.expected) := by omega
      refine ⟨?_, ?_⟩
      case refine_2 =>
        rw [runBlock_take 5 hpre]
        simp [sa, loopBody, fn_newMessageSetFromProto, gomini, St.setAll, encMsg, binInt, hb, he1, he2']
        rfl
    · next hconf =>
      -- the test of the expected offset is not made, or it passes
      have hgo : occ = false ∨ (occ = true ∧ m.expected = -1) ∨ (occ = true ∧ m.expected ≠ -1 ∧ m.expected = (P.length : Int) + base) := by
        cases occ
        · exact .inl rfl
        · by_cases h1 : m.expected = -1
          · exact .inr (.inl ⟨rfl, h1⟩)
          · exact .inr (.inr ⟨rfl, h1, by by_cases h2 : m.expected = (P.length : Int) + base; exact h2; exact absurd ⟨rfl, h1, by omega⟩ hconf⟩)
      have hlt : P.length < P.length + (k + 1) := by omega
      have htest : runBlock (exec prog msExt (n + 12)) ((loopBody.drop 5).take 1) sa = .ok (.next, sa) := by
        rcases hgo with rfl | ⟨rfl, h1⟩ | ⟨rfl, h1, h2⟩ <;>
          simp [sa, loopBody, fn_newMessageSetFromProto, gomini, bind, R.bind, St.setAll, encMsg, binInt, *]
      refine ⟨?_, .struct [("Offset", .int ((P.length : Int) + base)), ("Timestamp", .int m.ts), ("LeaderEpoch", .int m.epoch),
          ("Position", .int (pos + wrapS 64 nn)), ("Size", .int (wrapS 32 (m.body.encLen : Int) + 28))],
        nn + 8 + 8 + 8 + 4 + wrapS 32 (m.body.encLen : Int), ?run, by simp [entryView, gomini]; omega, ?_⟩
      case run =>
        rw [runBlock_take 5 hpre, runBlock_take 1 htest]
        simp [sa, loopBody, fn_newMessageSetFromProto, gomini, bind, R.bind, St.setAll, encMsg, msExt, lk_none, builtin_binaryWrite, binInt, List.replicate_succ, hb, hlt]
        rfl
      simp [St.Binds, loopVars, gomini, hb]

/-- what the loop over the messages does, by the model's `stamp` on the remaining messages -/
theorem stamp_loop (n : Nat) (occ : Bool) (base pos : Int) :
    ∀ (xs : List Msg) (P : List Val) (nn : Int) (st : St),
    P.length + xs.length < 2 ^ 63 → st.Binds (loopVars occ base pos P xs.length nn) →
    match stamp occ base P.length xs with
    | .ok rs => ∃ st' E, runRange (runBlock (exec prog msExt (n + 12)) loopBody) (some "i") (some "m") P.length (xs.map encMsg) st = .ok (.next, st') ∧
        st'.env "entries" = some (.list (P ++ E)) ∧ entriesView E = some (rs.map triple) ∧ st'.env "buf" = some (.struct [])
    | .err e => ∃ st', runRange (runBlock (exec prog msExt (n + 12)) loopBody) (some "i") (some "m") P.length (xs.map encMsg) st =
        .ok (.ret [.nil, .nil, errVal e], st')
    | .panic => False := by
  intro xs
  induction xs with
  | nil =>
    intro P nn st _ hb
    exact ⟨st, [], rfl, by simpa [loopVars] using hb.2.2.2.2.2.2.1, rfl, hb.2.2.2.1⟩
  | cons m rest ih =>
    intro P nn st hi hb
    have hbody := stamp_body n occ base pos m P rest.length nn ((st.set "i" (.int P.length)).set "m" (encMsg m))
      (by simp at hi; omega) ⟨rfl, rfl, hb⟩
    rw [List.map_cons, runRange_cons]
    simp only [stamp, facts, Cmp.evalInt]
    by_cases henc : m.body.encodable = false
    · obtain ⟨st', h⟩ := (if_pos henc ▸ hbody :)
      simp only [henc, Bool.not_false, if_true]
      exact ⟨st', by simp only [h]; rfl⟩
    · rw [if_neg henc] at hbody
      have henc : m.body.encodable = true := by simpa using henc
      simp only [henc, Bool.not_true, Bool.false_eq_true, if_false]
      by_cases hconf : occ = true ∧ m.expected ≠ -1 ∧ base + (P.length : Int) ≠ m.expected
      · obtain ⟨st', h⟩ := (if_pos hconf ▸ hbody :)
        rw [if_pos (by simpa [and_assoc] using hconf)]
        exact ⟨st', by simp only [h]; rfl⟩
      · obtain ⟨st1, v, nn', hstep, hv, hb1⟩ := (if_neg hconf ▸ hbody :)
        rw [if_neg (by simpa [and_assoc] using hconf)]
        have hrec := ih (P ++ [v]) nn' st1 (by simp at hi ⊢; omega) hb1
        rw [List.length_append, List.length_singleton] at hrec
        cases hs : stamp occ base (P.length + 1) rest with
        | ok rs =>
          rw [hs] at hrec
          obtain ⟨st', E, hr, e1, e2, e3⟩ := hrec
          exact ⟨st', v :: E, by simp only [hstep]; exact hr, by simpa using e1, by simp [entriesView, hv, e2, triple], e3⟩
        | err e =>
          rw [hs] at hrec
          obtain ⟨st', hr⟩ := hrec
          exact ⟨st', by simp only [hstep]; exact hr⟩
        | panic => rw [hs] at hrec; exact hrec.elim

theorem stamp_err_kinds (occ : Bool) (base : Int) : ∀ (ms : List Msg) (i : Nat) (e : String),
    stamp occ base i ms = .err e → e = "encode" ∨ e = "incorrect-offset" := by
  intro ms
  induction ms with
  | nil => intro i e h; simp [stamp] at h
  | cons m rest ih =>
    intro i e h
    simp only [stamp, facts] at h
    by_cases h1 : m.body.encodable = true
    · simp only [h1, Bool.not_true, Bool.false_eq_true, if_false] at h
      split at h
      · right; simpa using h.symm
      · cases hs : stamp occ base (i + 1) rest with
        | ok rs => rw [hs] at h; simp [bind, Res.bind] at h
        | err e' =>
          rw [hs] at h
          have : e' = e := by simpa [bind, Res.bind] using h
          exact this ▸ ih (i + 1) e' hs
        | panic => rw [hs] at h; simp [bind, Res.bind] at h
    · have h1' : m.body.encodable = false := by simpa using h1
      simp [h1'] at h
      left; exact h.symm

theorem entriesView_map_triple_inj (rs : List Rec) : (rs.map triple) = rs.map (fun r => (r.offset, r.ts, (r.epoch : Int))) := rfl

/-- **`newMessageSetFromProto` = the model's batch check + `stamp`**: the same panic, the same refusal
(encode error / incorrect offset), the same offsets, timestamps and leader epochs for the index entries —
for every base offset, message list (shorter than 2^63) and concurrency-control flag. -/
theorem go_newMessageSet (occ : Bool) (base pos : Int) (ms : List Msg) (hlen : ms.length < 2 ^ 63) :
    ofGo (runG prog msExt 40 "newMessageSetFromProto" none
      [.int base, .int pos, .list (ms.map encMsg), .bool occ] globals) = ofModel occ base ms := by
  by_cases hb : occ = true ∧ 1 < ms.length
  · obtain ⟨rfl, h⟩ := hb
    exact go_batch_panics base pos ms h
  · have hcondM : (occ && Gen.Log.occBatchCmp.evalNat ms.length 1) = false := by
      cases occ <;> simp [facts, Cmp.evalNat] at hb ⊢; omega
    -- up to the loop: no panic, an empty buffer, `len(msgs)` empty entries
    let s0 : St := { env := envOf ([("baseOffset", .int base), ("basePos", .int pos), ("msgs", .list (ms.map encMsg)),
      ("concurrencyControl", .bool occ)] ++ globals), eff := [] }
    let s1 : St := s0.setAll [("buf", .struct []), ("entries", .list (List.replicate ms.length .nil)), ("n", .int 0)]
    have h0 : runBlock (exec prog msExt 40) (fn_newMessageSetFromProto.body.take 4) s0 = .ok (.next, s1) := by
      have h1 : occ = true → ¬ ((1 : Int) < (ms.length : Int)) := fun h h' => hb ⟨h, by omega⟩
      have hnn : ¬ ((ms.length : Int) < 0) := by omega
      cases occ <;> simp [s0, s1, fn_newMessageSetFromProto, gomini, bind, R.bind, St.setAll, binInt, globals, hnn, h1]
    have hloop := stamp_loop 27 occ base pos ms [] 0 s1 (by simpa using hlen) ⟨rfl, rfl, rfl, rfl, rfl, rfl, rfl, rfl, trivial⟩
    simp only [List.length_nil, List.nil_append] at hloop
    simp only [ofModel, hcondM]
    rw [runG_eq (body := fn_newMessageSetFromProto.body) rfl rfl]
    refine Ends.view ?_
    show Ends (runBlock _ _ s0) _
    rw [runBlock_take 4 h0, show fn_newMessageSetFromProto.body.drop 4 = .forRange (some "i") (some "m") (.var "msgs") loopBody ::
      fn_newMessageSetFromProto.body.drop 5 from rfl, runBlock_cons_andThen]
    cases hs : stamp occ base 0 ms with
    | ok rs =>
      rw [hs] at hloop
      obtain ⟨st', E, hr, e1, e2, e3⟩ := hloop
      rw [andThen_of (r := exec prog msExt 40 (.forRange (some "i") (some "m") (.var "msgs") loopBody) s1) hr, ← St.Binds.setAll (st := st') (bs := [("buf", .struct []), ("entries", .list E)]) ⟨e3, e1, trivial⟩]
      exact ⟨_, _, rfl, by simp [ofGo, Out.of, e2, triple]⟩
    | err e =>
      rw [hs] at hloop
      obtain ⟨st', hr⟩ := hloop
      rw [show exec prog msExt 40 (.forRange (some "i") (some "m") (.var "msgs") loopBody) s1 = _ from hr]
      exact ⟨_, _, rfl, by rcases stamp_err_kinds occ base ms 0 e hs with rfl | rfl <;> rfl⟩
    | panic => rw [hs] at hloop; exact hloop.elim

/-! ### non-vacuity: with concurrency control a stale expected offset is refused, the right one is stamped -/
def pl : Payload := { key := none, val := some [1], hdrs := [] }
example : ofModel true 5 [{ ts := 9, epoch := 2, body := pl, expected := 4 }] = .incorrectOffset := by
  simp [ofModel, stamp, facts, Cmp.evalNat, Cmp.evalInt, pl, Payload.encodable, Gen.Log.headerCountCmp, Gen.Log.putStringLenCmp]
example : ofModel true 5 [{ ts := 9, epoch := 2, body := pl, expected := 5 }] = .entries [(5, 9, 2)] := by
  simp [ofModel, stamp, facts, Cmp.evalNat, Cmp.evalInt, pl, Payload.encodable, Gen.Log.headerCountCmp, Gen.Log.putStringLenCmp]
example : ofModel false 5 [{ ts := 9, epoch := 2, body := pl, expected := 4 }, { ts := 10, epoch := 2, body := pl }] =
    .entries [(5, 9, 2), (6, 10, 2)] := by
  simp [ofModel, stamp, facts, Cmp.evalNat, Cmp.evalInt, pl, Payload.encodable, Gen.Log.headerCountCmp, Gen.Log.putStringLenCmp]

end Liftbridge.Props.GoMessageSet
