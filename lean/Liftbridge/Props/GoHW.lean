/-
C03 at the level of the function body: `commitLog.waitForHW` (server/commitlog/commitlog.go), the one critical
section in which a committed reader that found nothing more to read decides between "the high watermark has
moved since I looked: go on", "the log is read-only and fully committed: end" and "register and wait" -
translated from the code. A channel send is an effect.

The writers' side of the same hand-shake is translated too (second half of this file): `SetHighWatermark`,
`OverrideHighWatermark`, `notifyHWChange`, `notifyReadonly`, `SetReadonly`, `removeHWWaiter`, for EVERY map of
registered waiters (no bound on their number; loop lemma `wake_loop` by induction over the map).
Together with `go_waitForHW` this is "no lost wake-up" at the level of the code: a reader is either told at
registration time that the HW has moved, or it is in the map, and every later HW change reaches everything in the map.
`model_registerWait` / `model_setHW` / `model_setReadonly` / `model_wakeAll` tie the model's transitions to the same shape.
-/
import Liftbridge.Proofs.GoHW
import Liftbridge.Model.HWReader

namespace Liftbridge.Props.GoHW
open Liftbridge Liftbridge.GoMini Liftbridge.GoCode
open Liftbridge.Gen.GoHW


theorem translation_complete : unsupported = [] := rfl

theorem binVal_int (op : String) (a b : Int) : binVal op (Val.int a) (Val.int b) = binInt op a b := GoMini.binVal_int op a b

/-- the log: high watermark, newest offset, read-only flag, the registered waiters (a map keyed by reader) -/
def encLog (hw newest : Int) (readonly : Bool) (waiters : List (String × Val)) : Val :=
  .struct [("hw", .int hw), ("NewestOffset", .int newest), ("IsReadonly", .bool readonly), ("hwWaiters", .struct waiters)]

def chanV : Val := .struct [("chan", .str "chan bool")]

/-- (what was sent into the reader's channel, the waiters afterwards) -/
def view : R Out → Option (List (List Val) × Option Val)
  | .ok o => some ((o.eff.filter fun e => e.1 = "chan.send").map (·.2),
      match o.recv with | some (.struct fs) => lookup "hwWaiters" fs | _ => none)
  | _ => none

inductive Verdict | goOn | ended | registered
  deriving DecidableEq, Repr

/-- the decision, in the order of the code -/
def verdict (hw newest : Int) (readonly : Bool) (sample : Int) : Verdict :=
  if hw ≠ sample then .goOn else if hw = newest ∧ readonly then .ended else .registered

/-- For every log state and every sampled value exactly one of three things happens, decided in THIS order:
  1. the log's HW differs from the sample  -> `false` is sent, nobody is registered;
  2. else HW = newest offset and read-only  -> `true` is sent, nobody is registered;
  3. else                                   -> the reader's channel is registered under the reader, nothing is sent.
The order matters: a reader with a stale sample on a read-only, fully committed log must be told to go on (there may be
committed messages it has not seen), not that the log has ended. -/
theorem go_waitForHW (hw newest : Int) (readonly : Bool) (waiters : List (String × Val)) (reader : String) (sample : Int) :
    view (runG prog noExt 30 "waitForHW" (some (encLog hw newest readonly waiters)) [.str reader, .int sample] []) =
      some (match verdict hw newest readonly sample with
        | .goOn => ([[chanV, .bool false]], some (.struct waiters))
        | .ended => ([[chanV, .bool true]], some (.struct waiters))
        | .registered => ([], some (.struct (update reader chanV waiters)))) := by
  by_cases h1 : hw = sample
  · subst h1
    by_cases h2 : hw = newest
    · subst h2
      cases readonly <;>
        simp [runG, fn_commitLog_waitForHW, prog, gomini, encLog, view, verdict, chanV, binInt, builtin_chan_send]
    · simp [runG, fn_commitLog_waitForHW, prog, gomini, encLog, view, verdict, chanV, binInt, h2]
  · simp [runG, fn_commitLog_waitForHW, prog, gomini, encLog, view, verdict, chanV, binInt, builtin_chan_send, h1]

/-- the model's critical section (`HWReader.registerWait true`) takes the same three branches in the same order (its
comparison operators are read from the code) -/
theorem model_registerWait (s : HWReader.State) (id : Nat) (r : HWReader.Reader) :
    HWReader.registerWait true s id r =
      (match verdict s.log.hw s.log.newest s.log.readonly r.hwSeen with
       | .goOn => HWReader.setReader s id { r with phase := .atLimit }
       | .ended => HWReader.setReader s id (HWReader.fail r "readonly")
       | .registered => { HWReader.setReader s id { r with phase := .waiting } with waiters := id :: s.waiters }) := by
  unfold HWReader.registerWait verdict
  by_cases h1 : s.log.hw = r.hwSeen <;> by_cases h2 : s.log.hw = s.log.newest <;> cases hr : s.log.readonly <;>
    simp [Gen.HWReader.waitRecheckCmp, Gen.HWReader.waitReadonlyCmp, Cmp.evalInt, h1, h2] <;> simp_all


/-! ### the writers' side -/

def fieldOf (f : String) : Option Val → Option Val
  | some (.struct fs) => lookup f fs
  | _ => none

/-- (complete effect trace, high watermark afterwards, waiters afterwards) -/
def hwView : R Out → Option (List (String × List Val) × Option Val × Option Val)
  | .ok o => some (o.eff, fieldOf "hw" o.recv, fieldOf "hwWaiters" o.recv)
  | _ => none

theorem wake_all (n : Nat) (b : Bool) (lf ws : List (String × Val)) (eff : List (String × List Val)) :
    ∃ st', runRangeMap (runBlock (exec prog noExt (n+6)) (wakeBody b)) (some "r") (some "ch") ws
        ⟨envOf [("l", .struct (update "hwWaiters" (.struct ws) lf))], eff⟩ = .ok (.next, st') ∧
      st'.env "l" = some (.struct (update "hwWaiters" (.struct []) lf)) ∧ st'.eff = eff ++ sends b ws := by
  simpa only [eraseAll_self] using wake_loop n b lf ws ws ⟨_, eff⟩ rfl

/-- a value above the current HW is stored, EVERY registered waiter's channel receives `false` exactly once and the map is
empty afterwards; any other value changes nothing and wakes nobody (the HW never moves backwards through this call) -/
theorem go_SetHighWatermark (hw newest : Int) (readonly : Bool) (waiters : List (String × Val)) (h : Int) :
    hwView (runG prog noExt 30 "SetHighWatermark" (some (encLog hw newest readonly waiters)) [.int h] []) =
      some (if h > hw then (sends false waiters, some (.int h), some (.struct []))
            else ([], some (.int hw), some (.struct waiters))) := by
  by_cases hc : h > hw
  · obtain ⟨st', h1, h2, h3⟩ := wake_all 21 false
      [("hw", .int h), ("NewestOffset", .int newest), ("IsReadonly", .bool readonly), ("hwWaiters", .struct waiters)] waiters []
    simp [wakeBody, gomini] at h1 h2
    simp [runG, fn_commitLog_SetHighWatermark, fn_commitLog_notifyHWChange, gomini, encLog, hwView, fieldOf, binInt, hc, h1, h2, h3]
  · simp [runG, fn_commitLog_SetHighWatermark, gomini, encLog, hwView, fieldOf, binInt, hc]

/-- the value is stored whatever it is, and every waiter is woken -/
theorem go_OverrideHighWatermark (hw newest : Int) (readonly : Bool) (waiters : List (String × Val)) (h : Int) :
    hwView (runG prog noExt 30 "OverrideHighWatermark" (some (encLog hw newest readonly waiters)) [.int h] []) =
      some (sends false waiters, some (.int h), some (.struct [])) := by
  obtain ⟨st', h1, h2, h3⟩ := wake_all 22 false
    [("hw", .int h), ("NewestOffset", .int newest), ("IsReadonly", .bool readonly), ("hwWaiters", .struct waiters)] waiters []
  simp [wakeBody, gomini] at h1 h2
  simp [runG, fn_commitLog_OverrideHighWatermark, fn_commitLog_notifyHWChange, gomini, encLog, hwView, fieldOf, h1, h2, h3]

/-- with HW < newest offset nobody is woken and the map is kept; otherwise every waiter receives `true` and the map is emptied -/
theorem go_notifyReadonly (hw newest : Int) (readonly : Bool) (waiters : List (String × Val)) :
    hwView (runG prog noExt 30 "notifyReadonly" (some (encLog hw newest readonly waiters)) [] []) =
      some (if hw < newest then ([], some (.int hw), some (.struct waiters))
            else (sends true waiters, some (.int hw), some (.struct []))) := by
  by_cases hc : hw < newest
  · simp [runG, fn_commitLog_notifyReadonly, gomini, encLog, hwView, fieldOf, binInt, hc]
  · obtain ⟨st', h1, h2, h3⟩ := wake_all 23 true
      [("hw", .int hw), ("NewestOffset", .int newest), ("IsReadonly", .bool readonly), ("hwWaiters", .struct waiters)] waiters []
    simp [wakeBody, gomini] at h1 h2
    simp [runG, fn_commitLog_notifyReadonly, gomini, encLog, hwView, fieldOf, binInt, hc, h1, h2, h3]

/-- the log record with the raw flag `SetReadonly` stores into (the store itself is an effect: `atomic.StoreInt32`) -/
def encLogR (hw newest : Int) (flag : Int) (waiters : List (String × Val)) : Val :=
  .struct [("hw", .int hw), ("NewestOffset", .int newest), ("readonly", .int flag), ("hwWaiters", .struct waiters)]

/-- `SetReadonly(true)` stores the flag and then does what `notifyReadonly` does; `SetReadonly(false)` only stores the flag -/
theorem go_SetReadonly (hw newest flag : Int) (waiters : List (String × Val)) (b : Bool) :
    hwView (runG prog noExt 30 "SetReadonly" (some (encLogR hw newest flag waiters)) [.bool b] []) =
      some (if b then
              (if hw < newest then ([("atomic.StoreInt32", [.int flag, .int 1])], some (.int hw), some (.struct waiters))
               else (("atomic.StoreInt32", [.int flag, .int 1]) :: sends true waiters, some (.int hw), some (.struct [])))
            else ([("atomic.StoreInt32", [.int flag, .int 0])], some (.int hw), some (.struct waiters))) := by
  cases b
  · rfl
  · by_cases hc : hw < newest
    · simp [runG, fn_commitLog_SetReadonly, fn_commitLog_notifyReadonly, gomini, encLogR, hwView, fieldOf, binInt,
        builtin_atomic_StoreInt32, hc]
    · obtain ⟨st', h1, h2, h3⟩ := wake_all 21 true
        [("hw", .int hw), ("NewestOffset", .int newest), ("readonly", .int flag), ("hwWaiters", .struct waiters)] waiters
        [("atomic.StoreInt32", [.int flag, .int 1])]
      simp [wakeBody, gomini] at h1 h2
      simp [runG, fn_commitLog_SetReadonly, fn_commitLog_notifyReadonly, gomini, encLogR, hwView, fieldOf, binInt,
        builtin_atomic_StoreInt32, hc, h1, h2, h3]

/-- exactly the reader's own entry goes -/
theorem go_removeHWWaiter (hw newest : Int) (readonly : Bool) (waiters : List (String × Val)) (reader : String) :
    hwView (runG prog noExt 30 "removeHWWaiter" (some (encLog hw newest readonly waiters)) [.str reader] []) =
      some ([], some (.int hw), some (.struct (eraseKey reader waiters))) := by
  rfl

/-- every waiter is among the woken, whatever the map: the sends of a wake-up list one entry per registered reader -/
theorem sends_complete (b : Bool) (waiters : List (String × Val)) (k : String) (ch : Val) (h : (k, ch) ∈ waiters) :
    ("chan.send", [ch, .bool b]) ∈ sends b waiters := by
  simp only [sends, List.mem_map]
  exact ⟨(k, ch), h, rfl⟩

/-- the model's `SetHighWatermark` has the shape of the code: strictly greater, store, wake everybody -/
theorem model_setHW (s : HWReader.State) (h : Int) :
    HWReader.setHW s h = if h > s.log.hw then HWReader.wakeAll { s with log := { s.log with hw := h } } false else s := by
  unfold HWReader.setHW
  simp [Gen.Log.setHWCmp, Gen.HWReader.setHWNotifies, Cmp.evalInt]

/-- the model's wake-up empties the waiter set -/
theorem model_wakeAll (s : HWReader.State) (ro : Bool) : (HWReader.wakeAll s ro).waiters = [] := by
  simp [HWReader.wakeAll, Gen.HWReader.notifyClearsWaiters]

/-- the model's `SetReadonly`: the wake-up happens exactly when the code's `notifyReadonly` does not return early -/
theorem model_setReadonly (s : HWReader.State) (b : Bool) :
    HWReader.setReadonly s b =
      (if b = true ∧ ¬ s.log.hw < s.log.newest then HWReader.wakeAll { s with log := { s.log with readonly := b } } true
       else { s with log := { s.log with readonly := b } }) := by
  unfold HWReader.setReadonly
  cases b <;> by_cases h : s.log.hw < s.log.newest <;> simp [Gen.HWReader.notifyReadonlyCmp, Cmp.evalInt, h]

/-- non-vacuity: two registered readers, HW 3 → 5: both channels receive `false`, the map is empty -/
example : hwView (runG prog noExt 30 "SetHighWatermark" (some (encLog 3 9 false [("r1", chanV), ("r2", chanV)])) [.int 5] []) =
    some ([("chan.send", [chanV, .bool false]), ("chan.send", [chanV, .bool false])], some (.int 5), some (.struct [])) := by
  rw [go_SetHighWatermark]; simp [sends]

end Liftbridge.Props.GoHW
