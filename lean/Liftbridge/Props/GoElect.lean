/-
C07 at the level of the function body: `metadataAPI.electNewPartitionLeader` (server/metadata.go) - who can become leader
and what is re-validated when the change is proposed - translated from the code, including its closure
`checkPreconditions`, which the translator lifts to a function of its own (parameters: the closure's, then the captured
variables `leader`, `m`, `oldEpoch`, `oldLeader`, `partition`). `go_elect` (cases `go_elect_refused`, `go_elect_proposes`)
is for EVERY in-sync list (loop lemma `cand_loop`, induction over the list) and every current leader.
-/
import Liftbridge.Proofs.GoCodeBase
import Liftbridge.Gen.GoElect

namespace Liftbridge.Props.GoElect
open Liftbridge Liftbridge.GoMini Liftbridge.GoCode
open Liftbridge.Gen.GoElect

theorem translation_complete : unsupported = [] := rfl

def encPartition (isr : List String) (leader : String) (epoch : Int) (stream : String) (id : Int) : Val :=
  .struct [("GetISR", .list (isr.map .str)), ("GetLeader", .tup [.str leader, .int epoch]), ("Stream", .str stream), ("Id", .int id)]

def mV : Val := .struct [("kind", .str "metadataAPI")]

def globals : List (String × Val) :=
  [("codes.FailedPrecondition", .str "FailedPrecondition"), ("codes.Internal", .str "Internal"), ("proto.Op_CHANGE_LEADER", .str "CHANGE_LEADER")]

/-- the candidate loop: `for _, candidate := range isr { if candidate == oldLeader { continue }; candidates = append(candidates, candidate) }` -/
def candBody : List Stmt :=
  [(.ite [] (.bin "==" (.var "candidate") (.var "oldLeader")) [.cont] []),
   (.assign [(.var "candidates")] [(.call "append" [(.var "candidates"), (.var "candidate")])])]

def others (leader : String) (isr : List String) : List String := isr.filter (· ≠ leader)

theorem cand_loop (n : Nat) (x : Ext) (leader : String) (rest : List String) :
    ∀ (i : Nat) (acc : List String) (st : St), st.env "oldLeader" = some (.str leader) → st.env "candidates" = some (.list (acc.map .str)) →
    ∃ st', runRange (runBlock (exec prog x (n + 6)) candBody) none (some "candidate") i (rest.map .str) st = .ok (.next, st') ∧
      st'.env "candidates" = some (.list ((acc ++ others leader rest).map .str)) ∧ st'.eff = st.eff ∧
      (∀ y, y ≠ "candidates" → y ≠ "candidate" → st'.env y = st.env y) := by
  induction rest with
  | nil => intro i acc st _ hc; exact ⟨st, by simp [gomini], by simpa [others] using hc, rfl, fun _ _ _ => rfl⟩
  | cons c tl ih =>
    intro i acc st hl hc
    by_cases h : c = leader
    · subst h
      obtain ⟨st', h1, h2, h3, h4⟩ := ih (i + 1) acc (st.set "candidate" (.str c)) (by simp [gomini, hl]) (by simp [gomini, hc])
      refine ⟨st', ?_, by simpa [others] using h2, by rw [h3]; simp [gomini], ?_⟩
      · simp [gomini, bind, R.bind, candBody, hl]
        simpa [candBody] using h1
      · intro y hy1 hy2; rw [h4 y hy1 hy2]; simp [gomini, hy2]
    · obtain ⟨st', h1, h2, h3, h4⟩ := ih (i + 1) (acc ++ [c]) ((st.set "candidate" (.str c)).set "candidates" (.list ((acc ++ [c]).map .str)))
        (by simp [gomini, hl]) (by simp [gomini])
      refine ⟨st', ?_, ?_, by rw [h3]; simp [gomini], ?_⟩
      · simp [gomini, bind, R.bind, candBody, hl, hc, h]
        simpa [candBody] using h1
      · simpa [others, h] using h2
      · intro y hy1 hy2; rw [h4 y hy1 hy2]; simp [gomini, hy1, hy2]

/-- the callees: `status.New(f)` build a status record, `selectPartitionLeader` picks from the list it is GIVEN, the Raft
layer answers `(future, err)` for the proposal, errors print as themselves -/
def electExt (pick : List Val → Val) (applyAns : Val) : Ext := fun f args _ =>
  if f = "status.New" ∨ f = "status.Newf" then
    match args with
    | c :: m :: _ => some (.struct [("code", c), ("msg", m)])
    | _ => none
  else if f = "selectPartitionLeader" then
    match args with
    | [_, .list cs] => some (pick cs)
    | _ => none
  else if f = "getRaft" then some (.struct [("kind", .str "raft")])
  else if f = "applyOperation" then some applyAns
  else if f = "Error" then
    match args with
    | [v] => some v
    | _ => none
  else none

/-- (the status returned, the arguments of every `applyOperation` call) -/
def electView : R Out → Option (List Val × List (List Val))
  | .ok o => some (o.rets, (o.eff.filter fun e => e.1 = "applyOperation").map (·.2))
  | _ => none

def refusedV : Val := .struct [("code", .str "FailedPrecondition"), ("msg", .str "No ISR candidates")]

def opV (stream : String) (id : Int) (leader : Val) : Val :=
  .struct [("Op", .str "CHANGE_LEADER"), ("ChangeLeaderOp", .struct [("Stream", .str stream), ("Partition", .int id), ("Leader", leader)])]

def closureV : Val := .struct [("closure", .str "electNewPartitionLeader·checkPreconditions")]

/-- what the caller gets for the three answers of the Raft layer -/
def electResult : Val → Val
  | .tup [_, .str e] => .struct [("code", .str "FailedPrecondition"), ("msg", .str "%s")]
  | .tup [.struct [("Error", .str e)], .nil] => .struct [("code", .str "Internal"), ("msg", .str "Failed to replicate leader change: %v")]
  | _ => .nil

/-- `electNewPartitionLeader` for every in-sync list and leader. An answer of the Raft layer that is not of the form
`(future, err)` is admitted where nothing is proposed (it is never looked at). Symbolic are the two tests on lengths; the loop
is `cand_loop`; after the second test the run is a computation. -/
theorem go_elect (isr : List String) (leader : String) (epoch : Int) (stream : String) (id : Int) (pick : List Val → Val)
    (applyAns : Val) (applyErr futErr : Option String)
    (hans : (isr.length ≤ 1 ∨ others leader isr = []) ∨
      applyAns = .tup [.struct [("Error", match futErr with | some e => .str e | none => .nil)], match applyErr with | some e => .str e | none => .nil]) :
    electView (runG prog (electExt pick applyAns) 30 "electNewPartitionLeader" (some mV) [.str "ctx", encPartition isr leader epoch stream id] globals) =
      some (if isr.length ≤ 1 ∨ others leader isr = [] then ([refusedV], []) else
        ([match (generalizing := false) applyErr, futErr with
          | some _, _ => .struct [("code", .str "FailedPrecondition"), ("msg", .str "%s")]
          | none, some _ => .struct [("code", .str "Internal"), ("msg", .str "Failed to replicate leader change: %v")]
          | none, none => .nil],
         [[.str "ctx", opV stream id (pick ((others leader isr).map .str)), closureV]])) := by
  rw [runG_eq rfl rfl, runBlock_ite_at 1 rfl rfl rfl rfl]
  by_cases h1 : isr.length ≤ 1
  · rw [decide_eq_true (by simp; omega), if_pos (Or.inl h1)]; rfl
  rw [decide_eq_false (by simp; omega), andThen_block rfl, runBlock_forRange_at 2 rfl rfl rfl]
  generalize hS : St.set _ "oldEpoch" _ = S
  obtain ⟨st', l1, l2, l3, l4⟩ := cand_loop 23 (electExt pick applyAns) leader isr 0 [] S (by subst hS; rfl) (by subst hS; rfl)
  simp only [candBody] at l1
  rw [andThen_of l1]
  rw [← St.Binds.setAll (st := st') (bs := [("candidates", .list ((others leader isr).map .str)), ("m", mV), ("ctx", .str "ctx"),
      ("partition", encPartition isr leader epoch stream id), ("codes.FailedPrecondition", .str "FailedPrecondition"),
      ("codes.Internal", .str "Internal"), ("proto.Op_CHANGE_LEADER", .str "CHANGE_LEADER")])
    (by subst hS; simpa [St.Binds, l4, gomini, globals] using l2)]
  rw [St.eq_of_eff l3]
  subst hS
  rw [runBlock_ite_at 0 rfl rfl rfl rfl]
  by_cases h2 : others leader isr = []
  · rw [if_pos (Or.inr h2)]; simp only [h2]; rfl
  · obtain rfl := hans.resolve_left (not_or.2 ⟨h1, h2⟩)
    rw [if_neg (not_or.2 ⟨h1, h2⟩), decide_eq_false (by simpa using h2), andThen_block rfl]
    -- the future is asked only when the proposal was accepted
    cases applyErr
    · cases futErr <;> rfl
    · rfl

/-- at most one in-sync replica, or none other than the leader: refused, nothing is proposed -/
theorem go_elect_refused (isr : List String) (leader : String) (epoch : Int) (stream : String) (id : Int) (pick : List Val → Val) (applyAns : Val)
    (h : isr.length ≤ 1 ∨ others leader isr = []) :
    electView (runG prog (electExt pick applyAns) 30 "electNewPartitionLeader" (some mV) [.str "ctx", encPartition isr leader epoch stream id] globals) =
      some ([refusedV], []) := by
  simpa [h] using go_elect isr leader epoch stream id pick applyAns none none (.inl h)

/-- more than one in-sync replica, one of them not the leader: exactly one proposal - CHANGE_LEADER for this partition with
the replica `selectPartitionLeader` picks from the CANDIDATES (the in-sync replicas other than the current leader) - handed
over with the re-validation closure; the answer of the Raft layer decides the status returned -/
theorem go_elect_proposes (isr : List String) (leader : String) (epoch : Int) (stream : String) (id : Int) (pick : List Val → Val)
    (future : Val) (applyErr : Option String) (futErr : Option String)
    (h1 : ¬ isr.length ≤ 1) (h2 : others leader isr ≠ []) :
    electView (runG prog (electExt pick (.tup [.struct [("Error", match futErr with | some e => .str e | none => .nil)],
        match applyErr with | some e => .str e | none => .nil])) 30 "electNewPartitionLeader" (some mV)
        [.str "ctx", encPartition isr leader epoch stream id] globals) =
      some ([match applyErr, futErr with
              | some _, _ => .struct [("code", .str "FailedPrecondition"), ("msg", .str "%s")]
              | none, some _ => .struct [("code", .str "Internal"), ("msg", .str "Failed to replicate leader change: %v")]
              | none, none => .nil],
            [[.str "ctx", opV stream id (pick ((others leader isr).map .str)), closureV]]) := by
  simpa [h1, h2] using go_elect isr leader epoch stream id pick _ applyErr futErr (.inr rfl)

/-! ### the closure: what is re-validated when the change is proposed -/

/-- the metadata API as the closure sees it: the two generic checks answer an error or nil, `GetPartition` answers the
partition as it is NOW (or nil), whose `inISR(candidate)` is what it is now -/
def checkExt (generic generation : Val) (current : Option Bool) : Ext := fun f _ _ =>
  if f = "checkChangeLeaderPreconditions" then some generic
  else if f = "checkLeaderGeneration" then some generation
  else if f = "GetPartition" then
    match current with
    | some b => some (.struct [("now", .bool b)])
    | none => some .nil
  else if f = "inISR" then
    match current with
    | some b => some (.bool b)
    | none => none
  else none

def checkRets : R Out → Option (List Val)
  | .ok o => some o.rets
  | _ => none

/-- The proposal-time check passes iff the generic leader-change preconditions hold, the partition still has the leader and
leader epoch the selection was made under, the partition still exists and the candidate is STILL IN THE IN-SYNC SET (`inISR`,
not merely a replica) - each failing check returns its error in that order. -/
theorem go_checkPreconditions (generic generation : Option String) (current : Option Bool) (leader : String) (oldLeader : String) (oldEpoch : Int)
    (stream : String) (id : Int) (op : Val) :
    checkRets (runG prog (checkExt (match generic with | some e => .str e | none => .nil) (match generation with | some e => .str e | none => .nil) current) 30
        "electNewPartitionLeader·checkPreconditions" none
        [op, .str leader, mV, .int oldEpoch, .str oldLeader, encPartition [] oldLeader oldEpoch stream id] []) =
      some [match generic, generation, current with
            | some e, _, _ => .str e
            | none, some e, _ => .str e
            | none, none, some true => .nil
            | none, none, _ => .str "error: Leader candidate %s is no longer in the ISR"] := by
  cases generic
  · cases generation
    · rcases current with _ | _ | _ <;> rfl
    · rfl
  · rfl

/-- the reported leader is never a candidate, whatever the in-sync list -/
theorem leader_not_candidate (leader : String) (isr : List String) : leader ∉ others leader isr := by
  simp [others]

/-- and every candidate is in the in-sync set -/
theorem candidates_in_isr (leader : String) (isr : List String) (c : String) (h : c ∈ others leader isr) : c ∈ isr := by
  simp [others] at h; exact h.1

end Liftbridge.Props.GoElect
