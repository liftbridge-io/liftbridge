/-
C12 at the level of function bodies - the part of `server/groups.go` that is free of shared pointers: the ORDER of the
subscriber heap and a consumer's load counter.

* `go_Less`: `consumerHeap.Less(i, j)` for any two consumers = "fewer assigned partitions, ties broken by the smaller
  id" - the order by which `balanceAssignmentsForStream` takes the next holder (`Groups.lean` selects the minimum of
  exactly this order).
* `go_assignPartition`, `go_removeStreamAssignments`: a consumer's `assignedCount` moves by exactly the number of
  partitions added to / dropped from its assignments - the load the order above compares.
(The rebalancing itself walks `container/heap` over consumers shared between several heaps and the member map: pointer
aliasing, outside the embedding. It is tied by regenerated facts and the exhaustive / random correspondence.)
-/
import Liftbridge.Proofs.GoCodeBase
import Liftbridge.Gen.GoGroups

namespace Liftbridge.Props.GoGroups
open Liftbridge Liftbridge.GoMini Liftbridge.GoCode
open Liftbridge.Gen.GoGroups


theorem translation_complete : unsupported = [] := rfl

theorem binVal_int (op : String) (a b : Int) : binVal op (Val.int a) (Val.int b) = binInt op a b := GoMini.binVal_int op a b

def encConsumer (id : String) (count : Int) (assignments : List (String × Val)) : Val :=
  .struct [("id", .str id), ("assignedCount", .int count), ("assignments", .struct assignments)]

def boolOf : R Out → Option Bool
  | .ok o => (match o.rets with | [.bool b] => some b | _ => none)
  | _ => none

/-- the heap order: by load, then by id -/
theorem go_Less (id1 id2 : String) (n1 n2 : Int) (a1 a2 : List (String × Val)) :
    boolOf (runG prog noExt 30 "Less" (some (.list [encConsumer id1 n1 a1, encConsumer id2 n2 a2])) [.int 0, .int 1] []) =
      some (if n1 = n2 then decide (id1 < id2) else decide (n1 < n2)) := by
  by_cases h : n1 = n2 <;> simp [runG, fn_consumerHeap_Less, prog, gomini, encConsumer, boolOf, binInt, h]

/-- the consumer after the call: (assignedCount, assignments) -/
def consumerOf : R Out → Option (Val × Val)
  | .ok o => (match o.recv with
      | some (.struct fs) => some ((lookup "assignedCount" fs).getD .nil, (lookup "assignments" fs).getD .nil)
      | _ => none)
  | _ => none

/-- one more partition of `stream`: appended to that stream's list (created when absent), the counter grows by one -/
theorem go_assignPartition (id stream : String) (n part : Int) (asg : List (String × Val)) (cur : List Val)
    (h : lookup stream asg = some (.list cur) ∨ lookup stream asg = none) :
    consumerOf (runG prog noExt 30 "assignPartition" (some (encConsumer id n asg)) [.str stream, .int part] []) =
      some (.int (n + 1), .struct (update stream (.list ((match lookup stream asg with | some (.list xs) => xs | _ => []) ++ [.int part])) asg)) := by
  rcases h with h | h <;>
    simp [runG, fn_consumer_assignPartition, prog, gomini, encConsumer, consumerOf, binInt, h]

/-- all partitions of `stream` dropped: the counter shrinks by their number, the stream's entry is gone -/
theorem go_removeStreamAssignments (id stream : String) (n : Int) (asg : List (String × Val)) (cur : List Val)
    (h : lookup stream asg = some (.list cur) ∨ lookup stream asg = none) :
    consumerOf (runG prog noExt 30 "removeStreamAssignments" (some (encConsumer id n asg)) [.str stream] []) =
      some (.int (n - (match lookup stream asg with | some (.list xs) => (xs.length : Int) | _ => 0)), .struct (eraseKey stream asg)) := by
  rcases h with h | h <;>
    simp [runG, fn_consumer_removeStreamAssignments, prog, gomini, encConsumer, consumerOf, binInt, h]

end Liftbridge.Props.GoGroups
