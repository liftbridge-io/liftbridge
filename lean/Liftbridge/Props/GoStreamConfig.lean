/-
C16 / C04 at the level of the function body: `getStreamConfig` (server/api.go) - how the per-stream settings of a CreateStream
request reach the stream's configuration - translated from the code (`Gen/GoStreamConfig.lean`).
Concurrency control (C16) and the minimum in-sync set size (C04) are such settings: a setting that is dropped here silently
turns every conditional publish of the stream into an unconditional one.

The body is one statement `if req.F != nil { config.F = &T{Value: req.F.Value} }` per setting, thirteen in all.
`go_getStreamConfig`: for EVERY request - each setting set or unset, with any value - the configuration returned holds exactly
the settings that were set, each with its value (`copied`, `lookup_copied`): one statement copies one setting and leaves the
others alone. `go_getStreamConfig_partial` is the instance in which eight of the settings are unset: RetentionMaxAge (the first
setting the body copies) and AutoPauseDisableIfSubscribers, MinIsr, OptimisticConcurrencyControl and Encryption (the last four)
each arrive exactly when set, whatever the others are.
-/
import Liftbridge.Proofs.GoCodeBase
import Liftbridge.Gen.GoStreamConfig

namespace Liftbridge.Props.GoStreamConfig
open Liftbridge Liftbridge.GoMini Liftbridge.GoCode
open Liftbridge.Gen.GoStreamConfig

theorem translation_complete : unsupported = [] := rfl

/-- a nullable setting of the request: nil, or a record with its value -/
def encOpt : Option Val → Val
  | none => .nil
  | some v => .struct [("Value", v)]

def encReq (rma apd mi occ enc : Option Val) : Val :=
  .struct [("RetentionMaxAge", encOpt rma), ("CleanerInterval", .nil), ("SegmentMaxBytes", .nil), ("SegmentMaxAge", .nil),
    ("CompactMaxGoroutines", .nil), ("RetentionMaxBytes", .nil), ("RetentionMaxMessages", .nil), ("CompactEnabled", .nil),
    ("AutoPauseTime", .nil), ("AutoPauseDisableIfSubscribers", encOpt apd), ("MinIsr", encOpt mi),
    ("OptimisticConcurrencyControl", encOpt occ), ("Encryption", encOpt enc)]

/-- the five settings as they arrive in the configuration (none: the field was never assigned) -/
def view : R Out → Option (List (Option Val))
  | .ok o => match o.rets with
    | [.struct cfg] => some (["RetentionMaxAge", "AutoPauseDisableIfSubscribers", "MinIsr", "OptimisticConcurrencyControl", "Encryption"].map
        fun f => lookup f cfg)
    | _ => none
  | _ => none

/-- the settings of a CreateStream request, in the order in which `getStreamConfig` copies them -/
def settings : List String :=
  ["RetentionMaxAge", "CleanerInterval", "SegmentMaxBytes", "SegmentMaxAge", "CompactMaxGoroutines", "RetentionMaxBytes",
   "RetentionMaxMessages", "CompactEnabled", "AutoPauseTime", "AutoPauseDisableIfSubscribers", "MinIsr",
   "OptimisticConcurrencyControl", "Encryption"]

/-- `if req.F != nil { config.F = &T{Value: req.F.Value} }` -/
def copyStmt (f : String) : Stmt :=
  .ite [] (.bin "!=" (.sel (.var "req") f) .nil)
    [.assign [.sel (.var "config") f] [.lit [("Value", .sel (.sel (.var "req") f) "Value")]]] []

theorem body_eq : fn_getStreamConfig.body =
    .assign [.var "config"] [.lit []] :: (settings.map copyStmt ++ [.ret [.var "config"]]) := by rfl

def encReqOf (o : String → Option Val) : Val := .struct (settings.map fun f => (f, encOpt (o f)))

def copied (o : String → Option Val) : List (String × Val) → List String → List (String × Val)
  | cfg, [] => cfg
  | cfg, f :: fs => copied o (match o f with | none => cfg | some v => update f (encOpt (some v)) cfg) fs

theorem lookup_copied (o : String → Option Val) (g : String) : ∀ (fs : List String) (cfg : List (String × Val)),
    lookup g (copied o cfg fs) = if g ∈ fs then ((o g).map fun v => encOpt (some v)) <|> lookup g cfg else lookup g cfg
  | [], cfg => by simp [copied]
  | f :: fs, cfg => by
    rw [copied, lookup_copied o g fs]
    by_cases hgf : g = f
    · subst hgf
      cases o g <;> by_cases hg : g ∈ fs <;> simp [hg, lookup_update_same]
    · cases o f <;> simp [hgf, lookup_update_ne _ _ _ hgf]

theorem copy_step (n : Nat) (f : String) (R cfg : List (String × Val)) (o : Option Val) (st : St)
    (hreq : st.env "req" = some (.struct R)) (hcfg : st.env "config" = some (.struct cfg)) (hf : lookup f R = some (encOpt o)) :
    exec prog noExt (n + 6) (copyStmt f) st =
      .ok (.next, o.elim st fun v => st.set "config" (.struct (update f (encOpt (some v)) cfg))) := by
  cases o <;> simp [copyStmt, gomini, hreq, hcfg, hf, encOpt, binVal, isNil]

theorem copy_all (n : Nat) (R : List (String × Val)) (o : String → Option Val) (rest : List Stmt) :
    ∀ (fs : List String) (cfg : List (String × Val)) (st : St), (∀ f ∈ fs, lookup f R = some (encOpt (o f))) →
      st.env "req" = some (.struct R) → st.env "config" = some (.struct cfg) →
      ∃ st', runBlock (exec prog noExt (n + 6)) (fs.map copyStmt ++ rest) st = runBlock (exec prog noExt (n + 6)) rest st' ∧
        st'.env "config" = some (.struct (copied o cfg fs)) ∧ st'.eff = st.eff
  | [], cfg, st, _, _, hcfg => ⟨st, rfl, hcfg, rfl⟩
  | f :: fs, cfg, st, hR, hreq, hcfg => by
    rw [List.map_cons, List.cons_append, runBlock_cons_ok _ (copy_step n f R cfg (o f) st hreq hcfg (hR f (by simp)))]
    have hR' : ∀ g ∈ fs, lookup g R = some (encOpt (o g)) := fun g hg => hR g (by simp [hg])
    cases ho : o f with
    | none => simpa [copied, ho] using copy_all n R o rest fs cfg st hR' hreq hcfg
    | some v =>
      simpa [copied, ho, gomini] using copy_all n R o rest fs _ (st.set "config" (.struct (update f (encOpt (some v)) cfg))) hR'
        (by simp [gomini, hreq]) (by simp [gomini])

theorem lk : evalE.lookup' "getStreamConfig" prog = some fn_getStreamConfig := by rfl
theorem sig : fn_getStreamConfig.recv = none ∧ fn_getStreamConfig.params = ["req"] := ⟨rfl, rfl⟩

/-- `getStreamConfig` returns the configuration that holds exactly the settings of the request that are set -/
theorem go_getStreamConfig (o : String → Option Val) :
    runG prog noExt 30 "getStreamConfig" none [encReqOf o] [] =
      .ok { rets := [.struct (copied o [] settings)], recv := none, eff := [] } := by
  obtain ⟨st', hrun, hcfg, heff⟩ := copy_all 24 _ o [.ret [.var "config"]] settings []
    (({ env := envOf [("req", encReqOf o)], eff := [] } : St).set "config" (.struct []))
    (fun f hf => by rw [lookup_map_key, if_pos hf]) (by simp [gomini, encReqOf]) (by simp [gomini])
  simp only [Nat.reduceAdd] at hrun
  simp [runG, lk, sig, body_eq, gomini, hrun, hcfg, heff]

theorem go_getStreamConfig_partial (rma apd mi occ enc : Option Val) :
    view (runG prog noExt 30 "getStreamConfig" none [encReq rma apd mi occ enc] []) =
      some [rma.map (fun v => encOpt (some v)), apd.map (fun v => encOpt (some v)), mi.map (fun v => encOpt (some v)),
            occ.map (fun v => encOpt (some v)), enc.map (fun v => encOpt (some v))] := by
  have h := go_getStreamConfig fun f =>
    if f = "RetentionMaxAge" then rma else if f = "AutoPauseDisableIfSubscribers" then apd else if f = "MinIsr" then mi
    else if f = "OptimisticConcurrencyControl" then occ else if f = "Encryption" then enc else none
  rw [show encReqOf _ = encReq rma apd mi occ enc from rfl] at h
  simp [h, view, lookup_copied, settings, lookup]

/-- concurrency control requested together with a minimum in-sync set size: both arrive -/
example : ∀ n : Int,
    view (runG prog noExt 30 "getStreamConfig" none [encReq none none (some (.int n)) (some (.bool true)) none] []) =
      some [none, none, some (encOpt (some (.int n))), some (encOpt (some (.bool true))), none] :=
  fun n => go_getStreamConfig_partial none none (some (.int n)) (some (.bool true)) none

end Liftbridge.Props.GoStreamConfig
