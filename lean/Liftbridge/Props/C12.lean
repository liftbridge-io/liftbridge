/-
C12 — Each partition is assigned to exactly one consumer of a group.

Theorems about `Liftbridge.Groups` (model of server/groups.go) for EVERY history of
join / leave (= expire) / stream-deleted operations, every epoch sequence (refused operations
included), every number of members and streams, every partition-count function, overlapping and
disjoint subscriptions — by induction over the op list with the invariant `Proofs.Groups.Inv`.
Only property statements here; the lemmas are in `Liftbridge/Proofs/Groups.lean` and
`Liftbridge/Proofs/GroupsLoad.lean` (the load counter `assignedCount`: exact after every history,
and what follows from it for the balance clause).
-/
import Liftbridge.Model.Groups
import Liftbridge.Proofs.Groups
import Liftbridge.Proofs.GroupsLoad

namespace Liftbridge.Props.C12
open Liftbridge Liftbridge.Groups Liftbridge.Proofs.Groups

/-! Decision points of the Go source that the model does not evaluate through `Gen` but relies on
(a change breaks the build of this file and thereby the check). -/
example : Gen.Groups.balanceEmptyCmp = .eq := rfl          -- `len(*subscribers) == 0` ⇒ early return
example : Gen.Groups.removeRebalanceIfAssigned = true := rfl
/-- The load counter and what it counts are written ONLY by the two `consumer` methods that keep them
in step (and by the constructor): a write elsewhere in groups.go changes this regenerated table. -/
example : Gen.Groups.loadWrites =
    [("consumer.assignPartition", "c.assignments[stream]=append(streamAssignments,partition)"),
     ("consumer.assignPartition", "c.assignedCount++"),
     ("consumer.removeStreamAssignments", "c.assignedCount-=len(c.assignments[stream])"),
     ("consumer.removeStreamAssignments", "delete(c.assignments,stream)"),
     ("consumerGroup.addMember", "assignments:make(partitionAssignments)")] := rfl
example : Gen.Groups.deletedLowersCount = true := rfl     -- StreamDeleted goes through removeStreamAssignments

/-- **Exactly one holder.** After any history, for every stream that at least one member is
subscribed to and every partition `p` of that stream, there is a member that holds `p`, that
member is subscribed to the stream, and it is the only member holding `p`. -/
theorem exactly_one (parts : String → Nat) (e : Nat) (ops : List Op) (s : String) (p : Nat)
    (hsub : ∃ m ∈ (run parts (Group.new e) ops).members, s ∈ m.streams) (hp : p < parts s) :
    ∃ m ∈ (run parts (Group.new e) ops).members,
      s ∈ m.streams ∧ p ∈ asgOf m.asg s ∧
      ∀ m' ∈ (run parts (Group.new e) ops).members, p ∈ asgOf m'.asg s → m' = m := by
  have hinv := inv_run parts _ ops (inv_new parts e)
  have hperm := inv_subscribed_exact hinv hsub
  obtain ⟨m, hm, hpm⟩ := List.mem_flatMap.1 (hperm.mem_iff.2 (List.mem_range.2 hp))
  exact ⟨m, hm, hinv.only.subscribed hm hpm, hpm, fun m' hm' hpm' =>
    holder_unique _ s (hperm.nodup_iff.2 List.nodup_range) hm' hm hpm' hpm⟩

/-- **Only subscribed streams.** No member holds a partition of a stream it is not subscribed to. -/
theorem only_subscribed (parts : String → Nat) (e : Nat) (ops : List Op) (m : Cons)
    (hm : m ∈ (run parts (Group.new e) ops).members) (s : String) (p : Nat)
    (hp : p ∈ asgOf m.asg s) : s ∈ m.streams :=
  (inv_run parts _ ops (inv_new parts e)).only.subscribed hm hp

/-- **Only existing partitions, each listed once.** Whatever a member holds of a stream is a
partition of that stream (`< parts s`), and no partition occurs twice in a member's list. -/
theorem only_existing_partitions (parts : String → Nat) (e : Nat) (ops : List Op) (m : Cons)
    (hm : m ∈ (run parts (Group.new e) ops).members) (s : String) :
    (∀ p ∈ asgOf m.asg s, p < parts s) ∧ (asgOf m.asg s).Nodup := by
  have hinv := inv_run parts _ ops (inv_new parts e)
  by_cases hs : s ∈ m.streams
  · have hperm := inv_subscribed_exact hinv ⟨m, hm, hs⟩
    exact ⟨fun p hp => List.mem_range.1 (hperm.mem_iff.1 ((sublist_H hm s).subset hp)),
      List.Nodup.sublist (sublist_H hm s) (hperm.nodup_iff.2 List.nodup_range)⟩
  · rw [hinv.only m hm s hs]; simp

/-- The group's bookkeeping is consistent after any history: member ids are distinct, and a
consumer is in the heap of a stream exactly when it is a member subscribed to that stream. -/
theorem subscribers_consistent (parts : String → Nat) (e : Nat) (ops : List Op) :
    ((run parts (Group.new e) ops).members.map (·.id)).Nodup ∧
    ∀ s id, id ∈ subsOf (run parts (Group.new e) ops) s ↔
      ∃ m ∈ (run parts (Group.new e) ops).members, m.id = id ∧ s ∈ m.streams := by
  have hinv := inv_run parts _ ops (inv_new parts e)
  exact ⟨hinv.nodup, hinv.heap⟩

/-- **The load counter is exact.** After any history every member's `assignedCount` — the key of the
least-loaded heaps, maintained separately by `assignPartition` / `removeStreamAssignments` — equals
the number of partitions the member holds, summed over all streams (`asgTotal` = Σ_stream
|assignments[stream]|), and the assignment map lists each stream once. Joins, leaves, stream
deletions (which must LOWER the counter by what was held of the deleted stream) and refused
operations all preserve it; no phantom load survives. -/
theorem load_count_exact (parts : String → Nat) (e : Nat) (ops : List Op) (m : Cons)
    (hm : m ∈ (run parts (Group.new e) ops).members) :
    m.count = (asgTotal m.asg : Int) ∧ (m.asg.map (·.1)).Nodup := by
  have h := cinv_run parts (Group.new e) ops (cinv_new e) m hm
  exact ⟨h.count, h.keys⟩

/-- **Balance among the members consuming one and the same single stream.** After ANY history
(joins naming several streams, leaves, stream deletions, refused operations), two members that
are subscribed to `s` and to nothing else hold numbers of partitions of `s` that differ by at
most one — whatever the other members are subscribed to. -/
theorem balanced_sole_subscribers (parts : String → Nat) (e : Nat) (ops : List Op) (s : String)
    (m₁ m₂ : Cons)
    (h₁ : m₁ ∈ (run parts (Group.new e) ops).members) (h₂ : m₂ ∈ (run parts (Group.new e) ops).members)
    (hs₁ : s ∈ m₁.streams) (ho₁ : ∀ t ∈ m₁.streams, t = s)
    (hs₂ : s ∈ m₂.streams) (ho₂ : ∀ t ∈ m₂.streams, t = s) :
    (asgOf m₁.asg s).length ≤ (asgOf m₂.asg s).length + 1 :=
  (binv_run parts _ ops (binv_new parts e)).bal s m₁ h₁ m₂ h₂ ⟨hs₁, ho₁⟩ ⟨hs₂, ho₂⟩

/-- **Balance of a group consuming a single stream — the clause as the property states it.**
Whenever, after any history, the group consumes a single stream `s` (no member is subscribed to
anything but `s`; the group may have consumed other streams before that have been deleted since,
and members left without subscription by a deletion may still be around), the partition counts of
the members subscribed to `s` differ by at most one. `balanced_single_stream` below is the special
case of histories that never named another stream. -/
theorem balanced_when_single_stream (parts : String → Nat) (e : Nat) (ops : List Op) (s : String)
    (hsingle : ∀ m ∈ (run parts (Group.new e) ops).members, ∀ t ∈ m.streams, t = s)
    (m₁ m₂ : Cons)
    (h₁ : m₁ ∈ (run parts (Group.new e) ops).members) (h₂ : m₂ ∈ (run parts (Group.new e) ops).members)
    (hs₁ : s ∈ m₁.streams) (hs₂ : s ∈ m₂.streams) :
    (asgOf m₁.asg s).length ≤ (asgOf m₂.asg s).length + 1 :=
  balanced_sole_subscribers parts e ops s m₁ m₂ h₁ h₂ hs₁ (hsingle m₁ h₁) hs₂ (hsingle m₂ h₂)

/-- **Balance of a single-stream group.** If every join of the history names exactly the stream
`s`, then after the history the numbers of partitions of `s` held by any two members subscribed to
`s` differ by at most one. -/
theorem balanced_single_stream (parts : String → Nat) (e : Nat) (ops : List Op) (s : String)
    (hss : SingleStream s ops) (m₁ m₂ : Cons)
    (h₁ : m₁ ∈ (run parts (Group.new e) ops).members) (h₂ : m₂ ∈ (run parts (Group.new e) ops).members)
    (hs₁ : s ∈ m₁.streams) (hs₂ : s ∈ m₂.streams) :
    (asgOf m₁.asg s).length ≤ (asgOf m₂.asg s).length + 1 :=
  balanced_when_single_stream parts e ops s
    (fun m hm t ht => by rcases (sinv_run parts s e ops hss).streams m hm with h | h <;> simp_all)
    m₁ m₂ h₁ h₂ hs₁ hs₂

/-- **The heap is faithfully abstracted.** `Less` = (assignedCount, id) has a unique least element
among consumers with distinct ids, so what `Peek` returns after `heap.Init` does not depend on the
order of the heap array nor on the order of the member list: `peek` is a function of the two sets. -/
theorem heap_order_irrelevant (ms₁ ms₂ : List Cons) (idl₁ idl₂ : List String) (hp : ms₁.Perm ms₂)
    (hi : ∀ id, id ∈ idl₁ ↔ id ∈ idl₂) (hnd : (ms₁.map (·.id)).Nodup) :
    peek ms₁ idl₁ = peek ms₂ idl₂ := peek_perm ms₁ ms₂ idl₁ idl₂ hp hi hnd

/-- **The request's stream list is a set.** Order and repetitions in the list of streams a
consumer asks for do not influence the outcome (the code builds a map and ranges over its sorted
keys; Go's randomised map iteration order never reaches the assignment). -/
theorem join_streams_order_irrelevant (parts : String → Nat) (g : Group) (id : String)
    (l₁ l₂ : List String) (epoch : Nat) (h : ∀ x, x ∈ l₁ ↔ x ∈ l₂) :
    join parts g id l₁ epoch = join parts g id l₂ epoch := by
  simp only [join, addMember, sortDedup_ext l₁ l₂ h]

/-- **Determinism of the state machine.** The group — and therefore what `GetAssignments` hands
out for a given epoch — is a function of the initial epoch, the op sequence and the partition
counts: two servers that applied the same sequence agree. (Trivial for a Lean function; the
substance is the correspondence harness, which checks that the real `consumerGroup`, with Go's
randomised map iteration and `container/heap`, computes this function.) -/
theorem deterministic (parts : String → Nat) (e : Nat) (ops₁ ops₂ : List Op) (h : ops₁ = ops₂)
    (id : String) (epoch : Nat) :
    getAssignments (run parts (Group.new e) ops₁) id epoch =
      getAssignments (run parts (Group.new e) ops₂) id epoch := by rw [h]

/-! ### The asynchronous `StreamDeleted`

`metadataAPI.removeStream` (metadata.go) notifies the groups from a goroutine
(`Gen.Groups.streamDeletedInGoroutine`), so the FSM may apply later operations to a group before
`StreamDeleted(stream, epoch = index of the delete)` reaches it. -/

/-- `sched` is the op sequence `ops` in which `StreamDeleted` notifications may be delivered
later than their place in the log (all other operations keep their order). -/
inductive Delayed : List Op → List Op → Prop
  | nil : Delayed [] []
  | keep (o : Op) {ops sched : List Op} : Delayed ops sched → Delayed (o :: ops) (o :: sched)
  | late (s : String) (e : Nat) {ops pre post : List Op} :
      Delayed ops (pre ++ post) → Delayed (.deleted s e :: ops) (pre ++ .deleted s e :: post)

/-- Every notification is delivered before the next operation on the group. -/
inductive InOrder : List Op → List Op → Prop
  | nil : InOrder [] []
  | keep (o : Op) {ops sched : List Op} : InOrder ops sched → InOrder (o :: ops) (o :: sched)

/-- The delivery schedules the code allows (regenerated: does metadata.go call `group.StreamDeleted`
from a goroutine?). -/
def Schedule (ops sched : List Op) : Prop :=
  if Gen.Groups.streamDeletedInGoroutine then Delayed ops sched else InOrder ops sched

/-- Full-strength statement ("servers that applied the same sequence of group operations hand out
identical assignments"): whatever schedule a server executes for a log, the group is the one of
the log. FALSE as long as the notification is sent from a goroutine (`streamDeleted_async_false`). -/
def streamDeleted_async_asStated : Prop :=
  ∀ (parts : String → Nat) (e : Nat) (ops sched : List Op), Schedule ops sched →
    run parts (Group.new e) sched = run parts (Group.new e) ops

def wParts : String → Nat := fun s => if s = "a" then 2 else if s = "b" then 3 else 0
def wOps : List Op := [.join "x" ["a", "b"] 1, .deleted "a" 2, .join "y" ["b"] 3]
def wSched : List Op := [.join "x" ["a", "b"] 1, .join "y" ["b"] 3, .deleted "a" 2]

theorem wDelayed : Delayed wOps wSched :=
  .keep _ (.late "a" 2 (pre := [.join "y" ["b"] 3]) (post := []) (.keep _ .nil))

/-- The mechanism: a notification that arrives after the group's epoch has moved on is refused. -/
theorem late_streamDeleted_refused (parts : String → Nat) (g : Group) (s : String) (e : Nat)
    (h : e < g.epoch) : streamDeleted parts g s e = .err "epoch" := by
  simp [streamDeleted, Gen.Groups.epochDeletedCmp, Cmp.evalNat, h]

/-- In the racing schedule the deleted stream's assignment survives, in the in-order one it is gone. -/
theorem streamDeleted_dropped_keeps_assignment :
    (∃ m ∈ (run wParts (Group.new 0) wSched).members, asgOf m.asg "a" = [0, 1] ∧ "a" ∈ m.streams) ∧
    (∀ m ∈ (run wParts (Group.new 0) wOps).members, asgOf m.asg "a" = [] ∧ "a" ∉ m.streams) := by
  decide

/-- Witness (replayed on the real `consumerGroup` by the harness, corpus/C12/streamdeleted-dropped.ops):
log `join x {a,b} @1; delete a @2; join y {b} @3`. Delivered in order: x holds b:[0,2], y holds b:[1].
If `join y` reaches the group before the notification, the notification (epoch 2 < 3) is refused:
x keeps stream a and a:[0,1] for good, and b is split x:[2], y:[0,1] — a different assignment of
an existing stream for the same group epoch 3. -/
theorem streamDeleted_async_false (hasync : Gen.Groups.streamDeletedInGoroutine = true) :
    ¬ streamDeleted_async_asStated := by
  intro h
  have hs : Schedule wOps wSched := by
    unfold Schedule; rw [hasync]; exact wDelayed
  obtain ⟨⟨m, hm, ha, _⟩, hgone⟩ := streamDeleted_dropped_keeps_assignment
  rw [h wParts 0 wOps wSched hs] at hm
  exact absurd ((hgone m hm).1.symm.trans ha) (by simp)

/-- …and when a stream of that name is created again (here with 3 partitions) the stale group has
a subscribed member for it but nobody holds the new partition 2: the first clause of C12 fails. -/
theorem streamDeleted_dropped_then_recreated_unassigned :
    let g := run wParts (Group.new 0) wSched
    let parts' : String → Nat := fun s => if s = "a" then 3 else wParts s
    (∃ m ∈ g.members, "a" ∈ m.streams) ∧ 2 < parts' "a" ∧ ∀ m ∈ g.members, 2 ∉ asgOf m.asg "a" := by
  decide

/-- Strongest true variant: with every notification delivered before the next operation on the
group, the schedule IS the log, so the group is the one all other theorems of this file speak
about (`exactly_one`, `only_subscribed`, … hold for it). -/
theorem streamDeleted_async_partial (parts : String → Nat) (e : Nat) (ops sched : List Op)
    (h : InOrder ops sched) : run parts (Group.new e) sched = run parts (Group.new e) ops := by
  have : sched = ops := by
    induction h with
    | nil => rfl
    | keep o _ ih => rw [ih]
  rw [this]

/-- Where the code stands (holds whatever the regenerated fact says, and says which case applies):
the full-strength statement is true exactly when the notification is NOT sent from a goroutine. -/
theorem streamDeleted_async_status :
    streamDeleted_async_asStated ↔ Gen.Groups.streamDeletedInGoroutine = false := by
  constructor
  · intro h
    cases hg : Gen.Groups.streamDeletedInGoroutine with
    | false => rfl
    | true => exact absurd h (streamDeleted_async_false hg)
  · intro hg parts e ops sched hs
    unfold Schedule at hs
    rw [hg] at hs
    exact streamDeleted_async_partial parts e ops sched hs

/-! ### Replay at start-up

During the replay of the Raft log at start-up a deleted stream is only tombstoned
(`RemoveStream(…, recovered = true)`), and the groups are notified when the replay ends
(`finishedRecovery → RemoveTombstonedStream(stream, last index)`), i.e. after the joins and leaves
that FOLLOW the deletion in the log. -/

def rParts : String → Nat := fun s => if s = "a" then 3 else if s = "b" then 2 else if s = "c" then 2 else 0
/-- the log, in log order (what a live server applies to the group) -/
def rLive : List Op := [.join "x" ["a", "c"] 0, .deleted "c" 5, .join "y" ["a", "b"] 6]
/-- what a server replaying that log at start-up applies to the group -/
def rReplay : List Op := [.join "x" ["a", "c"] 0, .join "y" ["a", "b"] 6, .deleted "c" 6]

/-- Rebalancing is order-dependent: applying the deletion after the later operations (as the
start-up replay does) gives another assignment of the existing stream `a` — x:[0,2], y:[1] live,
x:[0,1,2], y:[] replayed — for the same group epoch 6. Both satisfy `exactly_one`; what fails is
"servers that applied the same sequence of group operations hand out identical assignments".
Replayed on the real code by the harness (corpus/C12/streamdeleted-recovery-order.ops and through
`Server.apply` in recovery mode). -/
theorem replay_order_differs :
    (run rParts (Group.new 0) rLive).epoch = (run rParts (Group.new 0) rReplay).epoch ∧
    ((run rParts (Group.new 0) rLive).members.map fun m => (m.id, asgOf m.asg "a")) = [("x", [0, 2]), ("y", [1])] ∧
    ((run rParts (Group.new 0) rReplay).members.map fun m => (m.id, asgOf m.asg "a")) = [("x", [0, 1, 2]), ("y", [])] := by
  decide

/-! ### Rebuilding a group from a snapshot

A metadata snapshot carries a group's members and their subscriptions, not the assignments;
`Restore → newConsumerGroup` re-adds the members one by one in the order of the snapshot
(`Server.Snapshot` ranges over the map `GetMembers` returns: any order). -/

def oParts : String → Nat := fun s => if s = "a" then 1 else if s = "s" then 1 else 0
/-- the group as the log builds it -/
def oLive : List Op := [.join "m1" ["a", "s"] 0, .join "m2" ["a"] 0]
/-- the group as `newConsumerGroup` rebuilds it from a snapshot that lists m2 first -/
def oRestored : List Op := [.join "m2" ["a"] 0, .join "m1" ["a", "s"] 0]

/-- Observation (DESIGN.md §6 — not claimed as a violation of C12 as stated, which speaks of servers
that APPLIED the same op sequence): the assignments depend on the order in which the members were
added. Streams a and s with one partition each; the log creates the group with m1{a,s}, m2{a}
(live: m1 s:[0], m2 a:[0]); a snapshot listing m2 before m1 restores m1 a:[0] s:[0], m2 nothing —
same members, same subscriptions, same epoch. Both groups satisfy every other theorem of this file.
Measured on the real server by C06's stand-by scenarios (corpus/C06/group-assignments-after-restore.ops). -/
theorem restore_order_differs :
    (run oParts (Group.new 0) oLive).epoch = (run oParts (Group.new 0) oRestored).epoch ∧
    ((run oParts (Group.new 0) oLive).members.map fun m => (m.id, m.streams, m.asg)) =
      [("m1", ["a", "s"], [("s", [0])]), ("m2", ["a"], [("a", [0])])] ∧
    ((run oParts (Group.new 0) oRestored).members.map fun m => (m.id, m.streams, m.asg)) =
      [("m2", ["a"], []), ("m1", ["a", "s"], [("a", [0]), ("s", [0])])] := by
  refine ⟨by decide, by decide, by decide⟩

/-- The hypotheses of `exactly_one` are satisfiable and the history is not degenerate: three
members, overlapping subscriptions, a leave, a deletion, a refused (stale) operation. -/
example :
    let ops : List Op := [.join "x" ["a", "b"] 1, .join "y" ["b", "c"] 2, .join "z" ["c", "a", "a"] 3,
      .leave "y" 2, .leave "y" 4, .deleted "b" 5, .join "y" ["a"] 6]
    let parts : String → Nat := fun s => if s = "a" then 5 else if s = "b" then 2 else 3
    let g := run parts (Group.new 0) ops
    (∃ m ∈ g.members, "a" ∈ m.streams) ∧ g.members.length = 3 ∧ g.epoch = 6 ∧
    (g.members.map fun m => (m.id, asgOf m.asg "a")) = [("x", [0, 2, 4]), ("z", []), ("y", [1, 3])] := by
  decide

/-- `balanced_single_stream` is not vacuous: 5 partitions, three members come and one goes. -/
example :
    let ops : List Op := [.join "x" ["a"] 1, .join "y" ["a", "a"] 2, .join "z" ["a"] 3, .leave "x" 4]
    let g := run (fun _ => 5) (Group.new 0) ops
    SingleStream "a" ops ∧ (g.members.map fun m => (m.id, asgOf m.asg "a")) = [("y", [0, 2, 4]), ("z", [1, 3])] := by
  refine ⟨?_, by decide⟩
  intro op hop
  simp only [List.mem_cons, List.mem_nil_iff, or_false] at hop
  rcases hop with h | h | h | h <;> subst h <;> first | trivial | decide

/-- `balanced_when_single_stream` and `load_count_exact` are not vacuous: x subscribes {bar, foo},
y only {bar}; foo (3 partitions, all held by x) is deleted while the loads are unequal (x 4, y 3);
the group then consumes the single stream bar (4 partitions), which is shared 2/2, also after z
joins and leaves again; the counters are 2 and 2 (a counter not lowered by the deletion would
leave x with a phantom load of 3 and bar split 1/3). -/
example :
    let parts : String → Nat := fun s => if s = "foo" then 3 else if s = "bar" then 4 else 0
    let ops : List Op := [.join "x" ["foo", "bar"] 1, .join "y" ["bar"] 2, .deleted "foo" 3,
      .join "z" ["bar"] 4, .leave "z" 5]
    let g₂ := run parts (Group.new 0) (ops.take 2)
    let g := run parts (Group.new 0) ops
    (g₂.members.map fun m => (m.id, m.count)) = [("x", 4), ("y", 3)] ∧
    (∀ m ∈ g.members, ∀ t ∈ m.streams, t = "bar") ∧
    (g.members.map fun m => (m.id, asgOf m.asg "bar", m.count)) = [("x", [0, 2], 2), ("y", [1, 3], 2)] := by
  decide

end Liftbridge.Props.C12
