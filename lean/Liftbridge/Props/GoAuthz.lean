/-
C15 at the level of the function bodies: the permission check of every client-facing handler of
`server/api.go`, translated from the code, comes before every effect of that handler.

`Gen/GoAuthz.lean` holds the bodies of `apiServer.ensureAuthorizationPermission` and of the unary
handlers. The callees a handler does not own (the metadata API, the cursor manager, the publish
path, `ctx.Value`, the policy enforcer) are external calls: each one is RECORDED in the effect trace
of the run, and their answers are parameters of the theorems.

For every handler with a permission check, every request, and every caller that the check refuses (no client
id in the context, an empty one, a value of another type, a policy that says no, a policy evaluation that
fails): the handler returns a non-nil error and its complete trace of external calls is the check itself -
`ctx.Value`, then (with an id) `enforcePolicy` - plus, for the handlers that validate first, read-only
look-ups. No metadata operation, no cursor operation, no publish. With authorisation switched off, or a
granted caller, the operation is reached.

`JoinConsumerGroup` / `LeaveConsumerGroup` have no check in their bodies (known finding of C15): their trace
reaches the metadata API whatever the caller - stated here as theorems about the translated code, so that the
finding is tied to the code the same way.
-/
import Liftbridge.Proofs.GoCodeBase
import Liftbridge.Gen.GoAuthz

namespace Liftbridge.Props.GoAuthz
open Liftbridge Liftbridge.GoMini Liftbridge.GoCode
open Liftbridge.Gen.GoAuthz

theorem builtin_isValidSubject (s : String) : builtin "isValidSubject" [.str s] = none := by simp [builtin]
theorem builtin_isReservedStream (s : String) : builtin "isReservedStream" [.str s] = none := by simp [builtin]
/-- `s, ok := v.(string)` -/
theorem builtin_assertString2 (v : Val) : builtin "assertString2" [v] =
    some (.ok (match v with | .str s => .tup [.str s, .bool true] | _ => .tup [.str "", .bool false])) := by cases v <;> simp [builtin]

theorem translation_complete : unsupported = [] := rfl

/-- who calls, and what the policy engine answers for this (client, resource, action) -/
inductive Caller
  | noId                                   -- nothing under "clientID" in the context
  | wrongType (n : Int)                    -- something that is not a string
  | emptyId
  | denied (id : String)                   -- the policy says no
  | failed (id : String) (e : String)      -- the policy evaluation fails
  | granted (id : String)

def Caller.value : Caller → Val
  | .noId => .nil
  | .wrongType n => .int n
  | .emptyId => .str ""
  | .denied id | .failed id _ | .granted id => .str id

def Caller.verdict : Caller → Val
  | .failed _ e => .tup [.bool false, .str e]
  | .granted _ => .tup [.bool true, .nil]
  | _ => .tup [.bool false, .nil]

/-- the caller carries a usable id (what the TLS layer puts into the context of an identified client) -/
def Caller.hasId : Caller → Prop
  | .denied id | .failed id _ | .granted id => id ≠ ""
  | _ => True

def Caller.refused : Caller → Bool
  | .granted _ => false
  | _ => true

/-- the check's own external calls for this caller -/
def Caller.trace : Caller → List String
  | .noId | .wrongType _ | .emptyId => ["Value"]
  | _ => ["Value", "enforcePolicy"]

/-- `ctx.Value` and the policy engine answer for the caller; everything else is `rest` -/
def authzExt (c : Caller) (rest : Ext) : Ext := fun f args eff =>
  if f = "Value" then some c.value
  else if f = "enforcePolicy" then some c.verdict
  else if f = "status.Error" then some (.str "status")      -- constructs an error value
  else rest f args eff

/-- the api server: authorisation on/off and the objects it delegates to -/
def encApi (authz : Bool) : Val :=
  .struct [("config", .struct [("TLSClientAuthz", .bool authz)]), ("metadata", .struct [("kind", .str "metadata")]),
           ("cursors", .struct [("kind", .str "cursors")])]

def ctxV : Val := .str "ctx"

def globals : List (String × Val) :=
  [("codes.InvalidArgument", .int 3), ("codes.NotFound", .int 5), ("codes.AlreadyExists", .int 6)]

/-- (is the returned error nil?, the names of the external calls in order) -/
def view : R Out → Option (Bool × List String)
  | .ok o => some (match o.rets with | [_, e] => isNil e | [e] => isNil e | _ => false, o.eff.map (·.1))
  | _ => none

/-! ### the check itself -/

/-- authorisation off: nil, and nobody is asked -/
theorem go_ensure_off (c : Caller) (rest : Ext) (stream method : String) :
    view (runG prog (authzExt c rest) 40 "ensureAuthorizationPermission" (some (encApi false))
      [ctxV, .str stream, .str method] globals) = some (true, []) := by
  rfl

def Caller.err : Caller → Val
  | .noId | .wrongType _ | .emptyId => .str "error: api: Failed to retrieve client ID"
  | .denied _ => .str "error: The client is not authorized to call %s on resource %s"
  | .failed _ e => .str e
  | .granted _ => .nil

def Caller.calls (c : Caller) (stream method : Val) : List (String × List Val) :=
  ("Value", [.str "clientID"]) :: match c with
    | .denied id | .failed id _ | .granted id => [("enforcePolicy", [.str id, stream, method])]
    | _ => []

theorem Caller.isNil_err (c : Caller) : isNil c.err = !c.refused := by cases c <;> rfl
theorem Caller.err_ne_nil (c : Caller) : binVal "!=" c.err .nil = .ok (.bool c.refused) := by cases c <;> rfl
theorem Caller.calls_names (c : Caller) (s m : Val) : (c.calls s m).map (·.1) = c.trace := by cases c <;> rfl

abbrev ensure : Func := fn_apiServer_ensureAuthorizationPermission

theorem lk_ensure : evalE.lookup' "ensureAuthorizationPermission" prog = some ensure := by simp [prog, gomini]

theorem ensure_body (c : Caller) (hc : c.hasId) (rest : Ext) (n : Nat) (stream method : Val) (st : St)
    (ha : st.env "a" = some (encApi true)) (hx : st.env "ctx" = some ctxV) (hs : st.env "stream" = some stream)
    (hm : st.env "apiMethod" = some method) :
    ∃ st', runBlock (exec prog (authzExt c rest) (n + 7)) ensure.body st = .ok (.ret [c.err], st') ∧
      st'.eff = st.eff ++ c.calls stream method ∧ st'.env "a" = some (encApi true) := by
  -- symbolic execution; `hc` decides the one test that looks at the id, `clientID == ""`
  cases c <;> simp only [Caller.hasId] at hc <;>
    simp [ensure, fn_apiServer_ensureAuthorizationPermission, prog, gomini, builtin_assertString2, ha, hx, hs, hm, hc, encApi, ctxV, authzExt,
      Caller.value, Caller.verdict, Caller.calls, Caller.err]

/-- authorisation on: an error exactly for the refused callers; the policy is asked only with an id -/
theorem go_ensure_on (c : Caller) (hc : c.hasId) (rest : Ext) (stream method : String) :
    view (runG prog (authzExt c rest) 40 "ensureAuthorizationPermission" (some (encApi true))
      [ctxV, .str stream, .str method] globals) = some (!c.refused, c.trace) := by
  obtain ⟨st', hrun, heff, -⟩ := ensure_body c hc rest 33 (.str stream) (.str method)
    { env := envOf (("a", encApi true) :: ([("ctx", ctxV), ("stream", .str stream), ("apiMethod", .str method)] ++ globals)), eff := [] }
    rfl rfl rfl rfl
  rw [runG_method lk_ensure rfl rfl hrun]
  simp [view, heff, Caller.isNil_err, Caller.calls_names]

/-! ### handlers whose first step is the check -/

/-- `e := a.ensureAuthorizationPermission(ctx, res, m)` -/
def checkStmt (e : String) (res : Expr) (m : String) : Stmt :=
  .assign [.var e] [.mcall (.var "a") "ensureAuthorizationPermission" [.var "ctx", res, .str m]]

/-- `if e != nil { log; return nil, e }` -/
def guardStmt (e w : String) : Stmt := .ite [] (.bin "!=" (.var e) .nil) [.skip w, .ret [.nil, .var e]] []

def checked (c : Caller) (e : String) (s m : Val) (st : St) : St :=
  ({ st with eff := st.eff ++ c.calls s m }.set "a" (encApi true)).set e c.err

theorem check_guard (c : Caller) (hc : c.hasId) (rest : Ext) (n : Nat) {e : String} {res : Expr} {m w : String} (post : List Stmt)
    {st : St} {s : Val} (he : (e == "_") = false) (ha : st.env "a" = some (encApi true)) (hx : st.env "ctx" = some ctxV)
    (hres : evalE prog (authzExt c rest) (runBlock (exec prog (authzExt c rest) (n+9))) (n+8) res st = .ok (s, st)) :
    runBlock (exec prog (authzExt c rest) (n+10)) (checkStmt e res m :: guardStmt e w :: post) st =
      if c.refused then .ok (.ret [.nil, c.err], checked c e s (.str m) st)
      else runBlock (exec prog (authzExt c rest) (n+10)) post (checked c e s (.str m) st) := by
  obtain ⟨st', hrun, heff, ha'⟩ := ensure_body c hc rest (n+2) s (.str m)
    { env := envOf [("a", encApi true), ("ctx", ctxV), ("stream", s), ("apiMethod", .str m)], eff := st.eff } rfl rfl rfl rfl
  have sig : ensure.recv = some "a" ∧ ensure.params = ["ctx", "stream", "apiMethod"] := ⟨rfl, rfl⟩
  have he : e ≠ "_" := by simpa using he
  cases hr : c.refused <;>
    simp [checkStmt, guardStmt, gomini, lk_ensure, sig, ha, hx, hres, hrun, heff, ha', he, checked, Caller.err_ne_nil, hr]

def entry (api req : Val) : St := { env := envOf (("a", api) :: ("ctx", ctxV) :: ("req", req) :: globals), eff := [] }

/-- Applied to a translated handler `fn` whose statements `k` and `k+1` are the check and its guard, every hypothesis but `hpre`
is closed by computation, and so is `hpre` when the first `k` statements test nothing symbolic. -/
theorem handler_refused (c : Caller) (hc : c.hasId) (hr : c.refused = true) (rest : Ext) {f : String} {fn : Func} (k : Nat)
    {req : Val} {e : String} {res : Expr} {m w : String} {post : List Stmt} {st : St} {s : Val} {tr : List String}
    (hl : evalE.lookup' f prog = some fn) (hrecv : fn.recv = some "a") (hparams : fn.params = ["ctx", "req"])
    (hbody : fn.body.drop k = checkStmt e res m :: guardStmt e w :: post)
    (hpre : runBlock (exec prog (authzExt c rest) 60) (fn.body.take k) (entry (encApi true) req) = .ok (.next, st))
    (he : (e == "_") = false) (ha : st.env "a" = some (encApi true)) (hx : st.env "ctx" = some ctxV)
    (hres : evalE prog (authzExt c rest) (runBlock (exec prog (authzExt c rest) 59)) 58 res st = .ok (s, st))
    (htr : st.eff.map (·.1) ++ c.trace = tr) :
    view (runG prog (authzExt c rest) 60 f (some (encApi true)) [ctxV, req] globals) = some (false, tr) := by
  have h := check_guard c hc rest 50 (m := m) (w := w) post he ha hx hres
  rw [if_pos hr, ← hbody] at h
  rw [runG_method hl hrecv (by rw [hparams]; rfl) ((runBlock_take k hpre).trans h), ← htr]
  simp [view, checked, gomini, Caller.isNil_err, Caller.calls_names, hr]

def reqNamed (name : String) (parts : List Val) (flag : Bool) : Val :=
  .struct [("Name", .str name), ("Partitions", .list parts), ("ResumeAll", .bool flag), ("Readonly", .bool flag)]

/-- DeleteStream by a refused caller: an error, and nothing but the check happened -/
theorem go_DeleteStream_refused (c : Caller) (hc : c.hasId) (hr : c.refused = true) (rest : Ext) (name : String) (parts : List Val) (flag : Bool) :
    view (runG prog (authzExt c rest) 60 "DeleteStream" (some (encApi true)) [ctxV, reqNamed name parts flag] globals)
      = some (false, c.trace) := by
  apply handler_refused c hc hr rest 2 <;> rfl

/-- PauseStream by a refused caller: an error, and nothing but the check happened (no stream looked up, nothing proposed) -/
theorem go_PauseStream_refused (c : Caller) (hc : c.hasId) (hr : c.refused = true) (rest : Ext) (name : String) (parts : List Val) (flag : Bool) :
    view (runG prog (authzExt c rest) 60 "PauseStream" (some (encApi true)) [ctxV, reqNamed name parts flag] globals)
      = some (false, c.trace) := by
  apply handler_refused c hc hr rest 2 <;> rfl

theorem go_SetStreamReadonly_refused (c : Caller) (hc : c.hasId) (hr : c.refused = true) (rest : Ext) (name : String) (parts : List Val) (flag : Bool) :
    view (runG prog (authzExt c rest) 60 "SetStreamReadonly" (some (encApi true)) [ctxV, reqNamed name parts flag] globals)
      = some (false, c.trace) := by
  apply handler_refused c hc hr rest 2 <;> rfl

/-- (resource `*`) -/
theorem go_FetchMetadata_refused (c : Caller) (hc : c.hasId) (hr : c.refused = true) (rest : Ext) (req : Val) :
    view (runG prog (authzExt c rest) 60 "FetchMetadata" (some (encApi true)) [ctxV, req] globals)
      = some (false, c.trace) := by
  apply handler_refused c hc hr rest 1 <;> rfl

def reqStream (stream cursor inbox : String) (part off : Int) : Val :=
  .struct [("Stream", .str stream), ("CursorId", .str cursor), ("Partition", .int part), ("Offset", .int off),
           ("Subject", .str stream), ("AckInbox", .str inbox)]

theorem go_FetchPartitionMetadata_refused (c : Caller) (hc : c.hasId) (hr : c.refused = true) (rest : Ext) (stream cursor inbox : String) (part off : Int) :
    view (runG prog (authzExt c rest) 60 "FetchPartitionMetadata" (some (encApi true)) [ctxV, reqStream stream cursor inbox part off] globals)
      = some (false, c.trace) := by
  apply handler_refused c hc hr rest 1 <;> rfl

theorem setCursor_wellFormed (x : Ext) (stream cursor inbox : String) (part off : Int) (hs : stream ≠ "") (hk : cursor ≠ "") :
    runBlock (exec prog x 60) (fn_apiServer_SetCursor.body.take 3) (entry (encApi true) (reqStream stream cursor inbox part off))
      = .ok (.next, entry (encApi true) (reqStream stream cursor inbox part off)) := by
  simp [fn_apiServer_SetCursor, entry, reqStream, gomini, hs, hk]

/-- SetCursor (a well-formed request) by a refused caller: the cursor manager is never called -/
theorem go_SetCursor_refused (c : Caller) (hc : c.hasId) (hr : c.refused = true) (rest : Ext) (stream cursor inbox : String) (part off : Int) (hs : stream ≠ "") (hk : cursor ≠ "") :
    view (runG prog (authzExt c rest) 60 "SetCursor" (some (encApi true)) [ctxV, reqStream stream cursor inbox part off] globals)
      = some (false, c.trace) := by
  apply handler_refused c hc hr rest 3 (hpre := setCursor_wellFormed _ stream cursor inbox part off hs hk) <;> rfl

/-- FetchCursor (a well-formed request) by a refused caller: the cursor manager is never asked -/
theorem go_FetchCursor_refused (c : Caller) (hc : c.hasId) (hr : c.refused = true) (rest : Ext) (stream cursor inbox : String) (part off : Int) (hs : stream ≠ "") (hk : cursor ≠ "") :
    view (runG prog (authzExt c rest) 60 "FetchCursor" (some (encApi true)) [ctxV, reqStream stream cursor inbox part off] globals)
      = some (false, c.trace) := by
  -- all hypotheses by computation, but for the two tests of the request, which it passes unchanged
  apply handler_refused c hc hr rest 3 (st := entry (encApi true) (reqStream stream cursor inbox part off)) <;> try rfl
  simp [fn_apiServer_FetchCursor, entry, reqStream, gomini, hs, hk]

/-- `getPublishSubject` (a read-only look-up of the stream's subject) answers `gs` -/
def pubExt (gs : Val) (c : Caller) (rest : Ext) : Ext := fun f args eff =>
  if f = "getPublishSubject" then some gs
  else if f = "getAckInbox" then some (.str "_INBOX.1")      -- a fresh inbox NAME (nothing is subscribed or sent)
  else authzExt c rest f args eff

theorem authzExt_front (c : Caller) (x rest : Ext)
    (h : ∀ f, f = "Value" ∨ f = "enforcePolicy" ∨ f = "status.Error" → x f = authzExt c rest f) : authzExt c x = x := by
  funext f args eff
  have := h f
  by_cases h1 : f = "Value" <;> by_cases h2 : f = "enforcePolicy" <;> by_cases h3 : f = "status.Error" <;> simp_all [authzExt]

theorem pubExt_check (gs : Val) (c : Caller) (rest : Ext) : authzExt c (pubExt gs c rest) = pubExt gs c rest :=
  authzExt_front c _ rest (by rintro _ (rfl | rfl | rfl) <;> rfl)

/-- Publish by a refused caller: after the read-only subject look-up only the check happened - `publishAuthorized` (validation, RESUME of a paused stream, the NATS publish) is never entered -/
theorem go_Publish_refused (c : Caller) (hc : c.hasId) (hr : c.refused = true) (rest : Ext) (stream cursor inbox : String) (part off : Int) (subj : String) :
    view (runG prog (pubExt (.tup [.str subj, .nil]) c rest) 60 "Publish" (some (encApi true)) [ctxV, reqStream stream cursor inbox part off] globals)
      = some (false, "getPublishSubject" :: c.trace) := by
  rw [← pubExt_check]
  apply handler_refused c hc hr _ 3 <;> rfl

/-- PublishToSubject (with an ack inbox) by a refused caller: nothing is published -/
theorem go_PublishToSubject_refused (c : Caller) (hc : c.hasId) (hr : c.refused = true) (rest : Ext) (stream cursor inbox : String) (part off : Int) (hi : inbox ≠ "") :
    view (runG prog (pubExt .nil c rest) 60 "PublishToSubject" (some (encApi true)) [ctxV, reqStream stream cursor inbox part off] globals)
      = some (false, c.trace) := by
  rw [← pubExt_check]
  apply handler_refused c hc hr _ 2 (st := entry (encApi true) (reqStream stream cursor inbox part off)) <;> try rfl
  simp [fn_apiServer_PublishToSubject, entry, reqStream, gomini, hi]

/-! ### CreateStream: validation, then the check, then the stream is built -/

def reqCreate (name subject : String) (parts rf : Int) : Val :=
  .struct [("Name", .str name), ("Subject", .str subject), ("Partitions", .int parts), ("ReplicationFactor", .int rf), ("Group", .str "")]

/-- the two syntactic predicates on the request answer `valid` / `reserved` -/
def createExt (valid reserved : Bool) (c : Caller) (rest : Ext) : Ext := fun f args eff =>
  if f = "isValidSubject" then some (.bool valid)
  else if f = "isReservedStream" then some (.bool reserved)
  else authzExt c rest f args eff

theorem createExt_check (valid reserved : Bool) (c : Caller) (rest : Ext) :
    authzExt c (createExt valid reserved c rest) = createExt valid reserved c rest :=
  authzExt_front c _ rest (by rintro _ (rfl | rfl | rfl) <;> rfl)

theorem lk_create : evalE.lookup' "isValidSubject" prog = none ∧ evalE.lookup' "isReservedStream" prog = none ∧
    evalE.lookup' "status.Error" prog = none := ⟨rfl, rfl, rfl⟩

/-- a zero replication factor or partition count is replaced by one in `req`, hence the cases -/
theorem createStream_validated (c : Caller) (rest : Ext) (name subject : String) (parts rf : Int)
    (hn : name ≠ "") (hs : subject ≠ "") (hp : 0 ≤ parts) :
    ∃ st, runBlock (exec prog (authzExt c (createExt true false c rest)) 60) (fn_apiServer_CreateStream.body.take 8)
        (entry (encApi true) (reqCreate name subject parts rf)) = .ok (.next, st) ∧
      st.env "a" = some (encApi true) ∧ st.env "ctx" = some ctxV ∧
      evalE prog (authzExt c (createExt true false c rest)) (runBlock (exec prog (authzExt c (createExt true false c rest)) 59)) 58
        (.sel (.var "req") "Name") st = .ok (.str name, st) ∧
      st.eff.map (·.1) = ["isValidSubject", "isReservedStream"] := by
  have hp' : ¬ parts < 0 := by omega
  by_cases h0 : parts = 0 <;> by_cases h1 : rf = 0 <;>
    simp [fn_apiServer_CreateStream, entry, reqCreate, gomini, lk_create, builtin_isValidSubject, builtin_isReservedStream, authzExt, createExt, binInt, hn, hs, hp', h0, h1]

/-- CreateStream (well-formed, any partition count ≥ 0) by a refused caller: an error; besides the two read-only
predicates on the request only the check happened - no partition list is built, nothing is proposed -/
theorem go_CreateStream_refused (c : Caller) (hc : c.hasId) (hr : c.refused = true) (rest : Ext) (name subject : String) (parts rf : Int)
    (hn : name ≠ "") (hs : subject ≠ "") (hp : 0 ≤ parts) :
    view (runG prog (createExt true false c rest) 60 "CreateStream" (some (encApi true)) [ctxV, reqCreate name subject parts rf] globals)
      = some (false, "isValidSubject" :: "isReservedStream" :: c.trace) := by
  rw [← createExt_check]
  obtain ⟨st, hpre, ha, hx, hres, heff⟩ := createStream_validated c rest name subject parts rf hn hs hp
  apply handler_refused c hc hr _ 8 (hpre := hpre) (ha := ha) (hx := hx) (hres := hres) (htr := by rw [heff]; rfl) <;> rfl

/-- a NEGATIVE partition count is refused as an invalid request, whoever sends it, before anything is allocated
(`make` with a negative length panics; the check comes first) -/
theorem go_CreateStream_negative (c : Caller) (authz : Bool) (rest : Ext) (name subject : String) (parts rf : Int)
    (hn : name ≠ "") (hs : subject ≠ "") (hp : parts < 0) :
    view (runG prog (createExt true false c rest) 60 "CreateStream" (some (encApi authz)) [ctxV, reqCreate name subject parts rf] globals)
      = some (false, ["isValidSubject", "isReservedStream", "status.Error"]) := by
  have h0 : parts ≠ 0 := by omega
  have h : ∃ st, runBlock (exec prog (createExt true false c rest) 60) (fn_apiServer_CreateStream.body.take 8)
      (entry (encApi authz) (reqCreate name subject parts rf)) = .ok (.ret [.nil, .str "status"], st) ∧
      st.eff.map (·.1) = ["isValidSubject", "isReservedStream", "status.Error"] := by
    by_cases h1 : rf = 0 <;>
      simp [fn_apiServer_CreateStream, entry, reqCreate, gomini, lk_create, builtin_isValidSubject, builtin_isReservedStream, authzExt, createExt, binInt, globals, hn, hs, hp, h0, h1]
  obtain ⟨st, hrun, heff⟩ := h
  have hb := runBlock_split (ex := exec prog (createExt true false c rest) 60) 8 fn_apiServer_CreateStream.body
    (entry (encApi authz) (reqCreate name subject parts rf))
  rw [hrun] at hb
  rw [runG_method rfl rfl rfl hb, ← heff]
  rfl

/-! ### the operation IS reached by a granted caller, and with authorisation off (the check is not vacuous) -/

/-- the delegates answer "fine": not a reserved stream, operations succeed -/
def okExt : Ext := fun f _ _ =>
  if f = "isReservedStream" then some (.bool false)
  else if f = "metadata.FetchMetadata" ∨ f = "metadata.FetchPartitionMetadata" ∨ f = "cursors.GetCursor" then some (.tup [.int 7, .nil])
  else if f = "publishAuthorized" then some (.tup [.str "resp", .nil])
  else if f = "metadata.JoinConsumerGroup" then some (.tup [.str "coordinator", .int 1, .nil])
  else some .nil

theorem go_DeleteStream_granted (id : String) (hid : id ≠ "") (name : String) (parts : List Val) (flag : Bool) :
    view (runG prog (authzExt (.granted id) okExt) 60 "DeleteStream" (some (encApi true)) [ctxV, reqNamed name parts flag] globals)
      = some (true, ["Value", "enforcePolicy", "isReservedStream", "metadata.DeleteStream"]) := by
  rw [runG_method rfl rfl rfl ((runBlock_take 2 rfl).trans ((check_guard (.granted id) hid okExt 50 _ rfl rfl rfl rfl).trans rfl))]
  rfl

theorem go_DeleteStream_authz_off (c : Caller) (name : String) (parts : List Val) (flag : Bool) :
    view (runG prog (authzExt c okExt) 60 "DeleteStream" (some (encApi false)) [ctxV, reqNamed name parts flag] globals)
      = some (true, ["isReservedStream", "metadata.DeleteStream"]) := by
  rfl

theorem go_SetCursor_granted (id : String) (hid : id ≠ "") (stream cursor inbox : String) (part off : Int) (hs : stream ≠ "") (hk : cursor ≠ "") :
    view (runG prog (authzExt (.granted id) okExt) 60 "SetCursor" (some (encApi true)) [ctxV, reqStream stream cursor inbox part off] globals)
      = some (true, ["Value", "enforcePolicy", "cursors.SetCursor"]) := by
  rw [runG_method rfl rfl rfl ((runBlock_take 3 (setCursor_wellFormed _ stream cursor inbox part off hs hk)).trans
    ((check_guard (.granted id) hid okExt 50 _ rfl rfl rfl rfl).trans rfl))]
  rfl

/-- a granted Publish enters `publishAuthorized` - after the check -/
theorem go_Publish_granted (id : String) (hid : id ≠ "") (stream cursor inbox : String) (part off : Int) (subj : String) :
    (view (runG prog (pubExt (.tup [.str subj, .nil]) (.granted id) okExt) 60 "Publish" (some (encApi true))
      [ctxV, reqStream stream cursor inbox part off] globals)).map (·.2)
      = some ["getPublishSubject", "Value", "enforcePolicy", "publishAuthorized"] := by
  rw [← pubExt_check, runG_method rfl rfl rfl ((runBlock_take 3 rfl).trans ((check_guard (.granted id) hid _ 50 _ rfl rfl rfl rfl).trans rfl))]
  rfl

/-! ### the server's own publish path has no client check (it has no client), and is not an RPC -/

/-- `publishInternal` (activity events): never asks for a client id or a policy, whatever the context holds -/
theorem go_publishInternal_unchecked (c : Caller) (stream cursor inbox : String) (part off : Int) (subj : String) :
    (view (runG prog (pubExt (.tup [.str subj, .nil]) c okExt) 60 "publishInternal" (some (encApi true))
      [ctxV, reqStream stream cursor inbox part off] globals)).map (·.2)
      = some ["getPublishSubject", "publishAuthorized"] := by
  rfl

/-! ### the known finding, on the translated code: the consumer-group handlers contain no check -/

def reqGroup (group consumer : String) (streams : List Val) : Val :=
  .struct [("GroupId", .str group), ("ConsumerId", .str consumer), ("Streams", .list streams)]

def encApiG (authz : Bool) : Val :=
  .struct [("config", .struct [("TLSClientAuthz", .bool authz), ("Groups", .struct [("ConsumerTimeout", .int 5), ("CoordinatorTimeout", .int 5)])]),
           ("metadata", .struct [("kind", .str "metadata")]), ("cursors", .struct [("kind", .str "cursors")])]

/-- JoinConsumerGroup with authorisation ON, by ANY caller (also one every checked handler refuses): the metadata API
is reached and neither the client id nor the policy is looked at (known finding `group-rpcs-unchecked`) -/
theorem go_JoinConsumerGroup_unchecked (c : Caller) (group consumer : String) (s0 : Val) (streams : List Val)
    (hg : group ≠ "") (hk : consumer ≠ "") :
    view (runG prog (authzExt c okExt) 60 "JoinConsumerGroup" (some (encApiG true)) [ctxV, reqGroup group consumer (s0 :: streams)] globals)
      = some (true, ["metadata.JoinConsumerGroup"]) := by
  -- the three tests of the request pass, what follows is decided by computation
  have hpre : runBlock (exec prog (authzExt c okExt) 60) (fn_apiServer_JoinConsumerGroup.body.take 4)
      (entry (encApiG true) (reqGroup group consumer (s0 :: streams))) = .ok (.next, entry (encApiG true) (reqGroup group consumer (s0 :: streams))) := by
    simp [fn_apiServer_JoinConsumerGroup, entry, reqGroup, gomini, binInt, hg, hk]
  rw [runG_method rfl rfl rfl ((runBlock_take 4 hpre).trans rfl)]
  rfl

theorem go_LeaveConsumerGroup_unchecked (c : Caller) (group consumer : String) (streams : List Val)
    (hg : group ≠ "") (hk : consumer ≠ "") :
    view (runG prog (authzExt c okExt) 60 "LeaveConsumerGroup" (some (encApiG true)) [ctxV, reqGroup group consumer streams] globals)
      = some (true, ["metadata.LeaveConsumerGroup"]) := by
  have hpre : runBlock (exec prog (authzExt c okExt) 60) (fn_apiServer_LeaveConsumerGroup.body.take 3)
      (entry (encApiG true) (reqGroup group consumer streams)) = .ok (.next, entry (encApiG true) (reqGroup group consumer streams)) := by
    simp [fn_apiServer_LeaveConsumerGroup, entry, reqGroup, gomini, hg, hk]
  rw [runG_method rfl rfl rfl ((runBlock_take 3 hpre).trans rfl)]
  rfl

end Liftbridge.Props.GoAuthz
