/-
The start and the stop position of a subscription in the hand-written Subscribe model ARE the translated Go code.

`Gen/GoSubscribe.lean` holds the bodies of `partition.getStopOffset` and `partition.getStartOffset`
(server/partition.go); the `client.StopPosition_*` / `StartPosition_*` enum values are read from the liftbridge-api
version of /repo's go.mod. For every partition state (read-only flag, oldest / newest offset), direction and request: which
offset the body returns and whether it refuses, per position (`go_stop_*`, `go_start_*`).
`model_agrees` / `model_agrees_start` state the same tables for `Subscribe.stopOffset` / `Subscribe.startOffset`, the
functions C10's theorems are about.
-/
import Liftbridge.Proofs.GoCodeBase
import Liftbridge.Gen.GoSubscribe
import Liftbridge.Model.Subscribe

namespace Liftbridge.Props.GoSubscribe
open Liftbridge Liftbridge.GoMini Liftbridge.GoCode
open Liftbridge.Gen.GoSubscribe

theorem translation_complete : unsupported = [] := rfl

/-- what `LatestOffsetBeforeTimestamp` answers (the commit log's lookup is C10's model; here a parameter) -/
def tsExt (ans : Int × Option String) : Ext := fun f _ _ =>
  if f = "LatestOffsetBeforeTimestamp" then
    some (.tup [.int ans.1, match ans.2 with | none => .nil | some e => .str e])
  else if f = "status.New" then some (.str "status")
  else if f = "fmt.Sprintf" then some (.str "message")
  else none

def encLogView (readonly : Bool) (newest : Int) : Val :=
  .struct [("log", .struct [("IsReadonly", .bool readonly), ("NewestOffset", .int newest)])]

/-- `*client.SubscribeRequest`: the fields getStopOffset reads -/
def encReq (pos : Int) (stopOffset stopTs : Int) (reverse : Bool) : Val :=
  .struct [("StopPosition", .int pos), ("StopOffset", .int stopOffset), ("StopTimestamp", .int stopTs), ("Reverse", .bool reverse)]

def globals : List (String × Val) :=
  [("codes.Internal", .int 13), ("codes.ResourceExhausted", .int 8), ("codes.InvalidArgument", .int 3)]

/-- (stop offset, refused?) -/
def stopView : R Out → Option (Val × Bool)
  | .ok o => match o.rets with
    | [v, s] => some (v, !isNil s)
    | _ => none
  | _ => none

@[simp] theorem lk_stop : evalE.lookup' "getStopOffset" prog = some fn_partition_getStopOffset := by simp [prog, gomini]
@[simp] theorem lk_start : evalE.lookup' "getStartOffset" prog = some fn_partition_getStartOffset := by simp [prog, gomini]
/-- every other name is an external call -/
@[simp] theorem lk_other (f : String) (h : f ∉ ["getStopOffset", "getStartOffset"]) : evalE.lookup' f prog = none := by
  simp at h
  simp [prog, gomini, h]

/- what a run unfolds besides the interpreter: the encodings, the look-up stubs, the view -/
attribute [local simp] encLogView encReq globals tsExt stopView isNil binInt builtin_fmt_Sprintf builtin_status_New

/-- STOP_ON_CANCEL: wait for new messages (-1), except on a read-only partition read FORWARD, where the
subscription stops at the newest offset -/
theorem go_stop_onCancel (ro : Bool) (newest so ts : Int) (rev : Bool) (ans : Int × Option String) :
    stopView (runG prog (tsExt ans) 30 "getStopOffset" (some (encLogView ro newest)) [encReq 0 so ts rev] globals) =
      some (.int (if ro && !rev then newest else -1), false) := by
  -- the direction is looked at only on a read-only partition
  cases ro
  · rfl
  · cases rev <;> rfl

/-- STOP_OFFSET: the requested offset -/
theorem go_stop_offset (ro : Bool) (newest so ts : Int) (rev : Bool) (ans : Int × Option String) :
    stopView (runG prog (tsExt ans) 30 "getStopOffset" (some (encLogView ro newest)) [encReq 1 so ts rev] globals) =
      some (.int so, false) := by
  rfl

/-- STOP_LATEST: the newest offset; refused on an empty log -/
theorem go_stop_latest (ro : Bool) (newest so ts : Int) (rev : Bool) (ans : Int × Option String) :
    stopView (runG prog (tsExt ans) 30 "getStopOffset" (some (encLogView ro newest)) [encReq 2 so ts rev] globals) =
      some (.int newest, decide (newest = -1)) := by
  by_cases h : newest = -1
  · subst h; rfl
  · simp [runG, fn_partition_getStopOffset, gomini, h]

/-- STOP_TIMESTAMP: what the log's lookup answers; refused when the lookup fails -/
theorem go_stop_timestamp (ro : Bool) (newest so ts : Int) (rev : Bool) (ans : Int × Option String) :
    stopView (runG prog (tsExt ans) 30 "getStopOffset" (some (encLogView ro newest)) [encReq 3 so ts rev] globals) =
      some (.int ans.1, ans.2.isSome) := by
  obtain ⟨o, e⟩ := ans
  cases e <;> rfl

/-- any other stop position is refused -/
theorem go_stop_unknown (ro : Bool) (newest so ts : Int) (rev : Bool) (ans : Int × Option String) (pos : Int)
    (h : pos ≠ 0 ∧ pos ≠ 1 ∧ pos ≠ 2 ∧ pos ≠ 3) :
    (stopView (runG prog (tsExt ans) 30 "getStopOffset" (some (encLogView ro newest)) [encReq pos so ts rev] globals)).map (·.2) =
      some true := by
  obtain ⟨h0, h1, h2, h3⟩ := h
  simp [runG, fn_partition_getStopOffset, gomini, h0, h1, h2, h3]

/-- the Subscribe model resolves stop positions by the same table -/
theorem model_agrees (l : Log.CLog) (reverse : Bool) (o : Int) :
    Subscribe.stopOffset l reverse .onCancel = .ok (some (if l.readonly && !reverse then l.newest else -1)) ∧
    Subscribe.stopOffset l reverse (.offset o) = .ok (some o) ∧
    Subscribe.stopOffset l reverse .latest = (if l.newest = -1 then .ok none else .ok (some l.newest)) := by
  have hf : Gen.Subscribe.readonlyStopForwardOnly = true := by decide
  refine ⟨?_, rfl, rfl⟩
  cases hr : l.readonly <;> cases reverse <;> simp [Subscribe.stopOffset, hf, hr, Subscribe.waitForNew]

/-! ### `partition.getStartOffset` -/

/-- what `EarliestOffsetAfterTimestamp` answers is a parameter here too (the lookup itself is `Props.GoTimestamps`) -/
def tsExtS (ans : Int × Option String) : Ext := fun f _ _ =>
  if f = "EarliestOffsetAfterTimestamp" then
    some (.tup [.int ans.1, match ans.2 with | none => .nil | some e => .str e])
  else if f = "status.New" then some (.str "status")
  else if f = "fmt.Sprintf" then some (.str "message")
  else none

def encLogViewS (oldest newest : Int) : Val :=
  .struct [("log", .struct [("OldestOffset", .int oldest), ("NewestOffset", .int newest)])]

/-- `*client.SubscribeRequest`: the fields getStartOffset reads -/
def encReqS (pos : Int) (startOffset startTs : Int) : Val :=
  .struct [("StartPosition", .int pos), ("StartOffset", .int startOffset), ("StartTimestamp", .int startTs)]

/-- a negative start is clamped to 0 ("if the log is empty the next offset will be 0") -/
def clamp0 (o : Int) : Int := if o < 0 then 0 else o

attribute [local simp] encLogViewS encReqS tsExtS

/-- The last two statements of `getStartOffset` (`if startOffset < 0 { startOffset = 0 }; return startOffset, nil`), from any
state: every start position that is not refused ends here. -/
theorem start_clamped (ext : Ext) (n : Nat) (x : Int) (st : St) (hx : st.env "startOffset" = some (.int x)) :
    stopView (Out.of (some "p") (runBlock (exec prog ext (n + 3)) (fn_partition_getStartOffset.body.drop 2) st)) =
      some (.int (clamp0 x), false) := by
  rw [← St.Binds.setAll (st := st) (bs := [("startOffset", .int x)]) ⟨hx, trivial⟩,
    runBlock_ite_at (body := fn_partition_getStartOffset.body.drop 2) 0 rfl rfl rfl rfl, clamp0]
  by_cases h : x < 0
  · simp only [h, decide_true, ↓reduceIte]; rfl
  · simp only [h, decide_false, ↓reduceIte]; rfl

/-- OFFSET: the requested offset, clamped -/
theorem go_start_offset (oldest newest so ts : Int) (ans : Int × Option String) :
    stopView (runG prog (tsExtS ans) 30 "getStartOffset" (some (encLogViewS oldest newest)) [encReqS 1 so ts] globals) =
      some (.int (clamp0 so), false) := by
  rw [runG_eq rfl rfl, runBlock_take 2 rfl]
  exact start_clamped _ _ so _ rfl

/-- EARLIEST: the oldest offset of the log, clamped (an empty log has oldest = -1) -/
theorem go_start_earliest (oldest newest so ts : Int) (ans : Int × Option String) :
    stopView (runG prog (tsExtS ans) 30 "getStartOffset" (some (encLogViewS oldest newest)) [encReqS 2 so ts] globals) =
      some (.int (clamp0 oldest), false) := by
  rw [runG_eq rfl rfl, runBlock_take 2 rfl]
  exact start_clamped _ _ oldest _ rfl

/-- LATEST: the newest offset, clamped -/
theorem go_start_latest (oldest newest so ts : Int) (ans : Int × Option String) :
    stopView (runG prog (tsExtS ans) 30 "getStartOffset" (some (encLogViewS oldest newest)) [encReqS 3 so ts] globals) =
      some (.int (clamp0 newest), false) := by
  rw [runG_eq rfl rfl, runBlock_take 2 rfl]
  exact start_clamped _ _ newest _ rfl

/-- NEW_ONLY: the offset after the newest one -/
theorem go_start_newOnly (oldest newest so ts : Int) (ans : Int × Option String) :
    stopView (runG prog (tsExtS ans) 30 "getStartOffset" (some (encLogViewS oldest newest)) [encReqS 0 so ts] globals) =
      some (.int (clamp0 (newest + 1)), false) := by
  rw [runG_eq rfl rfl, runBlock_take 2 rfl]
  exact start_clamped _ _ (newest + 1) _ rfl

/-- TIMESTAMP: what the log's lookup answers, clamped; refused (before any clamping) when the lookup fails -/
theorem go_start_timestamp_ok (oldest newest so ts o : Int) :
    stopView (runG prog (tsExtS (o, none)) 30 "getStartOffset" (some (encLogViewS oldest newest)) [encReqS 4 so ts] globals) =
      some (.int (clamp0 o), false) := by
  rw [runG_eq rfl rfl, runBlock_take 2 rfl]
  exact start_clamped _ _ o _ rfl

theorem go_start_timestamp_err (oldest newest so ts o : Int) (e : String) :
    (stopView (runG prog (tsExtS (o, some e)) 30 "getStartOffset" (some (encLogViewS oldest newest)) [encReqS 4 so ts] globals)).map (·.2) =
      some true := by
  rfl

/-- any other start position is refused -/
theorem go_start_unknown (oldest newest so ts : Int) (ans : Int × Option String) (pos : Int)
    (h : pos ≠ 0 ∧ pos ≠ 1 ∧ pos ≠ 2 ∧ pos ≠ 3 ∧ pos ≠ 4) :
    (stopView (runG prog (tsExtS ans) 30 "getStartOffset" (some (encLogViewS oldest newest)) [encReqS pos so ts] globals)).map (·.2) =
      some true := by
  obtain ⟨h0, h1, h2, h3, h4⟩ := h
  simp [runG, fn_partition_getStartOffset, gomini, h0, h1, h2, h3, h4]

/-- the Subscribe model resolves start positions by the same table (`Subscribe.startOffset` is what C10's
theorems are about; its timestamp case goes through `earliestAfterTs`, tied by `Props.GoTimestamps`) -/
theorem model_agrees_start (l : Log.CLog) (o : Int) :
    Subscribe.startOffset l (.offset o) = .ok (clamp0 o) ∧
    Subscribe.startOffset l .earliest = .ok (clamp0 l.oldest) ∧
    Subscribe.startOffset l .latest = .ok (clamp0 l.newest) ∧
    Subscribe.startOffset l .newOnly = .ok (clamp0 (l.newest + 1)) ∧
    (∀ t r, Subscribe.earliestAfterTs l t = .ok r → Subscribe.startOffset l (.timestamp t) = .ok (clamp0 r)) := by
  refine ⟨rfl, rfl, rfl, rfl, ?_⟩
  intro t r h
  simp [Subscribe.startOffset, h, clamp0, bind, Res.bind]

/-- non-vacuity: the clamp matters on an empty log (oldest = newest = -1) and not on a non-empty one -/
example : clamp0 (-1) = 0 ∧ clamp0 ((-1) + 1) = 0 ∧ clamp0 7 = 7 := by decide

end Liftbridge.Props.GoSubscribe
