/-
C11 — A cursor fetch returns the last cursor that was stored.

The cursor manager model (`Liftbridge.Cursors`: compacted commit log + LRU cache, `SetCursor`
atomic, `GetCursor` in five small steps) refines the abstract store `Key → Option Int`
(`lastSet`): by induction over histories with the invariant `Inv` of Proofs/Cursors.lean
(the newest record of every key carries its stored offset — preserved by compaction through
C08's `latest_kept` because HW = newest offset after every set —, every cache entry equals
the stored offset, and what a fetch in flight has read is still good as long as it may cache).

Hypotheses, all spelled out:
* `0 < m` — a positive segment size;
* `ValidOp` — a `set` carries a non-empty key (a cursor key is `id,stream,partition`:
  `keyOf_ne_nil`) and value bytes that unmarshal to its offset (the protobuf codec is a parameter);
* `HdrsOK` — the headers stored with a cursor message are encodable (no header key longer than
  32767 bytes; the real ones are `subject` and `reply`);
* `NoRetention` — the cursors partition is not subject to retention limits. On the unrepaired
  code it inherits the server-wide `streams.retention.*` limits, and with them the statement
  is FALSE (`C11_with_retention_asStated_false`);
* for histories in which fetches overlap other calls: `P.guarded = true` — the miss path caches
  what it scanned only if no `SetCursor` ran since its cache lookup. On the unrepaired code
  (`guarded = false`) the statement is FALSE (`C11_concurrent_asStated_false`); what holds
  there is `C11_concurrent_partial`.
Which variant the code has is regenerated (`Gen.Cursors.missAddGuarded`, `retentionOff`):
`C11_code`.
-/
import Liftbridge.Model.Cursors
import Liftbridge.Proofs.Cursors
import Liftbridge.Props.C11Keys

namespace Liftbridge.Props.C11
open Liftbridge Liftbridge.Log Liftbridge.Cursors Liftbridge.Proofs.Cursors

/-- What a `FetchCursor` issued after the history (with nothing else running) must answer. -/
def Correct (P : Params) (m : Int) (on : Bool) (hist : List Op) (k : Key) : Prop :=
  (getCursor P (run P (State.init m on) hist) k).2 = .ok ((lastSet hist k).getD (-1))

/-- **The general form**, and all that holds on the unrepaired code for concurrent histories: the
statement, provided no SetCursor runs while a fetch OF THE SAME KEY is between its cache lookup and
its `cache.Add` (`ExclusiveRun`; fetches may overlap each other, sets of other keys and everything
else). Histories of complete calls (`C11`) and all histories of the repaired code
(`C11_concurrent`) are of this kind. -/
theorem C11_concurrent_partial (P : Params) (m : Int) (hm : 0 < m) (on : Bool) (hnr : NoRetention P) (hh : HdrsOK P)
    (hist : List Op) (hvalid : ∀ op ∈ hist, ValidOp P.dec op)
    (hx : ExclusiveRun P (State.init m on) hist) (k : Key) : Correct P m on hist k :=
  (inv_getCursor (inv_run hnr hh hist (inv_init P m hm on) hvalid hx) k).2

/-- **C11** (every history of complete calls). After any sequence of SetCursor / FetchCursor
calls over any keys, interleaved with segment rolls, cleans (compaction) of the cursors
partition, cache purges and evictions, leader changes of the cursors partition, auto-pause
(with the implicit resume) and server restarts, with the cache enabled or disabled, a fetch
returns the offset of the last SetCursor of that key, or -1 if there was none. Holds for the
unrepaired and the repaired miss path alike (`P.guarded` is arbitrary). -/
theorem C11 (P : Params) (m : Int) (hm : 0 < m) (on : Bool) (hnr : NoRetention P) (hh : HdrsOK P)
    (hist : List Op) (hseq : Sequential hist) (hvalid : ∀ op ∈ hist, ValidOp P.dec op) (k : Key) :
    Correct P m on hist k :=
  C11_concurrent_partial P m hm on hnr hh hist hvalid (exclusiveRun_sequential hist _ rfl hseq) k

-- `hk` and `hv` are not needed by the proof (success does not depend on what is stored).
set_option linter.unusedVariables false in
/-- Every `SetCursor` of such a history succeeds (so "the last set" is "the last successful set"). -/
theorem set_succeeds (P : Params) (m : Int) (hm : 0 < m) (on : Bool) (hnr : NoRetention P) (hh : HdrsOK P)
    (hist : List Op) (hvalid : ∀ op ∈ hist, ValidOp P.dec op)
    (hx : ExclusiveRun P (State.init m on) hist) (k : Key) (o : Int) (v : Bytes) (hk : k ≠ []) (hv : P.dec v = some o) :
    (setCursor P (run P (State.init m on) hist) k o v).2 = .ok () := by
  have hinv := inv_run hnr hh hist (inv_init P m hm on) hvalid hx
  obtain ⟨l', happ, -, -⟩ := logOK_publish (inv_resume hinv).log (cursorMsg P k v) hh
  rw [setCursor_ok happ]

/-- **C11 for concurrent histories** (repaired miss path). Histories may split every fetch into
its five steps and interleave them, per caller, with anything else — SetCursor of the same or
other keys, other fetches, cleans, purges, pauses, restarts. A fetch issued afterwards still
returns the last stored offset: no stale value is ever left in the cache. -/
theorem C11_concurrent (P : Params) (hg : P.guarded = true) (m : Int) (hm : 0 < m) (on : Bool)
    (hnr : NoRetention P) (hh : HdrsOK P) (hist : List Op) (hvalid : ∀ op ∈ hist, ValidOp P.dec op) (k : Key) :
    Correct P m on hist k :=
  C11_concurrent_partial P m hm on hnr hh hist hvalid (exclusiveRun_guarded hg hist _) k

/-- The full-strength statement over concurrent histories, for given parameters. -/
def C11_concurrent_asStated (P : Params) : Prop :=
  ∀ (m : Int), 0 < m → ∀ (on : Bool) (hist : List Op), (∀ op ∈ hist, ValidOp P.dec op) → ∀ k, Correct P m on hist k

/-- Parameters of the witnesses: the unrepaired miss path, no retention limits; the "codec"
decodes a value to its length. -/
def unrepaired : Params :=
  { dec := fun v => some (v.length : Int), cap := 4, hdrs := [], lim := ⟨0, 0, 0⟩, guarded := false, retentionOff := false }

def k1 : Key := [1]

/-- A fetch that found the cursors partition empty, overtaken by the first SetCursor before it
reaches its `cache.Add`. -/
def witnessEmpty : List Op :=
  [.lookup 0 k1, .readHW 0, .readOldest 0, .subscribe 0, .set k1 5 [0, 0, 0, 0, 0], .finish 0]

/-- **The full-strength statement is FALSE on the unrepaired code**: after `witnessEmpty` the
cache holds -1 for a cursor that was set to 5, and every later fetch returns -1. -/
theorem C11_concurrent_asStated_false : ¬ C11_concurrent_asStated unrepaired := by
  intro h
  have h1 := h 100 (by decide) true witnessEmpty (by decide) k1
  have h2 : (getCursor unrepaired (run unrepaired (State.init 100 true) witnessEmpty) k1).2 = .ok (-1) := by decide
  have h3 : lastSet witnessEmpty k1 = some 5 := by decide
  unfold Correct at h1
  rw [h2, h3] at h1
  exact absurd h1 (by decide)

/-- The same defect on a cursor that already has a value (the history replayed on the real
server, tag `cursor-cache-stale-after-concurrent-set`): set 1; cache purged (leader change or
eviction); a fetch scans the log and finds 1; SetCursor 2 completes; the fetch caches 1. -/
def witnessStale : List Op :=
  [.set k1 1 [0], .becomeLeader, .lookup 0 k1, .readHW 0, .readOldest 0, .subscribe 0, .set k1 2 [0, 0], .finish 0]

/-- After `witnessStale` a fetch returns 1 although the last SetCursor stored 2. -/
theorem stale_after_concurrent_set :
    (getCursor unrepaired (run unrepaired (State.init 100 true) witnessStale) k1).2 = .ok 1 ∧
      lastSet witnessStale k1 = some 2 := by
  decide +kernel

/-- The parameters of the code in /repo: the two regenerated switches, anything else free. -/
def codeParams (dec : Bytes → Option Int) (cap : Nat) (hdrs : List (String × Option Bytes)) (lim : Retention.Limits) : Params :=
  { dec := dec, cap := cap, hdrs := hdrs, lim := lim,
    guarded := Gen.Cursors.missAddGuarded, retentionOff := Gen.Cursors.retentionOff }

/-- **C11 for the code as regenerated**: if the extractor finds the guarded miss path and the
retention exemption in /repo, the full-strength statement holds for every concurrent history,
every cache capacity and every server-wide retention setting. -/
theorem C11_code (hg : Gen.Cursors.missAddGuarded = true) (hr : Gen.Cursors.retentionOff = true)
    (dec : Bytes → Option Int) (cap : Nat) (hdrs : List (String × Option Bytes)) (lim : Retention.Limits)
    (hh : HdrsOK (codeParams dec cap hdrs lim)) :
    C11_concurrent_asStated (codeParams dec cap hdrs lim) :=
  fun m hm on hist hvalid k =>
    C11_concurrent (codeParams dec cap hdrs lim) hg m hm on (Or.inl hr) hh hist hvalid k

/-! ### The end of the reverse scan: cancelled is not absent -/

/-- how a scan that stopped without having seen the key ends -/
inductive ScanEnd where
  | absent    -- "no cursor stored": -1 is returned, and GetCursor caches it
  | failed    -- an error: nothing is answered, nothing is cached
  deriving DecidableEq, Repr

/-- The error branch of `getLatestCursorOffset`. The reverse reader reports a cancelled request context exactly like the
beginning of the log (`codeIsEnd`: the status is ResourceExhausted in both cases), so only a test of the REQUEST CONTEXT can
tell the two apart; `byCtx` is regenerated from the source (`Gen.Cursors.cancelGuardByCtx`). -/
def scanEnd (byCtx ctxCancelled codeIsEnd : Bool) : ScanEnd :=
  if byCtx && ctxCancelled then .failed
  else if Gen.Cursors.endCodeCmp.evalInt (if codeIsEnd then 8 else 1) 8 then .absent else .failed

/-- a scan cut short by a cancelled or expired request is never taken for "cursor absent" (so -1 is not cached for a cursor
that WAS stored: the fixed defect `cursor-absent-after-cancelled-fetch`) - for the code as regenerated -/
theorem cancelled_scan_is_not_absent (codeIsEnd : Bool) :
    scanEnd Gen.Cursors.cancelGuardByCtx true codeIsEnd = .failed := by
  have h : Gen.Cursors.cancelGuardByCtx = true := by decide
  simp [scanEnd, h]

/-- ... and it would be, with a guard that looks at the status code only (the reader reports the end-of-log code) -/
theorem cancelled_scan_absent_without_ctx_guard : scanEnd false true true = .absent := by decide

/-- a scan that really reached the beginning of the log is "absent" -/
theorem complete_scan_is_absent : scanEnd Gen.Cursors.cancelGuardByCtx false true = .absent := by decide

/-- **What a fetch that overlaps other calls returns.** `seen tid` (`Proofs.Cursors.seenStep`) is
the history variable "values the key of caller `tid`'s fetch in flight has held since its cache
lookup": the stored offset (or -1) at the lookup, plus the offset of every SetCursor of that key
since. Whatever is interleaved with the fetch — sets of any key, other fetches, cleans that
change `OldestOffset()` after it was read, purges, restarts of other callers' windows — the
offset it finally returns is one of these values: fetches are linearizable reads. (Together with
`C11`, which by prefix-closure speaks about EVERY complete fetch of a history, not only the
last.) Hypothesis `ExclusiveRun` is needed for the unrepaired code only
(`exclusiveRun_guarded`): there a stale cache entry left by an earlier lost update can be hit. -/
theorem overlapping_fetch_returns_value_held_during_call (P : Params) (m : Int) (hm : 0 < m) (on : Bool)
    (hnr : NoRetention P) (hh : HdrsOK P) (hist : List Op) (hvalid : ∀ op ∈ hist, ValidOp P.dec op)
    (hx : ExclusiveRun P (State.init m on) hist) (tid : Nat) (v : Int)
    (hout : (step P (run P (State.init m on) hist) (.finish tid)).2 = .val (.ok v)) :
    v ∈ (runG P (G.init m on) hist).seen tid := by
  have hG := invG_run hnr hh hist (invG_init P m hm on) hvalid hx
  have hs : (runG P (G.init m on) hist).s = run P (State.init m on) hist := runG_s P hist _
  rw [← hs] at hout
  obtain ⟨p, hfp, hst⟩ := finish_output hout
  have := (hG.seen tid p hfp).2
  rw [hst] at this
  exact this v rfl

/-- The same for the repaired miss path, without any restriction on the history. -/
theorem overlapping_fetch_repaired (P : Params) (hg : P.guarded = true) (m : Int) (hm : 0 < m) (on : Bool)
    (hnr : NoRetention P) (hh : HdrsOK P) (hist : List Op) (hvalid : ∀ op ∈ hist, ValidOp P.dec op) (tid : Nat) (v : Int)
    (hout : (step P (run P (State.init m on) hist) (.finish tid)).2 = .val (.ok v)) :
    v ∈ (runG P (G.init m on) hist).seen tid :=
  overlapping_fetch_returns_value_held_during_call P m hm on hnr hh hist hvalid (exclusiveRun_guarded hg hist _) tid v hout

/-- The history variable on the stale-cache history: the fetch of caller 0 may return 1 (the value
at its lookup) or 2 (set while it was in flight) — it returns 1, which is fine; the defect is
only that the unrepaired code then CACHES it. -/
example : (runG unrepaired (G.init 100 true) (witnessStale.take 7)).seen 0 = [2, 1] := by decide

/-- The statement of `C11` without the `NoRetention` hypothesis. -/
def C11_with_retention_asStated (P : Params) : Prop :=
  ∀ (m : Int), 0 < m → ∀ (on : Bool) (hist : List Op), Sequential hist → (∀ op ∈ hist, ValidOp P.dec op) →
    ∀ k, Correct P m on hist k

/-- The cursors stream inherits `streams.retention.max.messages = 1`. -/
def retained : Params :=
  { dec := fun v => some (v.length : Int), cap := 4, hdrs := [], lim := ⟨0, 1, 0⟩, guarded := true, retentionOff := false }

def k2 : Key := [2]

/-- Two cursors, a clean, and the cache entry gone (eviction, leader change or restart). -/
def witnessRetention : List Op := [.set k1 1 [0], .set k2 2 [0, 0], .clean, .evictAll]

/-- **With retention limits inherited by the cursors stream the statement is FALSE** (even for
sequential histories and the repaired miss path): retention deletes the segment holding the
only record of an idle cursor; it reads -1 afterwards. (The default configuration has
`streams.retention.max.age` = 7 days: same code path, not modelled.) -/
theorem C11_with_retention_asStated_false : ¬ C11_with_retention_asStated retained := by
  intro h
  have h1 := h 1 (by decide) true witnessRetention (by decide) (by decide) k1
  have h2 : (getCursor retained (run retained (State.init 1 true) witnessRetention) k1).2 = .ok (-1) := by
    decide +kernel
  have h3 : lastSet witnessRetention k1 = some 1 := by decide
  unfold Correct at h1
  rw [h2, h3] at h1
  exact absurd h1 (by decide)

/-- A cursor key is never empty (the side condition `k ≠ []` of `ValidOp` holds for real keys). -/
theorem key_nonempty (id stream digits : Bytes) : keyOf id stream digits ≠ [] := keyOf_ne_nil id stream digits

/-- Distinct (cursor id, stream, partition) triples have distinct keys as long as neither the
cursor id nor the stream name contains a comma. -/
theorem key_injective {id id' stream stream' d d' : Bytes} (h1 : comma ∉ id) (h1' : comma ∉ id')
    (h2 : comma ∉ stream) (h2' : comma ∉ stream') (h : keyOf id stream d = keyOf id' stream' d') :
    id = id' ∧ stream = stream' ∧ d = d' :=
  C11Keys.parts_injective comma h1 h2 h1' h2' h

/-- Without that restriction they collide: cursor `a,b` on stream `c` and cursor `a` on stream
`b,c` (partition 0) share the key `a,b,c,0` — the API accepts both (known finding
`cursor-key-collision`). -/
theorem key_collision :
    keyOf [97, 44, 98] [99] [48] = keyOf [97] [98, 44, 99] [48] ∧ ([97, 44, 98] : Bytes) ≠ [97] := by decide

/-- The hypotheses of `C11` are satisfiable by a history that exercises set, fetch, roll, clean,
purge, pause and restart. -/
example : ∃ (P : Params) (hist : List Op), NoRetention P ∧ Sequential hist ∧ (∀ op ∈ hist, ValidOp P.dec op) ∧
    hist.length = 9 ∧ lastSet hist k1 = some 2 :=
  ⟨unrepaired, [.set k1 1 [0], .get k1, .roll, .set k2 3 [0, 0, 0], .clean, .pause, .set k1 2 [0, 0], .restart, .becomeLeader],
    Or.inr rfl, by decide, by decide, rfl, by decide⟩

/-- `C11_concurrent` applies to the history that breaks the unrepaired code. -/
example : Correct { unrepaired with guarded := true } 100 true witnessStale k1 :=
  C11_concurrent _ rfl 100 (by decide) true (Or.inr rfl) (by decide) witnessStale (by decide) k1

/-- `ExclusiveRun` is satisfiable by a history with overlapping calls (a fetch of `k1`
interleaved with a set of `k2`). -/
example : ExclusiveRun unrepaired (State.init 100 true)
    [.set k1 1 [0], .evictAll, .lookup 0 k1, .readHW 0, .set k2 7 [0, 0, 0, 0, 0, 0, 0], .readOldest 0] := by
  decide

end Liftbridge.Props.C11
