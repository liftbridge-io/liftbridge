/-
C01 / C02 at the level of the function body: `commitLog.Truncate` (server/commitlog/commitlog.go) - what a follower does to its log
when it reconciles with a new leader, and what "truncate removes exactly the suffix" rests on - translated from the code.
`findSegment`, the segment scanner and the file system are parameters (the
k-th `Scan` answers the k-th message of the segment that holds the offset, then EOF; the file-system calls succeed).

Three loops, three loop lemmas, each by induction, for lists of every length: `del_loop` (every segment BEHIND the one that
holds the offset is deleted, and counted), `copy_loop` (the segments IN FRONT of it are taken over, in order: the new segment
list starts with exactly them), `scan_loop` (the messages of the segment are written to its truncated copy one by one, in
order, as long as their offset is below the truncation offset; the first one at or above it ends the copying).
`go_Truncate`: for every segment list `pre ++ [seg] ++ post`, every content of `seg` and every offset `findSegment` places in
`seg`. REPLACE (`replaceTrace`): one `Delete` per segment of `post`, `Truncated` (the empty copy), one
`WriteMessageSet(ms, [entry])` per message below the offset, `Replace(seg)`, the switch of the active segment to the copy,
`ClearLatest(offset)` on the epoch cache; the log's segment list afterwards is `pre` followed by the copy. DROP (`dropTrace`,
the offset is the base offset of a segment that is not the first): that segment is deleted with everything behind it,
nothing is copied. `go_Truncate_replace` / `go_Truncate_first` / `go_Truncate_drop` are its cases; `go_Truncate_nothing`: an
offset beyond the end of the log changes nothing. Failing file-system calls stay with the model and the correspondence
runs; the fuel is `segments + messages + 14` because three-clause loops consume fuel per iteration.
-/
import Liftbridge.Proofs.GoCodeBase
import Liftbridge.Gen.GoTruncate

namespace Liftbridge.Props.GoTruncate
open Liftbridge Liftbridge.GoMini Liftbridge.GoCode
open Liftbridge.Gen.GoTruncate

theorem translation_complete : unsupported = [] := rfl

theorem builtin_atomic_StorePointer (s : String) (rest : List Val) : builtin "atomic.StorePointer" (.str s :: rest) = none := by simp [builtin]

@[simp] theorem lk_other (f : String) (h : f ≠ "Truncate") : evalE.lookup' f prog = none := by simp [prog, gomini, h]

/-- a segment, as `Truncate` sees it: its base offset -/
def encS (b : Int) : Val := .struct [("BaseOffset", .int b)]

/-- the log: its segments and its epoch cache -/
def encL (bases : List Int) : Val := .struct [("segments", .list (bases.map encS)), ("leaderEpochCache", .struct [("kind", .str "epochs")])]

/-! ### loop 1: every segment behind the one that holds the offset is deleted -/

def delCond : Expr := (.bin "<" (.var "i") (.len (.sel (.var "l") "segments")))
def delBody : List Stmt :=
  [(.ite [(.assign [(.var "err")] [(.mcall (.idx (.sel (.var "l") "segments") (.var "i")) "Delete" [])])] (.bin "!=" (.var "err") .nil)
      [(.ret [(.var "err")])] []),
   (.skip "crashPoint(\"log.truncate.deleted\")"),
   (.opAssign "+" (.var "deleted") (.int 1))]
def delPost : List Stmt := [(.opAssign "+" (.var "i") (.int 1))]

/-- an `Ext` under which deleting succeeds (and which says nothing else the loop asks for) -/
def DelOk (x : Ext) : Prop := ∀ args eff, x "Delete" args eff = some .nil

theorem del_loop (m0 : Nat) (x : Ext) (hx : DelOk x) (bases : List Int) :
    ∀ (k i : Nat) (iters : Nat) (st : St) (d : Int), i + k = bases.length → k + 1 ≤ iters →
      st.env "i" = some (.int i) → st.env "l" = some (encL bases) → st.env "deleted" = some (.int d) →
      ∃ st', runFor (forCond prog x (m0 + 10) delCond) (runBlock (exec prog x (m0 + 10)) delBody) (runBlock (exec prog x (m0 + 10)) delPost) iters st =
          .ok (.next, st') ∧
        st'.env "deleted" = some (.int (d + k)) ∧ st'.eff = st.eff ++ List.replicate k ("Delete", []) ∧
        (∀ y, y ≠ "i" → y ≠ "deleted" → y ≠ "err" → st'.env y = st.env y) := by
  intro k
  induction k with
  | zero =>
    intro i iters st d hik hit hi hl hd
    obtain ⟨it, rfl⟩ : ∃ it, iters = it + 1 := ⟨iters - 1, by omega⟩
    have hlt : ¬ ((i : Int) < (bases.length : Int)) := by omega
    refine ⟨st, ?_, by simpa using hd, by simp, fun _ _ _ _ => rfl⟩
    simp [runFor_succ, forCond, delCond, gomini, hi, hl, encL, binInt, hlt]
  | succ k ih =>
    intro i iters st d hik hit hi hl hd
    obtain ⟨it, rfl⟩ : ∃ it, iters = it + 1 := ⟨iters - 1, by omega⟩
    have hlt : (i : Int) < (bases.length : Int) := by omega
    have hnn : ¬ ((i : Int) < 0) := by omega
    obtain ⟨b, hb⟩ : ∃ b, bases[i]? = some b := ⟨_, List.getElem?_eq_getElem (by omega)⟩
    let st1 : St := ((((st.log "Delete" []).set "err" .nil).set "deleted" (.int (d + 1))).set "i" (.int ((i : Int) + 1)))
    obtain ⟨st', h1, h2, h3, h4⟩ := ih (i + 1) it st1 (d + 1) (by omega) (by omega) (by simp [st1, gomini]) (by simp [st1, gomini, hl]) (by simp [st1, gomini])
    refine ⟨st', ?_, ?_, ?_, ?_⟩
    · rw [runFor_succ]
      simp [forCond, delCond, delBody, delPost, gomini, hi, hl, hd, encL, encS, binInt, hlt, hnn, hb, hx _ _, -getElem?_pos]
      simpa [st1, delCond, delBody, delPost, gomini, St.log] using h1
    · rw [h2]; congr 2; push_cast; omega
    · rw [h3]; simp [st1, gomini, St.log, List.replicate_succ]
    · intro y hy1 hy2 hy3; rw [h4 y hy1 hy2 hy3]; simp [st1, gomini, hy1, hy2, hy3, St.log]

/-! ### loop 2: the segments in front of it are kept -/

def cpCond : Expr := (.bin "<" (.var "i") (.var "idx"))
def cpBody : List Stmt := [(.assign [(.idx (.var "segments") (.var "i"))] [(.idx (.sel (.var "l") "segments") (.var "i"))])]

theorem set_take_replicate (xs : List Val) (i n : Nat) (v : Val) (hv : xs[i]? = some v) (hn : i < n) :
    (xs.take i ++ List.replicate (n - i) Val.nil).set i v = xs.take (i + 1) ++ List.replicate (n - (i + 1)) Val.nil := by
  have hi : i < xs.length := by
    rcases Nat.lt_or_ge i xs.length with h | h
    · exact h
    · have : xs[i]? = none := List.getElem?_eq_none h
      simp [this] at hv
  have hlen : (xs.take i).length = i := by simp; omega
  obtain ⟨r, hr⟩ : ∃ r, n - i = r + 1 := ⟨n - i - 1, by omega⟩
  have hr' : n - (i + 1) = r := by omega
  rw [List.set_append_right _ _ (by omega), hlen, Nat.sub_self, hr, hr', List.replicate_succ, List.set_cons_zero, List.take_add_one, hv]
  simp

theorem copy_loop (m0 : Nat) (x : Ext) (bases : List Int) (idx n : Nat) (hidx : idx ≤ bases.length) (hn : idx ≤ n) :
    ∀ (k i : Nat) (iters : Nat) (st : St), i + k = idx → k + 1 ≤ iters →
      st.env "i" = some (.int i) → st.env "idx" = some (.int idx) → st.env "l" = some (encL bases) →
      st.env "segments" = some (.list ((bases.map encS).take i ++ List.replicate (n - i) .nil)) →
      ∃ st', runFor (forCond prog x (m0 + 10) cpCond) (runBlock (exec prog x (m0 + 10)) cpBody) (runBlock (exec prog x (m0 + 10)) delPost) iters st =
          .ok (.next, st') ∧
        st'.env "segments" = some (.list ((bases.map encS).take idx ++ List.replicate (n - idx) .nil)) ∧ st'.eff = st.eff ∧
        (∀ y, y ≠ "i" → y ≠ "segments" → st'.env y = st.env y) := by
  intro k
  induction k with
  | zero =>
    intro i iters st hik hit hi hidxv hl hs
    obtain ⟨it, rfl⟩ : ∃ it, iters = it + 1 := ⟨iters - 1, by omega⟩
    have : i = idx := by omega
    subst this
    refine ⟨st, ?_, hs, rfl, fun _ _ _ => rfl⟩
    simp [runFor_succ, forCond, cpCond, gomini, hi, hidxv, binInt]
  | succ k ih =>
    intro i iters st hik hit hi hidxv hl hs
    obtain ⟨it, rfl⟩ : ∃ it, iters = it + 1 := ⟨iters - 1, by omega⟩
    have hlt : (i : Int) < (idx : Int) := by omega
    have hnn : ¬ ((i : Int) < 0) := by omega
    obtain ⟨b, hb⟩ : ∃ b, bases[i]? = some b := ⟨_, List.getElem?_eq_getElem (by omega)⟩
    have hv : (bases.map encS)[i]? = some (encS b) := by simp [hb]
    have hset := set_take_replicate (bases.map encS) i n (encS b) hv (by omega)
    let st1 : St := (st.set "segments" (.list ((bases.map encS).take (i + 1) ++ List.replicate (n - (i + 1)) .nil))).set "i" (.int ((i : Int) + 1))
    obtain ⟨st', h1, h2, h3, h4⟩ := ih (i + 1) it st1 (by omega) (by omega) (by simp [st1, gomini]) (by simp [st1, gomini, hidxv]) (by simp [st1, gomini, hl])
      (by simp [st1, gomini])
    have hbound : i < ((bases.map encS).take i ++ List.replicate (n - i) Val.nil).length := by simp; omega
    refine ⟨st', ?_, h2, by rw [h3]; simp [st1, gomini], ?_⟩
    · rw [runFor_succ]
      simp [forCond, cpCond, cpBody, delPost, gomini, hi, hidxv, hl, hs, encL, binInt, hlt, hnn, hb, hset, hbound,
        -getElem?_pos, -List.length_append, -List.length_take, -List.length_replicate]
      simpa [st1, cpCond, cpBody, delPost, gomini] using h1
    · intro y hy1 hy2; rw [h4 y hy1 hy2]; simp [st1, gomini, hy1, hy2]

/-! ### loop 3: the segment that holds the offset is copied up to it -/

def encMs (o : Int) : Val := .struct [("Offset", .int o), ("kind", .str "message set")]
def encE (o : Int) : Val := .struct [("Offset", .int o), ("kind", .str "entry")]

def scans (eff : List (String × List Val)) : Nat := (eff.filter fun e => e.1 = "Scan").length

/-- the file system and the scanner of the segment being cut: the k-th `Scan` answers the k-th message of the segment, then EOF;
everything else succeeds; `findSegment` answers `found` -/
def truncExt (found : Val) (msgs : List Int) : Ext := fun f _ eff =>
  if f = "findSegment" then some found
  else if f = "Scan" then
    match msgs[scans eff]? with
    | some o => some (.tup [encMs o, encE o, .nil])
    | none => some (.tup [.nil, .nil, .str "EOF"])
  else if f = "newSegmentScanner" then some (.struct [("kind", .str "scanner")])
  else if f = "Truncated" then some (.tup [.struct [("kind", .str "truncated copy")], .nil])
  else some .nil

/-- what the loop does with the messages still to scan: those below the offset are written to the copy (each followed by the next
scan); the first one at or above it ends the loop -/
def copied (offset : Int) : List Int → List (String × List Val)
  | [] => []
  | o :: rest => if o < offset then ("WriteMessageSet", [encMs o, .list [encE o]]) :: ("Scan", []) :: copied offset rest else []

def scCond : Expr := (.bin "==" (.var "err·1") .nil)
def scBody : List Stmt :=
  [(.ite [] (.bin "<" (.mcall (.var "ms") "Offset" []) (.var "offset"))
      [(.ite [(.assign [(.var "err·2")] [(.mcall (.var "newSegment") "WriteMessageSet" [(.var "ms"), (.listLit [(.var "e")])])])] (.bin "!=" (.var "err·2") .nil)
      [(.ret [(.var "err·2")])] [])]
      [.brk])]
def scPost : List Stmt := [(.assign [(.var "ms"), (.var "e"), (.var "err·1")] [(.mcall (.var "ss") "Scan" [])])]

def hMs : List Int → Val
  | o :: _ => encMs o
  | [] => .nil
def hE : List Int → Val
  | o :: _ => encE o
  | [] => .nil
def hErr : List Int → Val
  | [] => .str "EOF"
  | _ :: _ => .nil

structure Head (st : St) (suf : List Int) (offset : Int) : Prop where
  err : st.env "err·1" = some (hErr suf)
  ms : st.env "ms" = some (hMs suf)
  e : st.env "e" = some (hE suf)
  off : st.env "offset" = some (.int offset)
  ns : st.env "newSegment" = some (.struct [("kind", .str "truncated copy")])
  ss : st.env "ss" = some (.struct [("kind", .str "scanner")])

@[simp] theorem hMs_cons (o : Int) (rest : List Int) : hMs (o :: rest) = encMs o := rfl
@[simp] theorem hE_cons (o : Int) (rest : List Int) : hE (o :: rest) = encE o := rfl
@[simp] theorem hErr_cons (o : Int) (rest : List Int) : hErr (o :: rest) = .nil := rfl
@[simp] theorem hErr_nil : hErr [] = .str "EOF" := rfl

theorem scans_nil : scans [] = 0 := rfl
theorem scans_cons (f : String) (args : List Val) (eff : List (String × List Val)) :
    scans ((f, args) :: eff) = (if f = "Scan" then 1 else 0) + scans eff := by
  by_cases h : f = "Scan" <;> simp [scans, h] <;> omega
theorem scans_append (a b : List (String × List Val)) : scans (a ++ b) = scans a + scans b := by simp [scans]

theorem truncExt_Scan (found : Val) (msgs : List Int) (args : List Val) (eff : List (String × List Val)) :
    truncExt found msgs "Scan" args eff =
      some (.tup [hMs (msgs.drop (scans eff)), hE (msgs.drop (scans eff)), hErr (msgs.drop (scans eff))]) := by
  simp only [truncExt, String.reduceEq, if_false, if_true]
  rw [← List.head?_drop]
  cases msgs.drop (scans eff) <;> rfl

theorem truncExt_ok (found : Val) (msgs : List Int) (f : String) (args : List Val) (eff : List (String × List Val))
    (h1 : f ≠ "findSegment") (h2 : f ≠ "Scan") (h3 : f ≠ "newSegmentScanner") (h4 : f ≠ "Truncated") :
    truncExt found msgs f args eff = some .nil := by
  simp [truncExt, h1, h2, h3, h4]

theorem scan_loop (m0 : Nat) (found : Val) (msgs : List Int) (offset : Int) :
    ∀ (suf pre : List Int) (iters : Nat) (st : St), msgs = pre ++ suf → suf.length + 1 ≤ iters → scans st.eff = pre.length + 1 → Head st suf offset →
      ∃ st', runFor (forCond prog (truncExt found msgs) (m0 + 12) scCond) (runBlock (exec prog (truncExt found msgs) (m0 + 12)) scBody)
          (runBlock (exec prog (truncExt found msgs) (m0 + 12)) scPost) iters st = .ok (.next, st') ∧
        st'.eff = st.eff ++ copied offset suf ∧
        (∀ y, y ≠ "ms" → y ≠ "e" → y ≠ "err·1" → y ≠ "err·2" → st'.env y = st.env y) := by
  intro suf
  induction suf with
  | nil =>
    intro pre iters st _ hit _ hd
    obtain ⟨it, rfl⟩ : ∃ it, iters = it + 1 := ⟨iters - 1, by omega⟩
    refine ⟨st, ?_, by simp [copied], fun _ _ _ _ _ => rfl⟩
    simp [runFor_succ, forCond, scCond, gomini, hd.err]
  | cons o rest ih =>
    intro pre iters st hm hit hsc hd
    obtain ⟨it, rfl⟩ : ∃ it, iters = it + 1 := ⟨iters - 1, by simp at hit; omega⟩
    by_cases hlt : o < offset
    · -- written to the copy, then the next scan, which answers the head of `rest`
      have hrest : msgs.drop (pre.length + 1) = rest := by subst hm; simp
      let st1 : St := (((((st.log "WriteMessageSet" [encMs o, .list [encE o]]).set "err·2" .nil).log "Scan" []).set "ms" (hMs rest)).set "e" (hE rest)).set "err·1"
          (hErr rest)
      obtain ⟨st', h1, h2, h3⟩ := ih (pre ++ [o]) it st1 (by simp [hm]) (by simp at hit; omega)
        (by simp [st1, gomini, scans_append, scans_cons, scans_nil, hsc])
        ⟨by simp [st1, gomini], by simp [st1, gomini], by simp [st1, gomini], by simp [st1, gomini, hd.off], by simp [st1, gomini, hd.ns],
         by simp [st1, gomini, hd.ss]⟩
      refine ⟨st', ?_, ?_, ?_⟩
      · rw [runFor_succ]
        simp [forCond, scCond, scBody, scPost, gomini, hd.err, hd.ms, hd.e, hd.off, hd.ns, hd.ss, encMs, binInt, hlt, truncExt_Scan, truncExt_ok,
          scans_append, scans_cons, scans_nil, hsc, hrest]
        simpa [st1, scCond, scBody, scPost, gomini, encMs, encE] using h1
      · rw [h2]; simp [st1, gomini, copied, hlt]
      · intro y hy1 hy2 hy3 hy4; rw [h3 y hy1 hy2 hy3 hy4]; simp [st1, gomini, hy1, hy2, hy3, hy4]
    · -- at or above the offset: break
      refine ⟨st, ?_, by simp [copied, hlt], fun _ _ _ _ _ => rfl⟩
      rw [runFor_succ]
      simp [forCond, scCond, scBody, gomini, hd.err, hd.ms, hd.off, encMs, binInt, hlt]

/-! ### the whole function -/

def isTr (f : String) : Bool := f = "Delete" || f = "Truncated" || f = "WriteMessageSet" || f = "Replace" || f = "atomic.StorePointer" || f = "ClearLatest"

/-- (returned values, the file-system / cache calls in order, the log's segment list afterwards) -/
def trView : R Out → Option (List Val × List (String × List Val) × Option Val)
  | .ok o => some (o.rets, o.eff.filter (fun e => isTr e.1), match o.recv with | some (.struct fs) => lookup "segments" fs | _ => none)
  | _ => none

def newSegV : Val := .struct [("kind", .str "truncated copy")]

/-- no segment holds the offset (it is beyond the end of the log): nothing happens -/
theorem go_Truncate_nothing (bases : List Int) (msgs : List Int) (offset : Int) :
    trView (runG prog (truncExt (.tup [.nil, .int 0]) msgs) 30 "Truncate" (some (encL bases)) [.int offset] []) =
      some ([.nil], [], some (.list (bases.map encS))) := by
  rfl

theorem delOk_truncExt (found : Val) (msgs : List Int) : DelOk (truncExt found msgs) :=
  fun _ _ => truncExt_ok _ _ _ _ _ (by decide) (by decide) (by decide) (by decide)

/-- the calls of `Truncate` in the REPLACE case: every later segment deleted, the copy created, the messages below the offset
written to it in order, the copy put in the segment's place, the active segment switched to it, the epoch cache trimmed -/
def replaceTrace (post : List Int) (b : Int) (offset : Int) (msgs : List Int) : List (String × List Val) :=
  List.replicate post.length ("Delete", []) ++ [("Truncated", [])] ++ (copied offset msgs).filter (fun e => isTr e.1) ++
    [("Replace", [encS b]), ("atomic.StorePointer", [.str "l.vActiveSegment", newSegV]), ("ClearLatest", [.int offset])]

/-- the calls of `Truncate` when the offset is the base offset of a segment that is not the first: that segment goes too -/
def dropTrace (pl : Int) (post : List Int) (offset : Int) : List (String × List Val) :=
  List.replicate (post.length + 1) ("Delete", []) ++
    [("atomic.StorePointer", [.str "l.vActiveSegment", encS pl]), ("ClearLatest", [.int offset])]

/-- the statement that decides between replacing the segment and dropping it -/
def replaceStmt : Stmt := fn_commitLog_Truncate.body.getD 7 .brk

theorem replace_or_drop (found : Val) (msgs : List Int) (n : Nat) (st : St) (b offset d : Int) (pre : List Int)
    (hseg : st.env "seg" = some (encS b)) (hoff : st.env "offset" = some (.int offset)) (hidx : st.env "idx" = some (.int pre.length))
    (hd : st.env "deleted" = some (.int d)) :
    exec prog (truncExt found msgs) (n + 6) replaceStmt st = .ok (.next,
      if b = offset ∧ pre ≠ [] then ((st.log "Delete" []).set "err" .nil).set "deleted" (.int (d + 1))
      else st.set "replace" (.bool true)) := by
  rw [← St.Binds.setAll (st := st) (bs := [("seg", encS b), ("offset", .int offset), ("idx", .int pre.length), ("deleted", .int d)])
    ⟨hseg, hoff, hidx, hd, trivial⟩]
  have hs : replaceStmt = Stmt.ite _ _ _ _ := rfl
  by_cases hb : b = offset
  · cases pre with
    | nil => rw [if_neg (fun h => h.2 rfl), hs, exec_ite_eq rfl rfl, decide_eq_true hb]; rfl
    | cons a pre =>
      rw [if_pos ⟨hb, List.cons_ne_nil _ _⟩, hs, exec_ite_eq rfl rfl, decide_eq_true hb, if_pos rfl, runBlock_ite_at 0 rfl rfl rfl rfl,
        decide_eq_false (by simp)]
      rfl
  · rw [if_neg (fun h => hb h.1), hs, exec_ite_eq rfl rfl, decide_eq_false hb]; rfl

/-- The proof follows the body: what lies between two loops is computed, each loop is its lemma. -/
theorem go_Truncate (pre : List Int) (b : Int) (post : List Int) (msgs : List Int) (offset : Int) :
    trView (runG prog (truncExt (.tup [encS b, .int pre.length]) msgs) ((pre ++ b :: post).length + msgs.length + 14) "Truncate"
        (some (encL (pre ++ b :: post))) [.int offset] []) =
      some ([.nil],
        if h : b = offset ∧ pre ≠ [] then dropTrace (pre.getLast h.2) post offset else replaceTrace post b offset msgs,
        some (.list (if b = offset ∧ pre ≠ [] then pre.map encS else pre.map encS ++ [newSegV]))) := by
  simp only [List.length_append, List.length_cons]
  generalize hF : pre.length + (post.length + 1) + msgs.length = F
  rw [runG_eq rfl rfl]
  refine Ends.view ?_
  rw [runBlock_forC_at 5 (ce := delCond) (post := delPost) (lbody := delBody) rfl rfl rfl]
  refine Ends.andThen (del_loop (F + 3) _ (delOk_truncExt _ msgs) (pre ++ b :: post) post.length (pre.length + 1) (F + 13) _ 0
    (by simp; omega) (by omega) (by rfl) (by rfl) (by rfl)) fun st1 ⟨hdel, heff, hfr⟩ => ?_
  rw [← St.Binds.setAll (st := st1) (bs := [("seg", encS b), ("idx", .int pre.length), ("offset", .int offset),
      ("l", encL (pre ++ b :: post)), ("deleted", .int post.length)]) (by simp [St.Binds, hdel, hfr, gomini])]
  -- the decision; from here to the `if replace` both outcomes at once: `d` segments deleted so far, `r` whether to replace
  rw [runBlock_at 1 (s := replaceStmt) rfl rfl, replace_or_drop _ _ _ _ b offset post.length pre rfl rfl rfl rfl, andThen_ok, runRest]
  generalize hd : (if b = offset ∧ pre ≠ [] then post.length + 1 else post.length) = d
  generalize hr : (decide ¬ (b = offset ∧ pre ≠ [])) = r
  have hdn : d ≤ post.length + 1 := by rw [← hd]; split <;> omega
  generalize hst2 : (if b = offset ∧ pre ≠ [] then _ else _ : St) = st2
  have heff2 : st2.eff = st1.eff ++ List.replicate (d - post.length) ("Delete", []) := by
    rw [← hst2, ← hd]; split <;> simp [gomini, St.setAll]
  rw [← St.Binds.setAll (st := st2) (bs := [("seg", encS b), ("idx", .int pre.length), ("offset", .int offset),
      ("l", encL (pre ++ b :: post)), ("deleted", .int d), ("replace", .bool r)])
    (by rw [← hst2, ← hd, ← hr]; split <;> simp [St.Binds, gomini, St.setAll, *])]
  -- the new segment list and loop 2, which takes over the segments in front
  rw [runBlock_at 0 rfl rfl]
  have hmk1 : ¬ ((pre.length : Int) + ((post.length : Int) + 1) - (d : Int) < 0) := by omega
  have hmk2 : ((pre.length : Int) + ((post.length : Int) + 1)).toNat - d = pre.length + (post.length + 1) - d := by omega
  simp [gomini, andThen_ok, binInt, St.setAll, encL, hmk1, hmk2]
  rw [runRest, runBlock_forC_at 0 rfl rfl rfl]
  refine Ends.andThen (copy_loop (F + 3) _ (pre ++ b :: post) pre.length (pre.length + (post.length + 1) - d) (by simp) (by omega)
    pre.length 0 (F + 13) _ (by omega) (by omega) (by rfl) (by rfl) (by simp [gomini, encL]) (by simp [gomini])) fun st3 ⟨hsegs, heff3, hfr3⟩ => ?_
  rw [← St.Binds.setAll (st := st3) (bs := [("seg", encS b), ("idx", .int pre.length), ("offset", .int offset),
      ("l", encL (pre ++ b :: post)), ("replace", .bool r),
      ("segments", .list (pre.map encS ++ List.replicate (post.length + 1 - d) .nil))])
    (by simp [St.Binds, hsegs, hfr3, gomini, encL]; omega)]
  rw [runBlock_ite_at 0 rfl rfl rfl rfl]
  by_cases hdrop : b = offset ∧ pre ≠ []
  · -- nothing is copied: the log ends with the segment in front
    obtain rfl : r = false := by rw [← hr]; simp [hdrop]
    obtain rfl : d = post.length + 1 := by rw [← hd, if_pos hdrop]
    have hlast : pre[pre.length - 1]? = some (pre.getLast hdrop.2) := by
      rw [← List.getLast?_eq_getElem?, List.getLast?_eq_some_getLast]
    have hpos : ¬ ((pre.length : Int) - 1 < 0) := by have := List.length_pos_iff.2 hdrop.2; omega
    rw [dif_pos hdrop, if_pos hdrop, andThen_block rfl]
    simp [gomini, St.setAll, truncExt, binInt, encL, Out.of, trView, builtin_atomic_StorePointer, hlast, hpos]
    simp [heff3, heff2, heff, gomini, dropTrace, isTr, List.filter_append, List.replicate_succ']
  · -- the scanner, the empty copy, and loop 3, which copies the messages below the offset
    obtain rfl : r = true := by rw [← hr]; simp [hdrop]
    obtain rfl : d = post.length := by rw [← hd, if_neg hdrop]
    rw [dif_neg hdrop, if_neg hdrop, if_pos rfl, runBlock_at 4 rfl rfl, exec_forC_some]
    have hsc : scans st3.eff = 0 := by simp [heff3, gomini, heff2, heff, scans]
    simp [gomini, truncExt_Scan, St.setAll, scans_append, scans_cons, scans_nil, hsc]
    refine Ends.andThen₂ (scan_loop F (.tup [encS b, .int pre.length]) msgs offset msgs [] (F + 12) _ rfl (by omega)
      (by simp [gomini, scans_append, scans_cons, scans_nil, hsc]) ⟨rfl, rfl, rfl, rfl, rfl, rfl⟩) fun st5 ⟨heff5, hfr5⟩ => ?_
    rw [← St.Binds.setAll (st := st5) (bs := [("seg", encS b), ("idx", .int pre.length), ("offset", .int offset),
        ("l", encL (pre ++ b :: post)), ("segments", .list (pre.map encS ++ [.nil])), ("newSegment", newSegV)])
      (by simp [St.Binds, hfr5, gomini, newSegV]), runRest]
    simp [gomini, andThen_ok, St.setAll, truncExt, binInt, encL, Out.of, trView, newSegV, builtin_atomic_StorePointer]
    simp [heff5, heff3, heff2, heff, gomini, replaceTrace, isTr, newSegV, List.filter_append]

/-- the calls of `Truncate` in the REPLACE case: the offset lies strictly inside the segment -/
theorem go_Truncate_replace (pre : List Int) (b : Int) (post : List Int) (msgs : List Int) (offset : Int)
    (hb : b ≠ offset) :
    trView (runG prog (truncExt (.tup [encS b, .int pre.length]) msgs) ((pre ++ b :: post).length + msgs.length + 14) "Truncate"
        (some (encL (pre ++ b :: post))) [.int offset] []) =
      some ([.nil], replaceTrace post b offset msgs, some (.list (pre.map encS ++ [newSegV]))) := by
  simpa [hb] using go_Truncate pre b post msgs offset

/-- the offset lies in the FIRST segment - anywhere in it, its base offset included: the first segment is never deleted, it is replaced
by its truncated copy (an empty one when the offset is its base offset and offsets increase) -/
theorem go_Truncate_first (pre : List Int) (b : Int) (post : List Int) (msgs : List Int) (offset : Int)
    (hp : pre = []) :
    trView (runG prog (truncExt (.tup [encS b, .int pre.length]) msgs) ((pre ++ b :: post).length + msgs.length + 14) "Truncate"
        (some (encL (pre ++ b :: post))) [.int offset] []) =
      some ([.nil], replaceTrace post b offset msgs, some (.list (pre.map encS ++ [newSegV]))) := by
  simpa [hp] using go_Truncate pre b post msgs offset

/-- the offset is the base offset of a segment that is not the first (`init ++ [pl]` lie in front of it): that segment and every
later one are deleted, nothing is copied, the log ends with `pl`, which becomes the active segment -/
theorem go_Truncate_drop (init : List Int) (pl b : Int) (post : List Int) (msgs : List Int) :
    trView (runG prog (truncExt (.tup [encS b, .int (init ++ [pl]).length]) msgs) (((init ++ [pl]) ++ b :: post).length + msgs.length + 14) "Truncate"
        (some (encL ((init ++ [pl]) ++ b :: post))) [.int b] []) =
      some ([.nil], dropTrace pl post b, some (.list ((init ++ [pl]).map encS))) := by
  simpa using go_Truncate (init ++ [pl]) b post msgs b

/-- what gets written: the longest prefix of the segment's messages below the offset -/
theorem copied_writes (offset : Int) (msgs : List Int) :
    ((copied offset msgs).filter fun e => e.1 = "WriteMessageSet") =
      (msgs.takeWhile fun o => decide (o < offset)).map fun o => ("WriteMessageSet", [encMs o, .list [encE o]]) := by
  induction msgs with
  | nil => simp [copied]
  | cons o rest ih =>
    by_cases h : o < offset
    · simp [copied, h, ih]
    · simp [copied, h]

/-- non-vacuity: segments with bases 0, 10, 20, 30; offset 23 lies in the third, which holds 20..25: the fourth segment is deleted,
20, 21, 22 are copied, the log ends with the copy -/
example : replaceTrace [30] 20 23 [20, 21, 22, 23, 24, 25] =
    [("Delete", []), ("Truncated", []),
     ("WriteMessageSet", [encMs 20, .list [encE 20]]), ("WriteMessageSet", [encMs 21, .list [encE 21]]), ("WriteMessageSet", [encMs 22, .list [encE 22]]),
     ("Replace", [encS 20]), ("atomic.StorePointer", [.str "l.vActiveSegment", newSegV]), ("ClearLatest", [.int 23])] := by
  simp [replaceTrace, copied, isTr]

end Liftbridge.Props.GoTruncate
