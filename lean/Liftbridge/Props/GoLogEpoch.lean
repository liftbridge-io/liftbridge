/-
C02 at the level of the function bodies: where the commit log and its leader-epoch cache meet - `commitLog.NewLeaderEpoch`,
`commitLog.LastOffsetForLeaderEpoch`, `commitLog.NewestOffset` (server/commitlog/commitlog.go) - translated from the code
(`Gen/GoLogEpoch.lean`; the cache's own functions are `Props.GoEpochCache`). The cache is a
parameter here: a method of the cache reached through the field `leaderEpochCache` is never taken for the log's method of
the same name (the translator qualifies it).
-/
import Liftbridge.Proofs.GoCodeBase
import Liftbridge.Gen.GoLogEpoch

namespace Liftbridge.Props.GoLogEpoch
open Liftbridge Liftbridge.GoMini Liftbridge.GoCode Liftbridge.Log
open Liftbridge.Gen.GoLogEpoch


theorem translation_complete : unsupported = [] := rfl

def encLogE (next : Int) : Val :=
  .struct [("activeSegment", .struct [("NextOffset", .int next)]), ("leaderEpochCache", .struct [("kind", .str "epochs")])]

/-- the cache answers `cacheAns epoch` to `LastOffsetForLeaderEpoch` and nil to `Assign` -/
def cacheExt (cacheAns : Int → Int) : Ext := fun f args _ =>
  if f = "leaderEpochCache.LastOffsetForLeaderEpoch" then
    match args with
    | [_, .int e] => some (.int (cacheAns e))
    | _ => none
  else if f = "leaderEpochCache.Assign" then some .nil
  else none

def view : R Out → Option (List Val × List (String × List Val))
  | .ok o => some (o.rets, o.eff.filter fun e => e.1 = "leaderEpochCache.Assign")
  | _ => none

/-- next offset of the active segment minus one -/
theorem go_NewestOffset (next : Int) (cacheAns : Int → Int) :
    view (runG prog (cacheExt cacheAns) 30 "NewestOffset" (some (encLogE next)) [] []) = some ([.int (next - 1)], []) := by
  rfl

/-- a new leader epoch is recorded as starting at the log's NEWEST offset - exactly one `Assign(epoch, newest)` -/
theorem go_NewLeaderEpoch (next epoch : Int) (cacheAns : Int → Int) :
    view (runG prog (cacheExt cacheAns) 30 "NewLeaderEpoch" (some (encLogE next)) [.int epoch] []) =
      some ([.nil], [("leaderEpochCache.Assign", [.int epoch, .int (next - 1)])]) := by
  rfl

/-- what the leader answers a follower that asks where an epoch ends: the cache's answer, and the log's newest offset when the
cache answers -1 (the epoch is the latest one, or unknown) -/
theorem go_LastOffsetForLeaderEpoch (next epoch : Int) (cacheAns : Int → Int) :
    view (runG prog (cacheExt cacheAns) 30 "LastOffsetForLeaderEpoch" (some (encLogE next)) [.int epoch] []) =
      some ([.int (if cacheAns epoch = -1 then next - 1 else cacheAns epoch)], []) := by
  by_cases h : cacheAns epoch = -1 <;>
    simp [runG, fn_commitLog_LastOffsetForLeaderEpoch, prog, gomini, view, encLogE, binInt, cacheExt, h]

/-- the model's function is that one, with the model's cache as the answer -/
theorem model_lastOffsetForLeaderEpoch (l : CLog) (epoch : Nat) :
    l.lastOffsetForLeaderEpoch epoch = (if l.epochs.lastOffsetFor epoch = -1 then l.nextOffset - 1 else l.epochs.lastOffsetFor epoch) := rfl

/-- and the model records a new epoch at the newest offset -/
theorem model_newLeaderEpoch (l : CLog) (epoch : Nat) : (l.newLeaderEpoch epoch).epochs = l.epochs.assign epoch (l.nextOffset - 1) := rfl

end Liftbridge.Props.GoLogEpoch
