/-
C10 at the level of the function bodies: `commitLog.EarliestOffsetAfterTimestamp` and `commitLog.LatestOffsetBeforeTimestamp`
(server/commitlog/commitlog.go) - where a subscription that starts or stops at a timestamp begins / ends - translated from
the code. `Gen/GoTimestamps.lean` is regenerated on every run. Eight of the repaired C10 defects sat in these two functions
and their callees.

The callees are parameters: `findSegmentIndexByTimestamp(segments, ts, inclusive)` answers `(idx, err)` (any function of the
flag - so the theorems also fix WHICH of the two searches each function uses), the per-segment searches
`findEntryByTimestamp` / `findLatestEntryByTimestamp` answer found / ErrEntryNotFound / io.EOF / another error, per segment.

`go_EarliestOffsetAfterTimestamp`, `go_LatestOffsetBeforeTimestamp`: for EVERY non-empty segment list, every index the
segment search may return (`idx <= len`, what `sort.Search` guarantees) and every combination of answers, the translated
body returns exactly the decision `earliestSpec` / `latestSpec`:
  earliest: EOF from the segment search -> next offset of the last segment; otherwise the segment BEFORE the one found
  (the first for idx = 0) is searched first; not found / EOF there -> the segment found, if there is one; not found there
  either -> next offset of the last segment; any other error is returned.
  latest: an error of the segment search is returned; idx = 0 with an empty first segment or a timestamp before its first
  write -> error; otherwise the answer of the latest-entry search of the segment before the one found.
`model_earliest`, `model_latest`: the model's `Subscribe.earliestAfterTs` / `latestBeforeTs` (which the C10 theorems are
about, and whose comparison operators are regenerated) are these decisions with the model's own searches as the answers.
Hypotheses: the log has at least one segment (`New` creates one, retention never deletes the last one) and the segment
index is within `[0, len]`.
-/
import Liftbridge.Proofs.GoCodeBase
import Liftbridge.Gen.GoTimestamps
import Liftbridge.Model.Subscribe

namespace Liftbridge.Props.GoTimestamps
open Liftbridge Liftbridge.GoMini Liftbridge.GoCode
open Liftbridge.Gen.GoTimestamps

theorem builtin_findSegmentIndexByTimestamp (a b c : Val) : builtin "findSegmentIndexByTimestamp" [a, b, c] = none := by
  cases a <;> simp [builtin]

theorem translation_complete : unsupported = [] := rfl

theorem binVal_int (op : String) (a b : Int) : binVal op (Val.int a) (Val.int b) = binInt op a b := GoMini.binVal_int op a b

/-- what a per-segment entry search answers -/
inductive Ans where
  | found (offset : Int)
  | notFound          -- ErrEntryNotFound
  | eof               -- io.EOF
  | failed            -- any other error
  deriving DecidableEq, Repr

/-- a segment as the two functions see it: accessor values and the answers of its entry searches for the timestamp of the call -/
structure SegA where
  nextOffset : Int
  isEmpty : Bool
  firstWriteTime : Int
  ansE : Ans          -- findEntryByTimestamp(ts)
  ansL : Ans          -- findLatestEntryByTimestamp(ts)
  deriving Repr

def encAns : Ans → Val
  | .found o => .tup [.struct [("Offset", .int o)], .nil]
  | .notFound => .tup [.nil, .str "ErrEntryNotFound"]
  | .eof => .tup [.nil, .str "io.EOF"]
  | .failed => .tup [.nil, .str "some other error"]

def encSegA (s : SegA) : Val :=
  .struct [("NextOffset", .int s.nextOffset), ("IsEmpty", .bool s.isEmpty), ("FirstWriteTime", .int s.firstWriteTime),
           ("ansE", encAns s.ansE), ("ansL", encAns s.ansL)]

def encLog (segs : List SegA) : Val := .struct [("segments", .list (segs.map encSegA))]

/-- error returned next to the segment index -/
inductive ErrK where | none | eof | failed
  deriving DecidableEq, Repr

def encErrK : ErrK → Val
  | .none => .nil
  | .eof => .str "io.EOF"
  | .failed => .str "some other error"

def globals : List (String × Val) := [("io.EOF", .str "io.EOF"), ("ErrEntryNotFound", .str "ErrEntryNotFound")]

/-- the un-translated callees: the segment search answers `segIdx inclusive`, an entry search what the segment says -/
def tsExt (segIdx : Bool → Nat × ErrK) : Ext := fun f args _ =>
  if f = "findSegmentIndexByTimestamp" then
    match args with
    | [_, _, .bool incl] => some (.tup [.int (segIdx incl).1, encErrK (segIdx incl).2])
    | _ => none
  else if f = "findEntryByTimestamp" then
    match args with
    | [.struct fs, _] => lookup "ansE" fs
    | _ => none
  else if f = "findLatestEntryByTimestamp" then
    match args with
    | [.struct fs, _] => lookup "ansL" fs
    | _ => none
  else none

/-- outcome: an offset, or an error -/
inductive Outcome where
  | offset (o : Int)
  | error
  deriving DecidableEq, Repr

def view : R Out → Option Outcome
  | .ok o => match o.rets with
    | [.int v, .nil] => some (.offset v)
    | [.int 0, .str _] => some .error
    | _ => none
  | _ => none

/-- `LatestOffsetBeforeTimestamp`, as a decision over what the callees answer -/
def latestSpec (segs : List SegA) (ts : Int) (idx : Nat) (err : ErrK) : Option Outcome :=
  if err ≠ .none then some .error else
  match (if idx = 0 then segs[0]? else segs[idx - 1]?) with
  | none => none
  | some seg =>
    if idx = 0 ∧ (seg.isEmpty ∨ ts < seg.firstWriteTime) then some .error else
    match seg.ansL with
    | .found o => some (.offset o)
    | _ => some .error

attribute [local simp] encLog encSegA encAns encErrK globals tsExt view

theorem go_LatestOffsetBeforeTimestamp (segs : List SegA) (ts : Int) (segIdx : Bool → Nat × ErrK)
    (hne : segs ≠ []) (hidx : (segIdx false).1 ≤ segs.length) :
    view (runG prog (tsExt segIdx) 30 "LatestOffsetBeforeTimestamp" (some (encLog segs)) [.int ts] globals) =
      latestSpec segs ts (segIdx false).1 (segIdx false).2 := by
  generalize hs : segIdx false = r at *
  obtain ⟨idx, err⟩ := r
  cases err
  · cases idx with
    | zero =>
      obtain ⟨s0, rest, rfl⟩ := List.exists_cons_of_ne_nil hne
      cases hE : s0.isEmpty
      · by_cases hlt : ts < s0.firstWriteTime
        · simp [runG, fn_commitLog_LatestOffsetBeforeTimestamp, prog, gomini, latestSpec, hs, builtin_findSegmentIndexByTimestamp, binInt, hE, hlt]
        · cases hA : s0.ansL <;>
            simp [runG, fn_commitLog_LatestOffsetBeforeTimestamp, prog, gomini, latestSpec, hs, builtin_findSegmentIndexByTimestamp, binInt, hE, hlt, hA]
      · simp [runG, fn_commitLog_LatestOffsetBeforeTimestamp, prog, gomini, latestSpec, hs, builtin_findSegmentIndexByTimestamp, binInt, hE]
    | succ j =>
      have hj : j < segs.length := hidx
      cases hA : segs[j].ansL <;>
        simp [runG, fn_commitLog_LatestOffsetBeforeTimestamp, prog, gomini, latestSpec, hs, builtin_findSegmentIndexByTimestamp, binInt, hj, hA]
  · simp [runG, fn_commitLog_LatestOffsetBeforeTimestamp, prog, gomini, latestSpec, hs, builtin_findSegmentIndexByTimestamp]
  · simp [runG, fn_commitLog_LatestOffsetBeforeTimestamp, prog, gomini, latestSpec, hs, builtin_findSegmentIndexByTimestamp]

/-- the next offset of the last segment ("beyond the end of the log") -/
def lastNext (segs : List SegA) : Option Outcome := (segs[segs.length - 1]?).map fun s => .offset s.nextOffset

/-- `EarliestOffsetAfterTimestamp`, as a decision over what the callees answer -/
def earliestSpec (segs : List SegA) (idx : Nat) (err : ErrK) : Option Outcome :=
  match err with
  | .eof => lastNext segs
  | .failed => some .error
  | .none =>
    match (if idx = 0 then segs[0]? else segs[idx - 1]?) with
    | none => none
    | some seg =>
      match seg.ansE with
      | .found o => some (.offset o)
      | .failed => some .error
      | _ =>
        if idx < segs.length then
          match segs[idx]? with
          | none => none
          | some s2 =>
            match s2.ansE with
            | .found o => some (.offset o)
            | .failed => some .error
            | _ => lastNext segs
        else lastNext segs

theorem go_EarliestOffsetAfterTimestamp (segs : List SegA) (ts : Int) (segIdx : Bool → Nat × ErrK)
    (hne : segs ≠ []) (hidx : (segIdx true).1 ≤ segs.length) :
    view (runG prog (tsExt segIdx) 30 "EarliestOffsetAfterTimestamp" (some (encLog segs)) [.int ts] globals) =
      earliestSpec segs (segIdx true).1 (segIdx true).2 := by
  generalize hs : segIdx true = r at *
  obtain ⟨idx, err⟩ := r
  have h0 : 0 < segs.length := List.length_pos_iff.mpr hne
  have hlast : segs.length - 1 < segs.length ∧ ¬ ((segs.length : Int) - 1 < 0) := by omega
  cases err
  · cases idx with
    | zero =>
      -- the first segment is both the one before and the one found
      cases hA : segs[0].ansE <;>
        simp [runG, fn_commitLog_EarliestOffsetAfterTimestamp, prog, gomini, earliestSpec, lastNext, hs, builtin_findSegmentIndexByTimestamp,
          binInt, h0, hA, hlast]
    | succ j =>
      have hj : j < segs.length ∧ ¬ ((j : Int) + 1 < 0) := by simp at hidx; omega
      cases hA : segs[j].ansE
      case found => simp [runG, fn_commitLog_EarliestOffsetAfterTimestamp, prog, gomini, earliestSpec, hs, builtin_findSegmentIndexByTimestamp, binInt, hj, hA]
      case failed =>
        simp [runG, fn_commitLog_EarliestOffsetAfterTimestamp, prog, gomini, earliestSpec, hs, builtin_findSegmentIndexByTimestamp, binInt, hj, hA]
      -- nothing in the segment before, or its end reached: the segment found, if there is one, is searched next
      all_goals
        by_cases hlt : j + 1 < segs.length
        · have hlt' : (j : Int) + 1 < segs.length := by omega
          cases hA2 : segs[j + 1].ansE <;>
            simp [runG, fn_commitLog_EarliestOffsetAfterTimestamp, prog, gomini, earliestSpec, lastNext, hs, builtin_findSegmentIndexByTimestamp,
              binInt, hj, hA, hlt, hlt', hA2, hlast]
        · have hlt' : ¬ (j : Int) + 1 < segs.length := by omega
          simp [runG, fn_commitLog_EarliestOffsetAfterTimestamp, prog, gomini, earliestSpec, lastNext, hs, builtin_findSegmentIndexByTimestamp,
            binInt, hj, hA, hlt, hlt', hlast]
  · simp [runG, fn_commitLog_EarliestOffsetAfterTimestamp, prog, gomini, earliestSpec, lastNext, hs, builtin_findSegmentIndexByTimestamp,
      binInt, hlast]
  · simp [runG, fn_commitLog_EarliestOffsetAfterTimestamp, prog, gomini, earliestSpec, hs, builtin_findSegmentIndexByTimestamp]

/-! ### the model's look-ups are these decisions -/
open Liftbridge.Log Liftbridge.Subscribe

/-- what the model's segment answers for the timestamp -/
def segA (ts : Int) (s : Seg) : SegA :=
  { nextOffset := s.nextOffset, isEmpty := s.isEmpty, firstWriteTime := s.firstTs,
    ansE := match findEntryByTs s ts with | some r => .found r.offset | none => .notFound,
    ansL := .notFound }

def toOutcome : Res Int → Option Outcome
  | .ok o => some (.offset o)
  | .err _ => some .error
  | .panic => none

theorem lastNext_map (ts : Int) (segs : List Seg) (hne : segs ≠ []) :
    lastNext (segs.map (segA ts)) = some (.offset (lastNextOffset segs)) := by
  have h : segs.length - 1 < segs.length := by
    cases segs with | nil => exact absurd rfl hne | cons a b => simp
  simp [lastNext, lastNextOffset, List.getLast?_eq_getElem?, List.getElem?_eq_getElem h, segA]

/-- the segment both functions look at first, in a mapped list -/
theorem prev_map {α β : Type} (f : α → β) (xs : List α) (idx : Nat) :
    (if idx = 0 then (xs.map f)[0]? else (xs.map f)[idx - 1]?) = (if idx = 0 then xs[0]? else xs[idx - 1]?).map f := by
  split <;> simp

theorem model_earliest (l : CLog) (ts : Int) (hne : l.segs ≠ []) (idx : Nat) (err : Bool)
    (hr : findSegIdxByTs l.segs ts true = (idx, err)) :
    toOutcome (earliestAfterTs l ts) =
      earliestSpec (l.segs.map (segA ts)) idx (if err then .eof else .none) := by
  unfold earliestAfterTs
  simp only [Gen.Subscribe.tsEarliestInclusive, hr]
  cases err
  · simp only [Bool.false_eq_true, ↓reduceIte, earliestSpec, prev_map]
    cases (if idx = 0 then l.segs[0]? else l.segs[idx - 1]?) with
    | none => simp [toOutcome]
    | some s =>
      simp only [Option.map_some, segA]
      cases hf : findEntryByTs s ts with
      | some r => simp [toOutcome]
      | none =>
        by_cases hlt : idx < l.segs.length
        · cases hf2 : findEntryByTs l.segs[idx] ts <;>
            simp [Gen.Subscribe.tsNextSegCmp, Gen.Subscribe.tsNextSegOff, Cmp.evalInt, hf2, hlt, toOutcome, lastNext_map ts l.segs hne, segA]
        · simp [Gen.Subscribe.tsNextSegCmp, Gen.Subscribe.tsNextSegOff, Cmp.evalInt, hlt, toOutcome, lastNext_map ts l.segs hne]
  · simp [earliestSpec, toOutcome, lastNext_map ts l.segs hne]

/-- the model's `findLatestEntryByTimestamp`: the entry before the first one with a later timestamp -/
def latestIdx (s : Seg) (ts : Int) : Nat :=
  goSearch s.recs.length fun i => match s.recs[i]? with
    | some r => Gen.Subscribe.tsLatestCmp.evalInt r.ts ts
    | none => true

def segL (ts : Int) (s : Seg) : SegA :=
  { nextOffset := s.nextOffset, isEmpty := s.isEmpty, firstWriteTime := s.firstTs,
    ansE := .notFound,
    ansL := if latestIdx s ts = 0 then .notFound else
      match s.recs[latestIdx s ts - 1]? with | some r => .found r.offset | none => .failed }

theorem model_latest (l : CLog) (ts : Int) (idx : Nat) (err : Bool)
    (hr : findSegIdxByTs l.segs ts = (idx, err)) :
    toOutcome (latestBeforeTs l ts) =
      latestSpec (l.segs.map (segL ts)) ts idx (if err then .failed else .none) := by
  unfold latestBeforeTs
  simp only [hr]
  cases err
  · simp only [Bool.false_eq_true, ↓reduceIte, latestSpec, prev_map]
    cases (if idx = 0 then l.segs[0]? else l.segs[idx - 1]?) with
    | none => simp [toOutcome]
    | some s =>
      have hle : latestIdx s ts ≤ s.recs.length := Proofs.goSearch_le _ _
      by_cases hc : idx = 0 ∧ (s.isEmpty = true ∨ ts < s.firstTs)
      · simp [Gen.Subscribe.tsLatestEmptyCheck, segL, hc, toOutcome]
      · simp only [Option.map_some, Gen.Subscribe.tsLatestEmptyCheck, Bool.true_and, segL, hc, ↓reduceIte, Gen.Subscribe.tsLatestExact]
        show toOutcome (if latestIdx s ts = 0 then Res.err "timestamp" else
            match s.recs[latestIdx s ts - 1]? with | some r => Res.ok r.offset | none => Res.panic) = _
        by_cases hz : latestIdx s ts = 0
        · simp [hz, toOutcome]
        · have hlt : latestIdx s ts - 1 < s.recs.length := by omega
          simp [hz, toOutcome, List.getElem?_eq_getElem hlt]
  · simp [latestSpec, toOutcome]

/-- non-vacuity: three segments, the search points at the second one, the first has nothing at or after the timestamp, the
second does (offset 7) -> 7; nothing anywhere -> the end of the log (12) -/
example : earliestSpec [⟨5, false, 1, .notFound, .notFound⟩, ⟨9, false, 4, .found 7, .notFound⟩, ⟨12, false, 8, .notFound, .notFound⟩] 1 .none = some (.offset 7) ∧
    earliestSpec [⟨5, false, 1, .notFound, .notFound⟩, ⟨9, false, 4, .eof, .notFound⟩, ⟨12, true, 0, .notFound, .notFound⟩] 1 .none = some (.offset 12) := by
  decide

end Liftbridge.Props.GoTimestamps
