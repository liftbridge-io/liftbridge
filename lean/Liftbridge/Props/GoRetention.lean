/-
The retention model IS the translated Go code.

`Gen/GoRetention.lean` holds server/commitlog/delete_cleaner.go (`deleteCleaner.Clean`,
`applyAgeLimit`, `applyMessagesLimit`, `applyBytesLimit`, `noRetentionLimits`). `go_Clean`: for
EVERY list of segments, limits and clock value, running the translated `Clean` returns exactly
`Retention.clean` of the model — the function C09's theorems are about — and its effects are
exactly: one clock read per age pass over more than one segment, and per pass at most ONE
`deleteSegments` call whose argument is precisely the prefix the model drops in that pass. The loops
of the Go code (a `range` loop with break, two backwards three-clause loops) are handled by loop
lemmas (Proofs/GoRetention); fuel grows with the number of segments because a three-clause loop
consumes fuel per iteration (GoMini), so the statement is for fuel `segs.length + 40`.
`deleteSegments` is assumed to succeed (its failure returns the error unchanged: not modelled here).
-/
import Liftbridge.Proofs.GoRetention
import Liftbridge.Proofs.Retention

namespace Liftbridge.Props.GoRetention
open Liftbridge Liftbridge.GoMini Liftbridge.GoCode Liftbridge.Log Liftbridge.Retention
open Liftbridge.Gen.GoRetention

theorem translation_complete : unsupported = [] := rfl

theorem noLimits_body (n : Nat) (ext : Ext) (lim : Limits) (eff : List (String × List Val)) :
    runBlock (exec prog ext (n + 8)) fn_deleteCleaner_noRetentionLimits.body { env := envOf [("c", encC lim)], eff := eff } =
      .ok (.ret [.bool (decide (lim.bytes = 0 ∧ lim.msgs = 0 ∧ lim.age = 0))], { env := envOf [("c", encC lim)], eff := eff }) := by
  have h : evalE prog ext (runBlock (exec prog ext (n + 7))) (n + 7)
      (.and (.and (.bin "==" (.sel (.sel (.var "c") "Retention") "Bytes") (.int 0)) (.bin "==" (.sel (.sel (.var "c") "Retention") "Messages") (.int 0)))
        (.bin "==" (.sel (.sel (.var "c") "Retention") "Age") (.int 0))) { env := envOf [("c", encC lim)], eff := eff } =
      .ok (.bool (decide (lim.bytes = 0) && decide (lim.msgs = 0) && decide (lim.age = 0)), { env := envOf [("c", encC lim)], eff := eff }) :=
    evalE_and_known (evalE_and_known rfl rfl) rfl
  rw [show fn_deleteCleaner_noRetentionLimits.body = [.ret [_]] from rfl, runBlock_single, exec_ret, evalArgs_cons, h]
  simp [gomini, Bool.decide_and, Bool.and_assoc]

/-- `noRetentionLimits`: all three limits are zero -/
theorem go_noRetentionLimits (lim : Limits) :
    run prog noExt 10 "noRetentionLimits" (some (encC lim)) [] =
      .ok { rets := [.bool (decide (lim.bytes = 0 ∧ lim.msgs = 0 ∧ lim.age = 0))], recv := some (encC lim), eff := [] } := by
  rw [run, runG_method (rn := "c") (env := []) rfl rfl rfl (noLimits_body 2 noExt lim [])]
  rfl

/-- the segment lists between the passes of `Clean` -/
def pass1 (lim : Limits) (ttl : Int) (segs : List Seg) : List Seg := if lim.age > 0 then applyAge ttl segs else segs
def pass2 (lim : Limits) (ttl : Int) (segs : List Seg) : List Seg :=
  if lim.msgs > 0 then applyLimit .gt lim.msgs msgSize (pass1 lim ttl segs) else pass1 lim ttl segs
def pass3 (lim : Limits) (ttl : Int) (segs : List Seg) : List Seg :=
  if lim.bytes > 0 then applyLimit .gt lim.bytes byteSize (pass2 lim ttl segs) else pass2 lim ttl segs
def pass4 (lim : Limits) (ttl : Int) (segs : List Seg) : List Seg :=
  if lim.age > 0 then applyAge ttl (pass3 lim ttl segs) else pass3 lim ttl segs

theorem clean_eq_pass4 (lim : Limits) (ttl : Int) (segs : List Seg) (h : ¬ (lim.bytes = 0 ∧ lim.msgs = 0 ∧ lim.age = 0)) :
    clean lim ttl segs = pass4 lim ttl segs := by
  simp only [clean, pass4, pass3, pass2, pass1, facts, Cmp.evalInt, h, if_false, Bool.true_and, decide_eq_true_eq, gt_iff_lt]

/-- the effect trace of `Clean` -/
def cleanEff (lim : Limits) (ttl : Int) (segs : List Seg) : List (String × List Val) :=
  if segs = [] ∨ (lim.bytes = 0 ∧ lim.msgs = 0 ∧ lim.age = 0) then [] else
    (if lim.age > 0 then ageEff lim.age ttl segs else []) ++
    (if lim.msgs > 0 then limitEff (pass2 lim ttl segs) (pass1 lim ttl segs) else []) ++
    (if lim.bytes > 0 then limitEff (pass3 lim ttl segs) (pass2 lim ttl segs) else []) ++
    (if lim.age > 0 then ageEff lim.age ttl (pass3 lim ttl segs) else [])

theorem pass_lengths (lim : Limits) (ttl : Int) (segs : List Seg) :
    (pass1 lim ttl segs).length ≤ segs.length ∧ (pass2 lim ttl segs).length ≤ segs.length ∧
    (pass3 lim ttl segs).length ≤ segs.length := by
  have a : (pass1 lim ttl segs).length ≤ segs.length := by
    unfold pass1; split
    · rw [applyAge_eq_drop]; simp
    · exact Nat.le_refl _
  have b : (pass2 lim ttl segs).length ≤ segs.length := by
    unfold pass2; split
    · exact Nat.le_trans (applyLimit_length_le _ _ _ _) a
    · exact a
  have c : (pass3 lim ttl segs).length ≤ segs.length := by
    unfold pass3; split
    · exact Nat.le_trans (applyLimit_length_le _ _ _ _) b
    · exact b
  exact ⟨a, b, c⟩

theorem lk_noLimits : evalE.lookup' "noRetentionLimits" prog = some fn_deleteCleaner_noRetentionLimits := by simp [prog, gomini]
theorem sig_noLimits : fn_deleteCleaner_noRetentionLimits.recv = some "c" ∧ fn_deleteCleaner_noRetentionLimits.params = [] := ⟨rfl, rfl⟩

/-- **`deleteCleaner.Clean` = the model's `Retention.clean`**, for every segment list, every combination of
limits and every clock value; the receiver is unchanged; the effects are exactly `cleanEff`. -/
theorem go_Clean (lim : Limits) (ttl : Int) (segs : List Seg) :
    run prog (retExt ttl) (segs.length + 40) "Clean" (some (encC lim)) [encSegs segs] =
      .ok { rets := [encSegs (clean lim ttl segs), .nil], recv := some (encC lim), eff := cleanEff lim ttl segs } := by
  by_cases hnone : lim.bytes = 0 ∧ lim.msgs = 0 ∧ lim.age = 0
  · -- no limit is set: the list comes back as it is, by computation
    obtain ⟨b, m, a⟩ := lim
    obtain ⟨rfl, rfl, rfl⟩ := hnone
    cases segs <;> rfl
  · by_cases he : segs = []
    · subst he
      have hc : clean lim ttl [] = [] := by
        rw [clean_eq_pass4 lim ttl [] hnone]; simp [pass4, pass3, pass2, pass1, applyAge, applyLimit]
      rw [hc, show cleanEff lim ttl [] = [] from by simp [cleanEff]]
      rfl
    · obtain ⟨l1, l2, _⟩ := pass_lengths lim ttl segs
      -- the two tests at the head of `Clean` fail
      obtain ⟨st0, h0, c0, g0, e0⟩ : ∃ st0, runBlock (exec prog (retExt ttl) (segs.length + 40)) (fn_deleteCleaner_Clean.body.take 4)
          (entry lim segs []) = .ok (.next, st0) ∧ st0.env "c" = some (encC lim) ∧ st0.env "segments" = some (encSegs segs) ∧ st0.eff = [] := by
        refine ⟨((entry lim segs []).set "err" .nil).set "c" (encC lim), ?_, rfl, rfl, rfl⟩
        have hb := noLimits_body (segs.length + 31) (retExt ttl) lim []
        simp only [encC] at hb
        simp [fn_deleteCleaner_Clean, entry, gomini, encSegs, encC, binInt, he, lk_noLimits, sig_noLimits, hb, hnone]
        rfl
      -- the four passes
      obtain ⟨st1, a1, c1, g1, e1⟩ := pass_stmt .age (segs.length + 40) lim ttl segs (by simp [Pass.fuel]) st0 c0 g0
      obtain ⟨st2, a2, c2, g2, e2⟩ := pass_stmt (.lim .msgs) (segs.length + 40) lim ttl (pass1 lim ttl segs) (by simp only [Pass.fuel]; omega) st1 c1 g1
      obtain ⟨st3, a3, c3, g3, e3⟩ := pass_stmt (.lim .bytes) (segs.length + 40) lim ttl (pass2 lim ttl segs) (by simp only [Pass.fuel]; omega) st2 c2 g2
      obtain ⟨st4, a4, c4, g4, e4⟩ := pass_stmt .age (segs.length + 40) lim ttl (pass3 lim ttl segs) (by simp [Pass.fuel]) st3 c3 g3
      have hrun : runBlock (exec prog (retExt ttl) (segs.length + 40)) fn_deleteCleaner_Clean.body (entry lim segs []) =
          .ok (.ret [encSegs (pass4 lim ttl segs), .nil], st4) := by
        rw [runBlock_take 4 h0, show fn_deleteCleaner_Clean.body.drop 4 = [Pass.stmt .age, Pass.stmt (.lim .msgs), Pass.stmt (.lim .bytes),
          Pass.stmt .age, .ret [.var "segments", .nil]] from rfl, runBlock_cons_ok _ a1, runBlock_cons_ok _ a2, runBlock_cons_ok _ a3,
          runBlock_cons_ok _ a4, ← St.Binds.setAll (st := st4) (bs := [("segments", _)]) ⟨g4, trivial⟩]
        rfl
      rw [run, runG_method (rn := "c") (env := [("segments", encSegs segs)]) rfl rfl rfl hrun, c4, e4, e3, e2, e1, e0,
        clean_eq_pass4 lim ttl segs hnone]
      simp only [cleanEff, he, hnone, or_self, if_false, List.nil_append]
      by_cases hm : lim.msgs > 0 <;> by_cases hb : lim.bytes > 0 <;> simp [Pass.on, Pass.eff, Lim.limit, Lim.size, pass2, pass3, hm, hb]

/-- what an age pass hands to `deleteSegments` is exactly what the pass drops: `dropped ++ kept = input` -/
theorem age_deletes_what_it_drops (ttl : Int) (segs : List Seg) :
    segs.take (ageCnt ttl segs) ++ applyAge ttl segs = segs := by
  rw [applyAge_eq_drop]; exact List.take_append_drop _ _

/-- the same for a count / size pass (the argument of `deleteSegments` is this prefix, newest first) -/
theorem limit_deletes_what_it_drops (limit : Int) (size : Seg → Int) (segs : List Seg) :
    segs.take (segs.length - (applyLimit .gt limit size segs).length) ++ applyLimit .gt limit size segs = segs := by
  obtain ⟨pre, h, _⟩ := Liftbridge.Proofs.Retention.applyLimit_spec limit size segs
  have hl : segs.length - (applyLimit .gt limit size segs).length = pre.length := by
    have := congrArg List.length h
    simp at this; omega
  rw [hl]
  have ht : segs.take pre.length = pre := by
    rw [h]; simp
  rw [ht]; exact h.symm

/-! ### non-vacuity: three segments, the oldest older than the TTL, a count limit that keeps two -/
def p0 : Payload := { key := none, val := some [1], hdrs := [] }
def sA : Seg := { base := 0, recs := [{ offset := 0, ts := 10, epoch := 1, body := p0 }, { offset := 1, ts := 11, epoch := 1, body := p0 }] }
def sB : Seg := { base := 2, recs := [{ offset := 2, ts := 50, epoch := 1, body := p0 }] }
def sC : Seg := { base := 3, recs := [{ offset := 3, ts := 60, epoch := 1, body := p0 }] }
example : clean { bytes := 0, msgs := 2, age := 5 } 20 [sA, sB, sC] = [sB, sC] := by decide
example : cleanEff { bytes := 0, msgs := 2, age := 5 } 20 [sA, sB, sC] =
    [("computeTTL", [.int 5]), ("deleteSegments", [encSegs [sA]]), ("computeTTL", [.int 5])] := by
  simp [cleanEff, ageEff, ageCnt, limitEff, pass1, pass2, pass3, applyAge, applyLimit, keepBack, facts, Cmp.evalInt, sA, sB, sC,
    Seg.lastTs, msgSize, Seg.count, encSegs]
example : clean { bytes := 0, msgs := 1, age := 0 } 0 [sA, sB, sC] = [sC] := by decide

end Liftbridge.Props.GoRetention
