/-
C08 / C10 / C11 at the level of the function bodies: the reverse index scanner (server/commitlog/index.go) that reverse
subscriptions and the cursor look-up walk a segment's index with - `newReverseIndexScanner`, `newReverseIndexScannerFromEnd`,
`reverseIndexScanner.Scan` - translated from the code. `Gen/GoRevScan.lean` is regenerated on every run. Reading an index
slot fills a record through a pointer, which the embedding does not model: the read is an EFFECT naming the slot, and the
theorems are about WHICH slots are read, in which order, and when the scan ends.

`go_newReverseIndexScanner`: the scanner starts at exactly the slot it is given - also at -1, "no entry at or before the
start offset in this segment", which must end the scan at once (the seeded change C08-reverse-scanner-clamps-start-slot turns -1
into 0). `go_fromEnd`: the last slot, or -1 for an index without entries. `go_Scan`: a slot below 0 ends the scan (EOF) without
any read; otherwise exactly that slot is read and the scanner moves one slot down; a failing read is returned and the scanner
stays. `scan_reads`: iterating that step (`scanAll`, the step function `go_Scan` establishes) from slot k visits k, k-1, ..., 0, each once.
-/
import Liftbridge.Proofs.GoCodeBase
import Liftbridge.Gen.GoRevScan

namespace Liftbridge.Props.GoRevScan
open Liftbridge Liftbridge.GoMini Liftbridge.GoCode
open Liftbridge.Gen.GoRevScan


theorem translation_complete : unsupported = [] := rfl

def idxV (entries : Int) : Val := .struct [("CountEntries", .int entries)]
def scannerV (entries slot : Int) : Val := .struct [("idx", idxV entries), ("entry", .struct []), ("offset", .int slot)]

def rets : R Out → Option (List Val)
  | .ok o => some o.rets
  | _ => none

theorem go_newReverseIndexScanner (entries start : Int) :
    rets (runG prog noExt 30 "newReverseIndexScanner" none [idxV entries, .int start] []) = some [scannerV entries start] := by
  rfl

theorem go_fromEnd (entries : Int) :
    rets (runG prog noExt 30 "newReverseIndexScannerFromEnd" none [idxV entries] []) =
      some [scannerV entries (if entries - 1 < 0 then -1 else entries - 1)] := by
  by_cases h : entries - 1 < 0 <;>
    simp [runG, fn_newReverseIndexScannerFromEnd, prog, gomini, rets, scannerV, idxV, binInt, h]

/-- reading a slot succeeds or fails -/
def readExt (ok : Bool) : Ext := fun f _ _ =>
  if f = "ReadEntryAtLogOffset" then (if ok then some .nil else some (.str "read error")) else none

/-- (is the result EOF / an error / an entry, the slots read, the scanner's slot afterwards) -/
def scanView : R Out → Option (Val × List Val × Option Val)
  | .ok o => some ((o.rets.getD 1 .nil), (o.eff.filter fun e => e.1 = "ReadEntryAtLogOffset").map (fun e => (e.2.getD 1 .nil)),
      match o.recv with | some (.struct fs) => lookup "offset" fs | _ => none)
  | _ => none

theorem go_Scan (entries slot : Int) (ok : Bool) :
    scanView (runG prog (readExt ok) 30 "Scan" (some (scannerV entries slot)) [] [("io.EOF", .str "io.EOF")]) =
      some (if slot < 0 then (.str "io.EOF", [], some (.int slot))
            else if ok then (.nil, [.int slot], some (.int (slot - 1)))
            else (.str "read error", [.int slot], some (.int slot))) := by
  by_cases h : slot < 0
  · simp [runG, fn_reverseIndexScanner_Scan, prog, gomini, scanView, scannerV, binInt, h]
  · cases ok <;>
      simp [runG, fn_reverseIndexScanner_Scan, prog, gomini, scanView, scannerV, idxV, binInt, h, readExt]

/-- the slots a scanner started at slot `k` reads before it reports EOF: k, k-1, ..., 0 -/
def slotsFrom : Nat → List Int
  | 0 => [0]
  | k + 1 => ((k : Int) + 1) :: slotsFrom k

/-- iterate `Scan` (every read succeeding) until EOF, as the specification of the scanner's steps given by `go_Scan` -/
def scanAll : Nat → Int → List Int
  | 0, _ => []
  | fuel + 1, slot => if slot < 0 then [] else slot :: scanAll fuel (slot - 1)

theorem scan_reads (k : Nat) : scanAll (k + 2) (k : Int) = slotsFrom k := by
  induction k with
  | zero => simp [scanAll, slotsFrom]
  | succ k ih =>
    have h : ¬ (((k + 1 : Nat) : Int) < 0) := by omega
    rw [scanAll]
    simp only [h, ↓reduceIte, slotsFrom]
    have : (((k + 1 : Nat) : Int) - 1) = (k : Int) := by omega
    rw [this, ih]
    simp

end Liftbridge.Props.GoRevScan
