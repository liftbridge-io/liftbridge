/-
C17 — Encrypted streams never store plaintext and always return it.

What is proved here is the FRAMING of server/encryption/localkey_handler.go (`Seal`, `Read`,
`decryptData`) around cryptographic primitives that are parameters (`Seal.Crypto`). Every
hypothesis about the primitives is an explicit argument of the theorem that uses it
(structures `Sound` and `Authentic` below); there is no axiom.

NOT proved (and not provable in this setting), stated plainly:
  * Confidentiality — "the stored bytes never contain the published value in clear" — is a
    property of AES-GCM (and of the randomness of key and nonce), not of the framing. It is
    covered only EMPIRICALLY by the harness (stored form of every generated value of >= 8
    bytes does not contain the value; raw segment bytes of an encrypted stream).
  * Tamper evidence and key separation of the real AES-GCM / RFC 5649 key wrap are
    computational, probabilistic facts. `Authentic` is their idealisation ("everything that
    was not produced honestly is rejected"); the tamper theorems are RELATIVE to it. The
    harness checks the conclusion on the real primitives for every single-byte change, every
    truncation and a different master key.
  * There is no associated data: a stored value is not bound to its stream or offset, so
    replacing one stored value by ANOTHER honestly sealed one is accepted (this is visible in
    `tamper_err`: only inputs outside the produced set are rejected).

`read` is the model of the REPAIRED `Read` (fixes/C17-read-bounds.diff; its three length checks
are regenerated as `Gen.Seal.guard*` and reported lost by the extractor on a tree without them).
`readUnchecked` is `Read` before the repair; the `*_prefix_*` statements document its defect.
-/
import Liftbridge.Proofs.Seal

namespace Liftbridge.Props.C17
open Liftbridge Liftbridge.Seal

/-- Functional correctness of the primitives (recorded hypotheses, not axioms). -/
structure Sound (c : Crypto) : Prop where
  /-- KWP: unwrapping an honestly wrapped key returns the key. -/
  unwrap_wrap : ∀ k w, c.wrap k = some w → c.unwrap w = some k
  /-- AES-GCM: opening an honest sealing under the same key and nonce returns the plaintext. -/
  open_seal : ∀ k n p, c.keyOk k = true → n.length = c.nonceSize →
    c.aeadOpen k n (c.aeadSeal k n p) = some p
  /-- The wrapped key fits the one-byte length field. -/
  wrap_short : ∀ k w, c.wrap k = some w → w.length < 256

/-- Idealised authenticity, relative to what has been produced under the keys: `w` is the only
wrapped key ever produced under the master key (it wraps `dek`), `Produced n x` says that
ciphertext `x` was produced under `dek` with nonce `n`. Everything else is rejected. This is
the idealisation of INT-CTXT for AES-GCM and of the integrity check of RFC 5649; it is a
HYPOTHESIS of the tamper theorems. -/
structure Authentic (c : Crypto) (w dek : Bytes) (Produced : Bytes → Bytes → Prop) : Prop where
  kwp : ∀ w' k, c.unwrap w' = some k → w' = w ∧ k = dek
  aead : ∀ n x p, c.aeadOpen dek n x = some p → Produced n x

/-- When `Seal` succeeds, the stored form is exactly key-size byte, wrapped key, nonce,
AES-GCM output — for every value including the empty one. -/
theorem seal_shape (c : Crypto) (dek nonce p stored : Bytes)
    (h : sealData c dek nonce p = .ok stored) :
    ∃ w, c.wrap dek = some w ∧ stored = frame w (nonce ++ c.aeadSeal dek nonce p) :=
  (sealData_eq_ok.1 h).2

/-- `Seal` succeeds whenever the data key is a valid AES key and can be wrapped. -/
theorem seal_ok (c : Crypto) (dek nonce p w : Bytes) (hk : c.keyOk dek = true)
    (hw : c.wrap dek = some w) :
    sealData c dek nonce p = .ok (frame w (nonce ++ c.aeadSeal dek nonce p)) :=
  sealData_eq_ok.2 ⟨hk, w, hw, rfl⟩

/-- The round trip for either variant of `Read`. -/
theorem readWith_seal (chk : Bool) (c : Crypto) (hs : Sound c) (dek nonce p stored : Bytes)
    (hn : nonce.length = c.nonceSize) (h : sealData c dek nonce p = .ok stored) :
    readWith chk c stored = .ok p := by
  obtain ⟨hk, w, hw, rfl⟩ := sealData_eq_ok.1 h
  exact readWith_eq_ok.2 ⟨w, dek, nonce, _, hs.wrap_short _ _ hw, hs.unwrap_wrap _ _ hw, hk, hn,
    hs.open_seal _ _ _ hk hn, rfl⟩

/-- Every subscriber receives exactly the value that was published: whatever `Seal` stored,
`Read` returns the original value — for EVERY value `p` (empty, short, large, arbitrary
bytes), every data key and every nonce of the cipher's nonce size. -/
theorem read_seal (c : Crypto) (hs : Sound c) (dek nonce p stored : Bytes)
    (hn : nonce.length = c.nonceSize) (h : sealData c dek nonce p = .ok stored) :
    read c stored = .ok p :=
  readWith_seal true c hs dek nonce p stored hn h

/-- The same round trip for `Read` before the repair: the defect never affected honest data. -/
theorem readUnchecked_seal (c : Crypto) (hs : Sound c) (dek nonce p stored : Bytes)
    (hn : nonce.length = c.nonceSize) (h : sealData c dek nonce p = .ok stored) :
    readUnchecked c stored = .ok p :=
  readWith_seal false c hs dek nonce p stored hn h

/-- The repaired `Read` never panics: for EVERY byte string and whatever the primitives do,
the outcome is a value or an error. -/
theorem read_total (c : Crypto) (b : Bytes) : read c b ≠ .panic :=
  fun h => Bool.noConfusion (readWith_eq_panic.1 h).1

/-- Totality as stated, for `Read` BEFORE the repair. False: see `read_total_prefix_false`. -/
def read_total_prefix_asStated : Prop := ∀ (c : Crypto) (b : Bytes), readUnchecked c b ≠ .panic

/-- A `Crypto` whose unwrap accepts everything (used only to exhibit the third panic class,
which needs an unwrap that succeeds) with a 12-byte nonce as AES-GCM. -/
def permissive : Crypto where
  wrap := fun k => some k
  unwrap := fun w => some w
  keyOk := fun _ => true
  nonceSize := 12
  aeadSeal := fun _ _ p => p
  aeadOpen := fun _ _ x => some x

/-- Exactly when `Read` before the repair panics: the stored value is empty; or the key-size
byte points past the end; or the wrapped key unwraps to a valid AES key and fewer bytes than a
nonce follow it. -/
theorem readUnchecked_panic_iff (c : Crypto) (b : Bytes) :
    readUnchecked c b = .panic ↔
      b = [] ∨ ∃ k0 t, b = k0 :: t ∧
        (t.length < k0.toNat ∨
          ∃ dek, c.unwrap (t.take k0.toNat) = some dek ∧ c.keyOk dek = true ∧
            t.length - k0.toNat < c.nonceSize) := by
  rw [readUnchecked, readWith_eq_panic]
  exact and_iff_right rfl

/-- The full-strength totality statement is false for `Read` before the repair (three
witnesses, one per unchecked index/slice; each is replayed on the real code by the harness,
corpus/C17/read-panic.ops). -/
theorem read_total_prefix_false : ¬ read_total_prefix_asStated := by
  intro h
  exact h permissive [] (by decide)

/-- Pre-fix witness 1: the empty stored value (`encryptedData[0]`). -/
theorem read_prefix_defect_empty (c : Crypto) : readUnchecked c [] = .panic := by
  rfl

/-- Pre-fix witness 2: a key-size byte pointing past the end (`encryptedData[1:keyEndPos]`);
no primitive is even called. E.g. the plaintext "hi" read back as if it were sealed. -/
theorem read_prefix_defect_keysize (c : Crypto) : readUnchecked c [104, 105] = .panic := by
  rw [readUnchecked_panic_iff]
  exact Or.inr ⟨104, [105], rfl, Or.inl (by decide)⟩

/-- Pre-fix witness 3: a valid wrapped key followed by fewer bytes than the nonce
(`encryptedData[nonceSize:]` in `decryptData`) — e.g. an honest stored value cut short. -/
theorem read_prefix_defect_nonce : readUnchecked permissive [2, 7, 7, 1, 2, 3] = .panic := by decide

/-- What is true of `Read` before the repair: it does not panic on inputs that are at least as
long as their key-size byte announces and that leave a nonce after a key that unwraps. -/
theorem read_total_prefix_partial (c : Crypto) (k0 : UInt8) (t : Bytes)
    (hkey : k0.toNat ≤ t.length)
    (hnonce : ∀ dek, c.unwrap (t.take k0.toNat) = some dek → c.keyOk dek = true →
      c.nonceSize ≤ t.length - k0.toNat) :
    readUnchecked c (k0 :: t) ≠ .panic := by
  intro h
  rcases (readUnchecked_panic_iff c _).1 h with h | ⟨k0', t', heq, h⟩
  · simp at h
  · simp only [List.cons.injEq] at heq
    obtain ⟨rfl, rfl⟩ := heq
    rcases h with h | ⟨dek, hu, hk, hlen⟩
    · omega
    · have := hnonce dek hu hk
      omega

/-- The repair is conservative: wherever `Read` did not panic before, the repaired `Read`
returns exactly the same value or error. -/
theorem read_conservative (c : Crypto) (b : Bytes) (h : readUnchecked c b ≠ .panic) :
    read c b = readUnchecked c b := by
  refine Res.bind_conservative (splitKey_conservative b) (fun wr hne => ?_) h
  cases hu : c.unwrap wr.1 with
  | none => simp only [hu]
  | some dek =>
    simp only [hu] at hne ⊢
    exact decryptDataWith_conservative c dek _ hne

/-! ### Tampering and wrong key (relative to `Authentic`) -/

/-- Whatever `Read` accepts is a well-formed stored value whose parts the primitives accept:
a wrapped key (< 256 bytes) that unwraps to a valid AES key, a nonce of the cipher's size and a
ciphertext that opens to exactly the returned value. -/
theorem read_ok_exact (c : Crypto) (b p : Bytes) (h : read c b = .ok p) :
    ∃ w dek nonce x, w.length < 256 ∧ c.unwrap w = some dek ∧ c.keyOk dek = true ∧
      nonce.length = c.nonceSize ∧ c.aeadOpen dek nonce x = some p ∧ b = frame w (nonce ++ x) :=
  readWith_eq_ok.1 h

/-- Tamper evidence of the framing, relative to the authenticity of the primitives: if unwrap
and open reject everything that was not produced, then every byte string that is not
`frame w (nonce ++ x)` for a produced `(nonce, x)` yields an ERROR — not data, not a panic. -/
theorem tamper_err (c : Crypto) (w dek : Bytes) (Produced : Bytes → Bytes → Prop)
    (ha : Authentic c w dek Produced) (b : Bytes)
    (hb : ∀ n x, Produced n x → b ≠ frame w (n ++ x)) :
    ∃ e, read c b = .err e := by
  cases h : read c b with
  | err e => exact ⟨e, rfl⟩
  | panic => exact absurd h (read_total c b)
  | ok p =>
    obtain ⟨w', dek', n, x, _, hu, _, _, ho, hbf⟩ := read_ok_exact c b p h
    obtain ⟨rfl, rfl⟩ := ha.kwp _ _ hu
    exact absurd hbf (hb n x (ha.aead n x p ho))

/-- With one stored value produced under the keys, ANY other byte string yields an error. -/
theorem tamper_any_change (c : Crypto) (w dek nonce x : Bytes)
    (ha : Authentic c w dek (fun n' x' => n' = nonce ∧ x' = x)) (b : Bytes)
    (hb : b ≠ frame w (nonce ++ x)) : ∃ e, read c b = .err e := by
  refine tamper_err c w dek _ ha b ?_
  rintro n' x' ⟨rfl, rfl⟩
  exact hb

/-- Every single-byte corruption of the stored form yields an error: position `i` (any
position: key-size byte, wrapped key, nonce, ciphertext, tag) set to any different value. -/
theorem tamper_single_byte (c : Crypto) (w dek nonce x : Bytes)
    (ha : Authentic c w dek (fun n' x' => n' = nonce ∧ x' = x))
    (i : Nat) (v : UInt8) (hi : i < (frame w (nonce ++ x)).length)
    (hv : (frame w (nonce ++ x))[i] ≠ v) :
    ∃ e, read c ((frame w (nonce ++ x)).set i v) = .err e := by
  refine tamper_any_change c w dek nonce x ha _ ?_
  intro heq
  have : ((frame w (nonce ++ x)).set i v)[i]'(by simpa using hi) = v := by simp
  rw [List.getElem_of_eq heq] at this
  exact hv this

/-- Every proper truncation of the stored form yields an error (including the empty one). -/
theorem tamper_truncate (c : Crypto) (w dek nonce x : Bytes)
    (ha : Authentic c w dek (fun n' x' => n' = nonce ∧ x' = x))
    (n : Nat) (hn : n < (frame w (nonce ++ x)).length) :
    ∃ e, read c ((frame w (nonce ++ x)).take n) = .err e := by
  refine tamper_any_change c w dek nonce x ha _ ?_
  intro heq
  have := congrArg List.length heq
  simp only [List.length_take] at this
  omega

/-- A value sealed under one master key (`c₁`) and read under another (`c₂`, same AES-GCM,
different key wrap) yields an error, provided the second master key never produced the
wrapped key in question (authenticity of the key wrap under `c₂`). -/
theorem wrong_key_err (c₁ c₂ : Crypto) (hs : Sound c₁) (dek nonce p stored : Bytes)
    (h : sealData c₁ dek nonce p = .ok stored)
    (w₂ dek₂ : Bytes) (P₂ : Bytes → Bytes → Prop) (ha : Authentic c₂ w₂ dek₂ P₂)
    (hne : c₁.wrap dek ≠ some w₂) :
    ∃ e, read c₂ stored = .err e := by
  obtain ⟨_, w, hw, hst⟩ := sealData_eq_ok.1 h
  subst hst
  refine ⟨"unwrap", ?_⟩
  unfold Seal.read readWith
  rw [splitKey_eq_ok.2 ⟨hs.wrap_short _ _ hw, rfl⟩]
  simp only [Res.bind_ok]
  cases hu : c₂.unwrap w with
  | none => rfl
  | some k =>
    obtain ⟨rfl, _⟩ := ha.kwp _ _ hu
    exact absurd hw hne

/-- `byte(keyLength)`: the key-size byte is the wrapped key's length modulo 256. -/
theorem frame_key_byte (w ct : Bytes) :
    (frame w ct).head? = some (UInt8.ofNat (w.length % 256)) := by
  simp only [frame, List.head?_cons, Option.some.injEq]
  apply UInt8.toNat_inj.1
  simp [UInt8.toNat_ofNat']

/-- The framing round-trips for every wrapped key shorter than 256 bytes … -/
theorem split_frame (w ct : Bytes) (h : w.length < 256) : splitKey true (frame w ct) = .ok (w, ct) := by
  simp [splitKey_frame, Nat.mod_eq_of_lt h]

/-- … and fails at 256: the key-size byte wraps around to 0, `Read` takes an empty wrapped key
and hands the real one to the cipher as if it were nonce and ciphertext. -/
theorem split_frame_256 (w ct : Bytes) (h : w.length = 256) :
    splitKey true (frame w ct) = .ok ([], w ++ ct) := by
  simp [splitKey_frame, h]

/-- Not reachable in the code: the data key has `AES256KeyLength` = 32 bytes (regenerated) and
its RFC 5649 wrapping has 40 (formula of tink's `wrappingSize`, compared with the real
`wrapDEK` by the harness on every run). -/
theorem wrapped_dek_fits : kwpWrappedLen Gen.Seal.dekLen = 40 ∧ kwpWrappedLen Gen.Seal.dekLen < 256 := by
  decide

/-- Non-vacuity of `Sound`: a toy instance in which "wrap" prepends a marker and "seal" appends one. -/
def toy : Crypto where
  wrap := fun k => if k.length ≤ 32 then some (0xA6 :: k) else none
  unwrap := fun w => if w.head? = some 0xA6 ∧ w.length ≤ 33 then some w.tail else none
  keyOk := fun k => k.length == 2
  nonceSize := 2
  aeadSeal := fun _ _ p => p ++ [0x55]
  aeadOpen := fun _ _ x => if x.getLast? = some 0x55 then some x.dropLast else none

theorem toy_wrap {k w : Bytes} : toy.wrap k = some w ↔ k.length ≤ 32 ∧ 0xA6 :: k = w := by
  simp [toy]

example : Sound toy where
  unwrap_wrap := by
    intro k w h
    obtain ⟨hk, rfl⟩ := toy_wrap.1 h
    simp [toy]
    omega
  open_seal := by
    intro k n p _ _
    simp [toy]
  wrap_short := by
    intro k w h
    obtain ⟨hk, rfl⟩ := toy_wrap.1 h
    simp
    omega

/-- Round trip on the toy instance, empty value included. -/
example : sealData toy [1, 2] [8, 9] [] = .ok [3, 0xA6, 1, 2, 8, 9, 0x55] := by decide
example : read toy [3, 0xA6, 1, 2, 8, 9, 0x55] = .ok [] := by decide
example : read toy [3, 0xA6, 1, 2, 8, 9, 42, 43, 0x55] = .ok [42, 43] := by decide

/-- A table-driven instance that accepts exactly one wrapped key and one ciphertext: the
world in which exactly one value has been sealed. -/
def single : Crypto where
  wrap := fun k => if k = [1, 2] then some [0xA6, 1, 2] else none
  unwrap := fun w => if w = [0xA6, 1, 2] then some [1, 2] else none
  keyOk := fun k => k.length == 2
  nonceSize := 2
  aeadSeal := fun _ _ _ => [42, 0x55]
  aeadOpen := fun k n x => if k = [1, 2] ∧ n = [8, 9] ∧ x = [42, 0x55] then some [42] else none

example : Authentic single [0xA6, 1, 2] [1, 2] (fun n x => n = [8, 9] ∧ x = [42, 0x55]) where
  kwp := by
    intro w' k h
    simp only [single] at h
    split at h
    · injection h with h
      exact ⟨by assumption, h.symm⟩
    · simp at h
  aead := by
    intro n x p h
    simp only [single] at h
    split at h
    · rename_i hc
      exact ⟨hc.2.1, hc.2.2⟩
    · simp at h

/-- The honest value is accepted by the table-driven instance … -/
example : read single (frame [0xA6, 1, 2] ([8, 9] ++ [42, 0x55])) = .ok [42] := by decide
/-- … and its corruptions are errors, as `tamper_single_byte` / `tamper_truncate` say. -/
example : read single [3, 0xA6, 1, 2, 8, 9, 43, 0x55] = .err "open" := by decide
example : read single [4, 0xA6, 1, 2, 8, 9, 42, 0x55] = .err "unwrap" := by decide
example : read single [200, 0xA6, 1, 2, 8, 9, 42, 0x55] = .err "keysize" := by decide
example : read single [3, 0xA6, 1, 2, 8] = .err "nonce" := by decide
example : read single [] = .err "empty" := by decide

/-- The former crash inputs: before the repair a panic, now an error. -/
example : readUnchecked single [] = .panic := by decide
example : readUnchecked single [200, 0xA6, 1, 2, 8, 9, 42, 0x55] = .panic := by decide
example : readUnchecked single [3, 0xA6, 1, 2, 8] = .panic := by decide

/-- The failure at 256 on a concrete instance: a wrap that produces 256 bytes makes `Seal`
succeed and `Read` of its output fail. -/
def wideKey : Bytes := List.replicate 256 7
def wide : Crypto :=
  { toy with wrap := fun _ => some wideKey, unwrap := fun w => some w }
example : ∃ stored, sealData wide [1, 2] [8, 9] [42] = .ok stored ∧ read wide stored ≠ .ok [42] := by
  have hl : wideKey.length = 256 := List.length_replicate ..
  refine ⟨frame wideKey ([8, 9] ++ [42, 0x55]), by simp [sealData, encryptData, wide, toy], ?_⟩
  unfold Seal.read readWith
  rw [split_frame_256 _ _ hl]
  simp [wide, toy, decryptDataWith]

end Liftbridge.Props.C17
