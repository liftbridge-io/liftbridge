/-
The leader-epoch bookkeeping of an append in the model IS the translated Go code.

`commitLog.append` (server/commitlog/commitlog.go) is translated into the same program as the epoch-cache
functions (Gen/GoEpochCache.lean), so that its calls of `leaderEpochCache.LastLeaderEpoch` and `Assign` run the
translated bodies of those functions. `go_append`: for EVERY epoch cache and EVERY entry list, the translated body
returns exactly the offsets of the entries, and the epoch cache it leaves behind is exactly the model's
`assignEpochs c c.latestEpoch entries` — the `epochs` component of `CLog.write`, which every theorem about appends
goes through. `segment.WriteMessageSet` is an external call assumed to succeed (its failure returns the error; the
cache has then already been advanced, which is what the comment in the Go code says and C05's model covers).
-/
import Liftbridge.Proofs.GoEpochCache

namespace Liftbridge.Props.GoAppend
open Liftbridge Liftbridge.GoMini Liftbridge.Log Liftbridge.Log.CLog Liftbridge.GoCode
open Liftbridge.Gen.GoEpochCache Liftbridge.Props.GoEpochCache


/-- `*entry`: what `append` reads -/
def encEntry (r : Rec) : Val := .struct [("Offset", .int r.offset), ("LeaderEpoch", .int r.epoch)]

@[simp] theorem lk_append : evalE.lookup' "append" prog = some fn_commitLog_append := by simp [prog, gomini]
@[simp] theorem lk_wms : evalE.lookup' "WriteMessageSet" prog = none := by simp [prog, gomini]
@[simp] theorem sig_assign : fn_leaderEpochCache_assign.recv = some "l" ∧ fn_leaderEpochCache_assign.params = ["epoch", "offset"] := ⟨rfl, rfl⟩

theorem facts : Gen.Log.appendEpochCmp = .gt ∧ Gen.Log.assignEpochCmp = .gt ∧ Gen.Log.assignOffsetCmp = .ge := by decide

def loopBody : List Stmt :=
  match fn_commitLog_append.body with
  | [_, _, .forRange _ _ _ b, _, _, _, _] => b
  | _ => []

theorem set_at_length (P : List Val) (x v : Val) (R : List Val) : (P ++ x :: R).set P.length v = P ++ v :: R :=
  GoCode.set_at_length P x v R

/-- one iteration: `Assign` runs iff the entry's epoch is above the last one seen; the offset goes into slot `i`. The receiver
is any record whose `leaderEpochCache` field is the cache (`Assign` is called on that field: the callee's receiver is written
back into the field only when it changed). -/
theorem append_step (n : Nat) (r : Rec) (c : Epochs) (last : Nat) (P Q : List Val) (st : St) (fs : List (String × Val))
    (hL : st.env "l" = some (.struct fs)) (hc : lookup "leaderEpochCache" fs = some (encCache c))
    (hl : st.env "lastLeaderEpoch" = some (.int last)) (ho : st.env "offsets" = some (.list (P ++ .nil :: Q))) :
    ∃ st' fs', runBlock (exec prog noExt (n + 24)) loopBody ((st.set "i" (.int P.length)).set "entry" (encEntry r)) = .ok (.next, st') ∧
      st'.env "l" = some (.struct fs') ∧
      lookup "leaderEpochCache" fs' = some (encCache (if last < r.epoch then c.assign r.epoch r.offset else c)) ∧
      st'.env "lastLeaderEpoch" = some (.int ((if last < r.epoch then r.epoch else last : Nat) : Int)) ∧
      st'.env "offsets" = some (.list (P ++ .int r.offset :: Q)) ∧
      ∀ y, y = "segment" ∨ y = "ms" ∨ y = "entries" → st'.env y = st.env y := by
  have hlt : P.length < P.length + (Q.length + 1) := by omega
  by_cases hgt : last < r.epoch
  · have hgt' : (last : Int) < r.epoch := by omega
    obtain ⟨sa, ha, hal⟩ := Assign_body (n + 5) c r.epoch r.offset st.eff
    simp only [encCache] at ha hal
    by_cases hb : Val.beq (encCache c) (encCache (c.assign r.epoch r.offset)) = true
    · have heq := Val.eq_of_beq _ _ hb
      simp only [encCache] at hb
      simp [loopBody, fn_commitLog_append, gomini, encEntry, binInt, hl, hgt, hgt', hL, hc, encCache, ha, hal, ho, hlt, hb]
      simpa [encCache] using heq
    · simp only [encCache] at hb
      simp [loopBody, fn_commitLog_append, gomini, encEntry, binInt, hl, hgt, hgt', hL, hc, encCache, ha, hal, ho, hlt, hb]
  · have hgt' : ¬ (last : Int) < r.epoch := by omega
    simp [loopBody, fn_commitLog_append, gomini, encEntry, binInt, hl, hgt, hgt', hL, hc, ho, hlt]

/-- the loop of `append` over the entries: the cache becomes `assignEpochs`, the offsets are collected -/
theorem append_loop (n : Nat) : ∀ (xs : List Rec) (P : List Val) (c : Epochs) (last : Nat) (st : St) (fs : List (String × Val)),
    st.env "l" = some (.struct fs) → lookup "leaderEpochCache" fs = some (encCache c) →
    st.env "lastLeaderEpoch" = some (.int last) → st.env "offsets" = some (.list (P ++ List.replicate xs.length .nil)) →
    ∃ st' fs', runRange (runBlock (exec prog noExt (n + 24)) loopBody) (some "i") (some "entry") P.length (xs.map encEntry) st = .ok (.next, st') ∧
      st'.env "l" = some (.struct fs') ∧ lookup "leaderEpochCache" fs' = some (encCache (assignEpochs c last xs)) ∧
      st'.env "offsets" = some (.list (P ++ xs.map fun r => .int r.offset)) ∧
      ∀ y, y = "segment" ∨ y = "ms" ∨ y = "entries" → st'.env y = st.env y := by
  intro xs
  induction xs with
  | nil =>
    intro P c last st fs hL hc _ ho
    exact ⟨st, fs, rfl, hL, hc, by simpa using ho, fun _ _ => rfl⟩
  | cons r rest ih =>
    intro P c last st fs hL hc hl ho
    obtain ⟨st1, fs1, hs, k0, k1, k2, k3, k4⟩ := append_step n r c last P (List.replicate rest.length .nil) st fs hL hc hl
      (by simpa [List.replicate_succ] using ho)
    obtain ⟨st', fs', hr, r0, r1, r2, r3⟩ := ih (P ++ [.int r.offset]) _ _ st1 fs1 k0 k1 k2 (by simpa using k3)
    refine ⟨st', fs', ?_, r0, ?_, by simpa using r2, fun y hy => (r3 y hy).trans (k4 y hy)⟩
    · simp only [List.map_cons, runRange_cons, hs]
      simpa using hr
    · by_cases hgt : last < r.epoch <;> simpa [assignEpochs, facts, Cmp.evalNat, hgt] using r1

/-- what `append` leaves behind: offsets returned, and the receiver's epoch cache -/
def view : R Out → Option (List Val × Option Val)
  | .ok o => match o.rets, o.recv with
    | [.list offs, .nil], some (.struct fs) => some (offs, lookup "leaderEpochCache" fs)
    | _, _ => none
  | _ => none

/-- **`commitLog.append` = the model's `write`**: the offsets of the entries are returned and the epoch cache becomes
`assignEpochs c c.latestEpoch entries`, for every cache and entry list (the write to the segment succeeding). -/
theorem go_append (c : Epochs) (es : List Rec) :
    view (run prog noExt 40 "append" (some (.struct [("leaderEpochCache", encCache c)]))
        [.struct [("seg", .int 0)], .list [], .list (es.map encEntry)]) =
      some (es.map (fun r => .int r.offset), some (encCache (assignEpochs c c.latestEpoch es))) := by
  obtain ⟨sl, hl1, hl2, hl3⟩ := LastLeaderEpoch_body 27 c []
  simp only [encCache] at hl1 hl2
  -- the state at the loop: the parameters, the epoch read and the result slice
  obtain ⟨st', fs', hr, r0, r1, r2, r3⟩ := append_loop 15 es [] c c.latestEpoch
    ((({ env := envOf [("l", .struct [("leaderEpochCache", encCache c)]), ("segment", .struct [("seg", .int 0)]),
          ("ms", .list []), ("entries", .list (es.map encEntry))], eff := [] } : St).set
        "lastLeaderEpoch" (.int c.latestEpoch)).set "offsets" (.list (List.replicate es.length .nil)))
    [("leaderEpochCache", encCache c)] rfl rfl rfl rfl
  have hseg := r3 "segment" (Or.inl rfl)
  have hms := r3 "ms" (Or.inr (Or.inl rfl))
  have hen := r3 "entries" (Or.inr (Or.inr rfl))
  simp only [loopBody, fn_commitLog_append, encCache, List.length_nil] at hr
  simp [gomini] at hseg hms hen r2
  simp [run, runG, fn_commitLog_append, gomini, encCache, hl1, hl2, hl3, hr, hseg, hms, hen, r2, r0, view, r1]

theorem translation_complete : unsupported = [] := rfl

/-- with `CLog.write`: the epoch component of a successful write is exactly what the translated `append` leaves -/
theorem write_epochs (l : CLog) (rs : List Rec) (l' : CLog) (offs : List Int) (h : l.write rs = .ok (l', offs)) :
    l'.epochs = assignEpochs l.epochs l.epochs.latestEpoch rs ∧ offs = rs.map Rec.offset := by
  unfold CLog.write at h
  split at h
  · cases h
  · injection h with h
    injection h with h1 h2
    subst h1; subst h2
    exact ⟨rfl, rfl⟩

/-! ### non-vacuity: two entries of a new epoch and one of the same epoch -/
def p0 : Payload := { key := none, val := some [1], hdrs := [] }
example : assignEpochs [(1, 0)] 1 [{ offset := 3, ts := 1, epoch := 2, body := p0 }, { offset := 4, ts := 2, epoch := 2, body := p0 },
    { offset := 5, ts := 3, epoch := 4, body := p0 }] = [(1, 0), (2, 3), (4, 5)] := by
  simp [assignEpochs, facts, Cmp.evalNat, Cmp.evalInt, Epochs.assign, Epochs.latestEpoch, Epochs.latestOffset]

end Liftbridge.Props.GoAppend
