/-
C13 — Only one member of a consumer group consumes a partition at a time.

Theorems about `Liftbridge.GroupSub` (small-step model of `partition.Subscribe` /
`subscription.Close` / the subscribe-loop goroutine's deferred `removeGroupSubscriber` in
server/partition.go) for EVERY interleaving — every finite list of steps from the empty
partition: group subscribes with any epochs and any (same or different) consumer ids, in any of
the three outcomes of the non-modelled part of `Subscribe` (accepted / start-stop validation
fails / reader creation fails after the previous subscriber was closed), client cancellations,
loop exits of cancelled and of never-cancelled subscriptions, non-group subscriptions mixed in.
Proved by induction over the step list with the invariants of `Proofs/GroupSub.lean`.

The model evaluates its two decision points through `Gen.GroupSub` (regenerated from the source
on every run): the refusal comparison `existing.groupEpoch > groupEpoch` and WHAT
`removeGroupSubscriber` compares. The theorems about `Cfg.current` need the clean-up to compare the
SUBSCRIPTION (fixes/C13-cleanup-by-subscription.diff). On a tree where it compares consumer ids
this file does not build — and the statements are then really false: see the
`…_preFix_false` theorems below (configuration `Cfg.preFix`, independent of `Gen`), whose witness
is replayed on the real code by the harness (corpus/C13/cleanup-by-consumer-id.ops, tag
`group-sub-cleanup-by-consumer-id`).

Only property statements here; lemmas are in `Liftbridge/Proofs/GroupSub.lean`.
-/
import Liftbridge.Model.GroupSub
import Liftbridge.Proofs.GroupSub

namespace Liftbridge.Props.C13
open Liftbridge Liftbridge.GroupSub Liftbridge.Proofs.GroupSub

/-! Shape of the Go source the model relies on without evaluating it through `Gen` (a change
breaks the build of this file and thereby the check): one mutex section from the look-up to the
return of `Subscribe`; an accepted subscriber always replaces whoever is registered; the previous
subscription is closed iff there was one; registration under `groupID != ""` with
{consumerID, groupEpoch, sub}; statement order refusal < validation < Close(previous) < reader
creation < loop start < registration; the loop defers the clean-up under `groupID != ""` before
its read loop and hands over what the clean-up compares; the clean-up runs under the mutex. -/
example : Gen.GroupSub.subscribeLocked = true := rfl
example : Gen.GroupSub.replaceAny = true := rfl
example : Gen.GroupSub.closePrevious = true := rfl
example : Gen.GroupSub.registerGuarded = true := rfl
example : Gen.GroupSub.orderOk = true := rfl
example : Gen.GroupSub.cleanupDeferred = true := rfl
example : Gen.GroupSub.cleanupArgMatches = true := rfl
example : Gen.GroupSub.cleanupLocked = true := rfl

/-- The partition after an arbitrary interleaving. -/
abbrev reach (cfg : Cfg) (steps : List Step) : State := run cfg State.empty steps

/-! ## Full-strength statements, for a configuration `cfg` of the two decision points -/

/-- At any moment at most one subscription per consumer group is active. -/
def AtMostOneActive (cfg : Cfg) : Prop :=
  ∀ (steps : List Step) (g : String), g ≠ "" → (activeOf (reach cfg steps) g).length ≤ 1

/-- An active group subscription is the registered member of its group — with exactly its
consumer id, epoch and subscription. -/
def ActiveIsRegistered (cfg : Cfg) : Prop :=
  ∀ (steps : List Step), ∀ l ∈ (reach cfg steps).loops, l.group ≠ "" → l.active = true →
    lookup l.group (reach cfg steps).consumers = some ⟨l.consumer, l.epoch, l.subId⟩

/-- A registered member names a subscription of that group, consumer id and epoch whose loop has
not exited (its clean-up is still to come): no stale entries, no entry for the empty group id. -/
def RegisteredIsLive (cfg : Cfg) : Prop :=
  ∀ (steps : List Step) (g : String) (m : Member), lookup g (reach cfg steps).consumers = some m →
    g ≠ "" ∧ ∃ l ∈ (reach cfg steps).loops,
      l.subId = m.subId ∧ l.group = g ∧ l.consumer = m.consumer ∧ l.epoch = m.epoch ∧ l.exited = false

/-- A subscriber carrying an older epoch than the group's active subscription is refused and
NOTHING changes (whatever else is wrong or right with its request). -/
def OlderRefusedUntouched (cfg : Cfg) : Prop :=
  ∀ (steps : List Step) (g c : String) (e : Nat) (o : Outcome), g ≠ "" →
    ∀ l ∈ activeOf (reach cfg steps) g, e < l.epoch →
      step cfg (reach cfg steps) (.subscribe g c e o) = (reach cfg steps, .refused)

/-- A valid subscriber with an equal or newer epoch than the group's active subscription is
accepted, registered, is afterwards the ONLY active subscription of the group, and the previous
one is closed. -/
def NewerReplaces (cfg : Cfg) : Prop :=
  ∀ (steps : List Step) (g c : String) (e : Nat), g ≠ "" →
    ∀ l ∈ activeOf (reach cfg steps) g, l.epoch ≤ e →
      let s := reach cfg steps
      let r := step cfg s (.subscribe g c e .ok)
      r.2 = .sub s.loops.length ∧
      activeOf r.1 g = [⟨s.loops.length, g, c, e, false, false⟩] ∧
      lookup g r.1.consumers = some ⟨c, e, s.loops.length⟩ ∧
      ∀ l' ∈ r.1.loops, l'.subId = l.subId → l'.cancelled = true

/-! ## Whatever the clean-up compares -/

/-- No stale or empty-group entries, for every configuration of the two decision points. -/
theorem registered_is_live_any (cfg : Cfg) : RegisteredIsLive cfg := by
  intro steps g m hm
  have h := inv_run cfg steps _ inv_empty
  refine ⟨?_, h.live g m hm⟩
  intro hg
  rw [hg, h.noEmpty] at hm
  cases hm

/-- Subscription ids are handed out once: the loops of a reachable state have distinct ids. -/
theorem subscription_ids_distinct (cfg : Cfg) (steps : List Step) :
    ∀ a ∈ (reach cfg steps).loops, ∀ b ∈ (reach cfg steps).loops, a.subId = b.subId → a = b :=
  eq_of_subId_eq (inv_run cfg steps _ inv_empty).nodup

/-! ## The code as it is (after the repair) -/

/-- Tie: the clean-up of the current source compares the subscription. Fails to build on a tree
where `removeGroupSubscriber` compares consumer ids. -/
theorem current_cleanup_by_subscription : Cfg.current.bySub = true := rfl

/-- Tie: the current source refuses exactly `existing.groupEpoch > groupEpoch`. -/
theorem current_refuses_older : Cfg.current.refuse = .gt := rfl

private theorem good_current (steps : List Step) : Good Cfg.current (reach Cfg.current steps) :=
  good_run _ steps _ (good_empty _) (.inl current_cleanup_by_subscription)

/-- **C13.** After ANY interleaving of subscribes, cancellations and loop exits, every consumer
group has at most one active subscription on the partition. -/
theorem at_most_one_active : AtMostOneActive Cfg.current := by
  intro steps g hg
  exact atMostOne_of_reg (inv_run _ steps _ inv_empty) (good_current steps).reg g hg

/-- After any interleaving every active group subscription is the registered member of its
group (same consumer id, epoch, subscription): the next subscriber will find it. -/
theorem active_is_registered : ActiveIsRegistered Cfg.current := by
  intro steps l hl hg ha
  have h := good_current steps
  exact h.reg l hl hg ha

/-- After any interleaving a registered member names a loop that has not exited — holds whatever
the clean-up compares (`registered_is_live_any`). -/
theorem registered_is_live : RegisteredIsLive Cfg.current :=
  registered_is_live_any _

/-- An older epoch than the active subscription's is refused and changes nothing. -/
theorem older_refused_untouched : OlderRefusedUntouched Cfg.current := by
  intro steps g c e o hg l hl he
  have h := good_current steps
  exact older_refused_of_good current_refuses_older h.reg hl hg c he o

/-- An equal or newer epoch replaces: previous closed, new one registered and alone. -/
theorem newer_replaces : NewerReplaces Cfg.current := by
  intro steps g c e hg l hl he
  exact newer_replaces_of_good current_refuses_older (inv_run _ steps _ inv_empty)
    (good_current steps).reg hl hg c he

/-- `refused` is answered exactly when a member with a strictly newer epoch is registered
(by `registered_is_live` that member's loop is still running: a closed-but-not-yet-exited
subscription keeps fencing older epochs until its loop ends). In particular a group without a
registered member accepts any epoch. -/
theorem refused_iff (steps : List Step) (g c : String) (e : Nat) (o : Outcome) (hg : g ≠ "") :
    (step Cfg.current (reach Cfg.current steps) (.subscribe g c e o)).2 = .refused ↔
      ∃ ex, lookup g (reach Cfg.current steps).consumers = some ex ∧ e < ex.epoch :=
  (refused_iff_refusedBy ..).trans (refusedBy_gt current_refuses_older _ hg e)

/-- A subscribe on group `g` (accepted, refused or failed) neither changes the registration nor
the active subscriptions of any other group. -/
theorem other_groups_untouched (steps : List Step) (g c : String) (e : Nat) (o : Outcome)
    (g' : String) (hne : g' ≠ g) :
    let s := reach Cfg.current steps
    let r := step Cfg.current s (.subscribe g c e o)
    lookup g' r.1.consumers = lookup g' s.consumers ∧ activeOf r.1 g' = activeOf s g' :=
  subscribe_frame _ (inv_run _ steps _ inv_empty) g c e o g' hne

/-- The two failure outcomes of the non-modelled part of `Subscribe`, as the code orders them:
a validation failure changes nothing; a reader-creation failure has already closed the previous
subscriber (and only that: the registration is unchanged, nobody new is active). -/
theorem failed_subscribe_effects (s : State) (g c : String) (e : Nat) :
    ((step Cfg.current s (.subscribe g c e .early)).1 = s) ∧
    ((step Cfg.current s (.subscribe g c e .late)).1.consumers = s.consumers) ∧
    (∀ g', (activeOf (step Cfg.current s (.subscribe g c e .late)).1 g').length ≤
            (activeOf s g').length) := by
  simp only [step]
  cases hr : refusedBy Cfg.current (existing s g) e with
  | true =>
    rw [subscribe_refused hr c .early, subscribe_refused hr c .late]
    exact ⟨rfl, rfl, fun _ => Nat.le_refl _⟩
  | false =>
    rw [subscribe_accepted hr c .early, subscribe_accepted hr c .late]
    exact ⟨rfl, closePrev_consumers .., activeOf_closePrev_le s _⟩

/-- "Registered ⇒ ACTIVE" cannot be claimed: `Close()` by the client and the loop's clean-up are
two steps, in between the closed subscription is still registered (it is live, not active). -/
def registered_is_active_asStated : Prop :=
  ∀ (steps : List Step) (g : String) (m : Member),
    lookup g (reach Cfg.current steps).consumers = some m →
      ∃ l ∈ activeOf (reach Cfg.current steps) g, l.subId = m.subId

theorem registered_is_active_asStated_false : ¬ registered_is_active_asStated := by
  intro h
  have := h [.subscribe "g" "A" 1 .ok, .cancel 0] "g" ⟨"A", 1, 0⟩ (by decide)
  revert this
  decide

/-! ## The code before the repair (`Cfg.preFix` = `>` and clean-up by consumer id, independent of `Gen`) -/

/-- F-C13-a. Consumer A subscribes with epoch 5 (s0), re-subscribes with epoch 6 (s1; s0 is
closed), then the loop of s0 ends: its clean-up finds an entry of consumer A and deletes it —
the entry of s1. Then consumer B with the OLDER epoch 1 finds no entry and is accepted. -/
def witness : List Step :=
  [.subscribe "g" "A" 5 .ok, .subscribe "g" "A" 6 .ok, .loopExit 0, .subscribe "g" "B" 1 .ok]

/-- The witness, state by state, on the pre-fix configuration: after the third step s1 is active
and unregistered; after the fourth s1 (A, epoch 6) and s2 (B, epoch 1) are both active. -/
theorem preFix_witness_trace :
    (activeOf (reach Cfg.preFix (witness.take 2)) "g").map Loop.subId = [1] ∧
    lookup "g" (reach Cfg.preFix (witness.take 2)).consumers = some ⟨"A", 6, 1⟩ ∧
    (activeOf (reach Cfg.preFix (witness.take 3)) "g").map Loop.subId = [1] ∧
    lookup "g" (reach Cfg.preFix (witness.take 3)).consumers = none ∧
    (step Cfg.preFix (reach Cfg.preFix (witness.take 3)) (.subscribe "g" "B" 1 .ok)).2 = .sub 2 ∧
    (activeOf (reach Cfg.preFix witness) "g").map (fun l => (l.subId, l.consumer, l.epoch)) =
      [(2, "B", 1), (1, "A", 6)] := by
  decide

/-- With the clean-up by consumer id two members of a group consume the partition at once. -/
theorem at_most_one_active_preFix_false : ¬ AtMostOneActive Cfg.preFix := by
  intro h
  have := h witness "g" (by decide)
  revert this
  decide

theorem active_is_registered_preFix_false : ¬ ActiveIsRegistered Cfg.preFix := by
  intro h
  have := h (witness.take 3) ⟨1, "g", "A", 6, false, false⟩ (by decide) (by decide) (by decide)
  revert this
  decide

theorem older_refused_untouched_preFix_false : ¬ OlderRefusedUntouched Cfg.preFix := by
  intro h
  have := h (witness.take 3) "g" "B" 1 .ok (by decide) ⟨1, "g", "A", 6, false, false⟩ (by decide)
    (by decide)
  revert this
  decide

/-- …and a NEWER subscriber does not close the active one either. -/
theorem newer_replaces_preFix_false : ¬ NewerReplaces Cfg.preFix := by
  intro h
  have := (h (witness.take 3) "g" "B" 7 (by decide) ⟨1, "g", "A", 6, false, false⟩ (by decide)
    (by decide)).2.1
  revert this
  decide

/-- The same four steps on the repaired configuration: the entry of s1 survives the exit of s0
and B's older epoch is refused. (Non-vacuity of the hypotheses of `older_refused_untouched`.) -/
example :
    lookup "g" (reach ⟨.gt, true⟩ (witness.take 3)).consumers = some ⟨"A", 6, 1⟩ ∧
    (step ⟨.gt, true⟩ (reach ⟨.gt, true⟩ (witness.take 3)) (.subscribe "g" "B" 1 .ok)).2 = .refused ∧
    (activeOf (reach ⟨.gt, true⟩ witness) "g").map Loop.subId = [1] := by
  decide

private theorem good_preFix (steps : List Step) (h : NoLiveReuse Cfg.preFix State.empty steps) :
    Good Cfg.preFix (reach Cfg.preFix steps) :=
  good_run _ steps _ (good_empty _) (.inr h)

/-- Strongest true variant for the pre-fix code: as long as a consumer id never subscribes again
in a group while a loop of its earlier subscription in that group is still running, every
statement above holds. (The official client violates the hypothesis on every group epoch change:
it cancels and re-subscribes with the SAME consumer id without waiting for the old loop.) -/
theorem at_most_one_active_preFix_partial (steps : List Step)
    (h : NoLiveReuse Cfg.preFix State.empty steps) (g : String) (hg : g ≠ "") :
    (activeOf (reach Cfg.preFix steps) g).length ≤ 1 := by
  exact atMostOne_of_reg (inv_run _ steps _ inv_empty) (good_preFix steps h).reg g hg

theorem active_is_registered_preFix_partial (steps : List Step)
    (h : NoLiveReuse Cfg.preFix State.empty steps) :
    ∀ l ∈ (reach Cfg.preFix steps).loops, l.group ≠ "" → l.active = true →
      lookup l.group (reach Cfg.preFix steps).consumers = some ⟨l.consumer, l.epoch, l.subId⟩ := by
  intro l hl hg ha
  have hgood := good_preFix steps h
  exact hgood.reg l hl hg ha

theorem older_refused_untouched_preFix_partial (steps : List Step)
    (h : NoLiveReuse Cfg.preFix State.empty steps) (g c : String) (e : Nat) (o : Outcome)
    (hg : g ≠ "") (l : Loop) (hl : l ∈ activeOf (reach Cfg.preFix steps) g) (he : e < l.epoch) :
    step Cfg.preFix (reach Cfg.preFix steps) (.subscribe g c e o) = (reach Cfg.preFix steps, .refused) := by
  have hgood := good_preFix steps h
  exact older_refused_of_good rfl hgood.reg hl hg c he o

/-- Simplest sufficient condition: the (group, consumer id) pairs of all subscribe steps are
pairwise distinct. -/
theorem at_most_one_active_preFix_partial_distinct_ids (steps : List Step)
    (h : (subscribers steps).Nodup) (g : String) (hg : g ≠ "") :
    (activeOf (reach Cfg.preFix steps) g).length ≤ 1 :=
  at_most_one_active_preFix_partial steps
    (noLiveReuse_of_nodup _ steps _ h) g hg

/-! ## Non-vacuity -/

/-- The hypotheses of `newer_replaces` / `older_refused_untouched` are satisfiable, and the
hand-over does what they say on a concrete history (two groups, a non-group subscription, a
cancelled-but-running loop, a late failure). -/
example :
    let steps : List Step := [.subscribe "g" "A" 2 .ok, .subscribe "" "X" 0 .ok, .subscribe "h" "A" 1 .ok,
      .subscribe "g" "B" 2 .ok, .subscribe "g" "A" 1 .early, .cancel 3, .subscribe "g" "C" 1 .ok,
      .loopExit 3, .subscribe "g" "C" 1 .ok, .subscribe "h" "B" 1 .late, .loopExit 0]
    let s := reach ⟨.gt, true⟩ steps
    (activeOf s "g").map Loop.subId = [4] ∧ activeOf s "h" = [] ∧
    lookup "g" s.consumers = some ⟨"C", 1, 4⟩ ∧ lookup "h" s.consumers = some ⟨"A", 1, 2⟩ ∧
    (activeOf s "").map Loop.subId = [1] := by
  decide

example : NoLiveReuse Cfg.preFix State.empty
    [.subscribe "g" "A" 5 .ok, .subscribe "g" "B" 6 .ok, .loopExit 0, .subscribe "g" "A" 7 .ok] := by
  decide

example : ¬ NoLiveReuse Cfg.preFix State.empty witness := by decide

end Liftbridge.Props.C13
