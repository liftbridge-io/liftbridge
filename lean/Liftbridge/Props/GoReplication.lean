/-
C02 / C04 / C14 at the level of the function bodies: the two NATS handlers of the replication protocol in
server/partition.go - `handleReplicationRequest` (the leader's fence in front of its replicators) and
`handleReplicationResponse` (what a follower does with a response) - translated from the code, and with them
`handleLeaderOffsetRequest`, `checkLeaderHealth`, `sendReplicationRequest` and `minInt64` (second half of the file).
Un-marshalling, the commit log and the replicator are parameters.
-/
import Liftbridge.Proofs.GoCodeBase
import Liftbridge.Gen.GoReplication

namespace Liftbridge.Props.GoReplication
open Liftbridge Liftbridge.GoMini Liftbridge.GoCode
open Liftbridge.Gen.GoReplication

theorem builtin_time_Now : builtin "time.Now" [] = none := by simp [builtin]
theorem builtin_time_Since (v : String) : builtin "time.Since" [.str v] = none := by simp [builtin]
theorem builtin_context_Background : builtin "context.Background" [] = none := by simp [builtin]
theorem builtin_proto_UnmarshalReplicationRequest (v : List Val) : builtin "proto.UnmarshalReplicationRequest" [.list v] = none := by simp [builtin]
theorem builtin_proto_UnmarshalReplicationResponse (v : List Val) : builtin "proto.UnmarshalReplicationResponse" [.list v] = none := by simp [builtin]
theorem builtin_minInt64 (a b : Int) : builtin "minInt64" [.int a, .int b] = none := by simp [builtin]

theorem translation_complete : unsupported = [] := rfl

theorem binVal_int (op : String) (a b : Int) : binVal op (Val.int a) (Val.int b) = binInt op a b := GoMini.binVal_int op a b
@[simp] theorem lk_hreq : evalE.lookup' "handleReplicationRequest" prog = some fn_partition_handleReplicationRequest := by simp [prog, gomini]
@[simp] theorem lk_hresp : evalE.lookup' "handleReplicationResponse" prog = some fn_partition_handleReplicationResponse := by simp [prog, gomini]
@[simp] theorem lk_minInt64 : evalE.lookup' "minInt64" prog = some fn_minInt64 := by simp [prog, gomini]
@[simp] theorem lk_clh : evalE.lookup' "checkLeaderHealth" prog = some fn_partition_checkLeaderHealth := by simp [prog, gomini]
@[simp] theorem lk_other (f : String) (h : f ∉ ["handleReplicationRequest", "handleReplicationResponse", "handleLeaderOffsetRequest", "minInt64",
    "checkLeaderHealth", "sendReplicationRequest"]) : evalE.lookup' f prog = none := by
  simp at h
  simp [prog, gomini, h]

/-! ### the leader's fence -/

def encPartL (pause : Bool) (leaderEpoch : Int) (replicas replicators : List (String × Val)) : Val :=
  .struct [("pause", .bool pause), ("LeaderEpoch", .int leaderEpoch), ("replicas", .struct replicas), ("replicators", .struct replicators)]

def encReq (epoch : Int) (replica : String) : Val := .struct [("LeaderEpoch", .int epoch), ("ReplicaID", .str replica)]

/-- un-marshalling answers a request or an error -/
def reqExt (req : Option (Int × String)) : Ext := fun f _ _ =>
  if f = "proto.UnmarshalReplicationRequest" then
    match req with
    | some (e, r) => some (.tup [encReq e r, .nil])
    | none => some (.tup [.nil, .str "unmarshal error"])
  else if f = "time.Now" then some (.int 0)
  else none

/-- the names of the replicator calls made (`none`: a panic or a construct outside the subset) -/
def requests : R Out → Option (List String)
  | .ok o => some ((o.eff.filter fun e => e.1 = "request").map (·.1))
  | _ => none

/-- the replicator map: one non-nil replicator per follower id -/
def mkReplicators (ids : List String) : List (String × Val) := ids.map fun k => (k, .struct [("replica", .str k)])

theorem lookup_mkReplicators (ids : List String) (r : String) :
    lookup r (mkReplicators ids) = if r ∈ ids then some (.struct [("replica", .str r)]) else none :=
  lookup_map_key _ r ids

def admitted (pause : Bool) (leaderEpoch : Int) (replicas replicators : List (String × Val)) : Option (Int × String) → Bool
  | none => false
  | some (e, r) => !pause && (decide (e = 0) || decide (e = leaderEpoch)) && (lookup r replicas).isSome && (lookup r replicators).isSome

attribute [local simp] requests admitted reqExt encPartL encReq binInt builtin_time_Now builtin_proto_UnmarshalReplicationRequest builtin_mapLookup2
  lookup_mkReplicators

/-- For every partition state and every payload (whatever un-marshalling makes of it) the request reaches a replicator - exactly
one `request` call - iff it un-marshals, the partition is not paused, its leader epoch is 0 or the partition's CURRENT leader
epoch, and the replica it names is a replica AND has a replicator (the leader itself has none); otherwise nothing happens at
all. Never a panic. -/
theorem go_handleReplicationRequest (pause : Bool) (leaderEpoch : Int) (replicas : List (String × Val)) (followers : List String)
    (req : Option (Int × String)) (msg : Val) (hmsg : msg = .struct [("Data", .list [])]) :
    requests (runG prog (reqExt req) 30 "handleReplicationRequest" (some (encPartL pause leaderEpoch replicas (mkReplicators followers))) [msg] []) =
      some (if admitted pause leaderEpoch replicas (mkReplicators followers) req then ["request"] else []) := by
  subst hmsg
  cases req with
  | none => rfl
  | some er =>
    obtain ⟨e, r⟩ := er
    cases pause
    · -- the epoch fence lets 0 and the current epoch through; then the two map look-ups decide
      rcases (by omega : e = 0 ∨ (e ≠ 0 ∧ e = leaderEpoch) ∨ (e ≠ 0 ∧ e ≠ leaderEpoch)) with rfl | ⟨h0, rfl⟩ | ⟨h0, h3⟩
      case inr.inr =>
        simp [runG, fn_partition_handleReplicationRequest, gomini, h0, h3]
      -- an unknown replica is turned away before the replicator map is consulted
      all_goals cases h1 : lookup r replicas with
        | none => simp [runG, fn_partition_handleReplicationRequest, gomini, *]
        | some _ => by_cases h2 : r ∈ followers <;> simp [runG, fn_partition_handleReplicationRequest, gomini, *]
    · rfl

/-! ### the follower's side -/

structure Resp where
  epoch : Int
  hw : Int
  data : List Val

def encPartF (following : Bool) (leaderEpoch : Int) : Val :=
  .struct [("isFollowing", .bool following), ("LeaderEpoch", .int leaderEpoch), ("log", .struct [("kind", .str "commit log")])]

/-- un-marshalling answers a response or an error; the log answers its newest offset (`newest` before the append of this
call, `newest2` after it), the first 8 bytes of the data decode to `first`, the append answers offsets or an error -/
def respExt (resp : Option Resp) (first newest newest2 : Int) (appendRes : Option (List Val)) : Ext := fun f _ eff =>
  if f = "proto.UnmarshalReplicationResponse" then
    match resp with
    | some r => some (.tup [.int r.epoch, .int r.hw, .list r.data, .nil])
    | none => some (.tup [.int 0, .int 0, .nil, .str "unmarshal error"])
  else if f = "NewestOffset" then some (.int (if eff.any (fun e => e.1 = "AppendMessageSet") then newest2 else newest))
  else if f = "Uint64" then some (.int first)
  else if f = "AppendMessageSet" then
    match appendRes with
    | some offs => some (.tup [.list offs, .nil])
    | none => some (.tup [.nil, .str "append error"])
  else none

inductive RespOut where
  | done (n : Int) (calls : List (String × List Val))
  | panic
  deriving Repr

def respView : R Out → Option RespOut
  | .ok o => match o.rets with
    | [.int n] => some (.done n (o.eff.filter fun e => e.1 = "SetHighWatermark" ∨ e.1 = "AppendMessageSet"))
    | _ => none
  | .panic => some .panic
  | .stuck _ => none

def imin (a b : Int) : Int := if a < b then a else b

def logV : Val := .struct [("kind", .str "commit log")]

/-- The decision of `handleReplicationResponse`: a response is ignored without any effect unless it un-marshals, the partition
is following and the response carries the partition's current leader epoch. Otherwise the high watermark is set to
`min(leader's HW, own newest offset)` - never beyond the follower's own log end -, data of at most 28 bytes or starting below
`newest + 1` is ignored, anything else is appended once and the high watermark is set again, to
`min(leader's HW, NEW newest offset)`; the handler reports the number of offsets appended. A failing append panics (the
code's choice: a follower that cannot write its log stops). -/
def respSpec (following : Bool) (leaderEpoch : Int) (resp : Option Resp) (first newest newest2 : Int) (appendRes : Option (List Val)) : RespOut :=
  match resp with
  | none => .done 0 []
  | some r =>
    if !following || decide (leaderEpoch ≠ r.epoch) then .done 0 [] else
    if r.data.length ≤ 28 ∨ first < newest + 1 then .done 0 [("SetHighWatermark", [.int (imin r.hw newest)])] else
    match appendRes with
    | none => .panic
    | some offs => .done offs.length [("SetHighWatermark", [.int (imin r.hw newest)]), ("AppendMessageSet", [.list r.data]),
                                       ("SetHighWatermark", [.int (imin r.hw newest2)])]

def globalsF : List (String × Val) := [("proto.Encoding", .struct [])]

@[simp] theorem minInt64_recv : fn_minInt64.recv = none := rfl
@[simp] theorem minInt64_params : fn_minInt64.params = ["a", "b"] := rfl

theorem minInt64_body (x : Ext) (n : Nat) (a b : Int) (eff : List (String × List Val)) :
    runBlock (exec prog x (n + 3)) fn_minInt64.body { env := envOf [("a", .int a), ("b", .int b)], eff := eff } =
      .ok (.ret [.int (imin a b)], { env := envOf [("a", .int a), ("b", .int b)], eff := eff }) := by
  by_cases h : a < b <;> simp [fn_minInt64, gomini, binInt, imin, h]

attribute [local simp] respView respSpec respExt encPartF globalsF minInt64_body builtin_proto_UnmarshalReplicationResponse builtin_minInt64
  builtin_int64 builtin_panic builtin_fmt_Errorf

theorem go_handleReplicationResponse (following : Bool) (leaderEpoch : Int) (resp : Option Resp) (first newest newest2 : Int)
    (appendRes : Option (List Val)) (hfirst : wrapS 64 first = first) :
    respView (runG prog (respExt resp first newest newest2 appendRes) 30 "handleReplicationResponse" (some (encPartF following leaderEpoch))
        [.struct [("Data", .list [])]] globalsF) =
      some (respSpec following leaderEpoch resp first newest newest2 appendRes) := by
  cases resp with
  | none => rfl
  | some r =>
    obtain ⟨e, hw, data⟩ := r
    cases following
    · rfl
    · by_cases he : leaderEpoch = e
      · subst he
        by_cases hlen : data.length ≤ 28
        · have hl : (data.length : Int) ≤ 28 := by omega
          by_cases hz : data.length = 0 <;>
            simp [runG, fn_partition_handleReplicationResponse, gomini, hlen, hl, hz]
        · have hl : ¬ (data.length : Int) ≤ 28 := by omega
          have hz : data ≠ [] := by rintro rfl; simp at hlen
          have h8 : (8 : Int) ≤ data.length := by omega
          by_cases hold : first < newest + 1
          · simp [runG, fn_partition_handleReplicationResponse, gomini, hfirst, hlen, hl, hz, h8, hold]
          · cases appendRes <;> simp [runG, fn_partition_handleReplicationResponse, gomini, hfirst, hlen, hl, hz, h8, hold]
      · simp [runG, fn_partition_handleReplicationResponse, gomini, he]

/-- the follower's high watermark never points past the end of its own log: both values the handler sets are at most the
newest offset the log has at that moment, and at most the leader's -/
theorem imin_le (a b : Int) : imin a b ≤ b ∧ imin a b ≤ a := by unfold imin; split <;> omega

/-- a response from another leader epoch, or to a partition that is not following, has no effect at all -/
theorem stale_response_ignored (leaderEpoch : Int) (r : Resp) (first newest newest2 : Int) (appendRes : Option (List Val))
    (h : leaderEpoch ≠ r.epoch) :
    respSpec true leaderEpoch (some r) first newest newest2 appendRes = .done 0 [] := by
  simp [respSpec, h]

/-- non-vacuity: 40 bytes starting at the follower's log end (newest 4, first offset 5) under a leader HW of 9: appended,
HW first 4 then 6 (the new log end), one offset reported -/
example : respSpec true 3 (some ⟨3, 9, List.replicate 40 (.int 0)⟩) 5 4 6 (some [.int 5, .int 6]) =
    .done 2 [("SetHighWatermark", [.int 4]), ("AppendMessageSet", [.list (List.replicate 40 (.int 0))]), ("SetHighWatermark", [.int 6])] := by
  simp [respSpec, imin]

/-! ### the leader answering "where does epoch e end in your log" (the follower truncates to the answer) -/

/-- un-marshalling answers the epoch asked for or an error; the log answers `endOf epoch`; marshalling answers the record it
was given (so that the response can be read off the `Respond` call) or an error -/
def offExt (req : Option Int) (endOf : Int → Int) (marshalOk : Bool) : Ext := fun f args _ =>
  if f = "proto.UnmarshalLeaderEpochOffsetRequest" then
    match req with
    | some e => some (.tup [.struct [("LeaderEpoch", .int e)], .nil])
    | none => some (.tup [.nil, .str "unmarshal error"])
  else if f = "LastOffsetForLeaderEpoch" then
    match args with
    | [_, .int e] => some (.int (endOf e))
    | _ => none
  else if f = "proto.MarshalLeaderEpochOffsetResponse" then
    match args with
    | [r] => if marshalOk then some (.tup [r, .nil]) else some (.tup [.nil, .str "marshal error"])
    | _ => none
  else none

/-- the responses sent (`none` for a panic) -/
def responses : R Out → Option (List (List Val))
  | .ok o => some ((o.eff.filter fun e => e.1 = "Respond").map (·.2))
  | _ => none

/-- a request that un-marshals is answered by one response carrying the log's end offset of that epoch; any other by none -/
theorem go_handleLeaderOffsetRequest (req : Option Int) (endOf : Int → Int) :
    responses (runG prog (offExt req endOf true) 30 "handleLeaderOffsetRequest"
        (some (.struct [("log", logV)])) [.struct [("Data", .list []), ("kind", .str "msg")]] []) =
      some (match req with
        | none => []
        | some e => [[.struct [("EndOffset", .int (endOf e))]]]) := by
  cases req <;> rfl

/-! ### the follower's requests: what it asks the leader for, and when it reports the leader -/

def encPartR (me stream : String) (id timeout : Int) : Val :=
  .struct [("Stream", .str stream), ("Id", .int id), ("log", logV),
           ("srv", .struct [("config", .struct [("Clustering", .struct [("ServerID", .str me), ("ReplicaMaxLeaderTimeout", .int timeout), ("ReplicaFetchTimeout", .int 5)])]),
                            ("metadata", .struct [("kind", .str "metadata")]), ("ncRepl", .struct [("kind", .str "nats")])])]

/-- the clock says how long the leader has been silent; the log its newest offset; marshalling and the NATS request succeed or not -/
def follExt (elapsed newest : Int) (requestErr : Option String) : Ext := fun f args _ =>
  if f = "time.Since" then some (.int elapsed)
  else if f = "context.Background" then some (.str "ctx")
  else if f = "ReportLeader" then some .nil
  else if f = "NewestOffset" then some (.int newest)
  else if f = "proto.MarshalReplicationRequest" then
    match args with
    | [r] => some (.tup [r, .nil])
    | _ => none
  else if f = "getReplicationRequestInbox" then some (.str "inbox")
  else if f = "Request" then
    match requestErr with
    | some e => some (.tup [.nil, .str e])
    | none => some (.tup [.struct [("Data", .list [])], .nil])
  else if f = "proto.UnmarshalReplicationResponse" then some (.tup [.int 0, .int 0, .nil, .str "empty"])
  else none

def reports : R Out → Option (List (List Val))
  | .ok o => some ((o.eff.filter fun e => e.1 = "ReportLeader").map (·.2))
  | _ => none

/-- the leader is reported iff it has been silent for MORE than the configured time, once, and the report names this replica, the leader
it was following and the leader epoch it was following it under (so that a report about an earlier term is refused by the controller) -/
theorem go_checkLeaderHealth (me stream : String) (id timeout elapsed newest : Int) (leader : String) (epoch : Int) :
    reports (runG prog (follExt elapsed newest none) 30 "checkLeaderHealth" (some (encPartR me stream id timeout)) [.str leader, .int epoch, .str "last seen"] []) =
      some (if elapsed > timeout then
              [[.str "ctx", .struct [("Stream", .str stream), ("Partition", .int id), ("Replica", .str me), ("Leader", .str leader), ("LeaderEpoch", .int epoch)]]]
            else []) := by
  by_cases h : elapsed > timeout <;>
    simp [runG, fn_partition_checkLeaderHealth, gomini, reports, follExt, encPartR, binInt, builtin_time_Since, builtin_context_Background, h]

/-- (what was marshalled as the replication request, the values returned) -/
def reqView : R Out → Option (List (List Val) × List Val)
  | .ok o => some ((o.eff.filter fun e => e.1 = "proto.MarshalReplicationRequest").map (·.2), o.rets)
  | _ => none

/-- a fetch names this server as the replica, the follower's NEWEST offset and the leader epoch the follower is following; a
failed request is an error and nothing is handled -/
theorem go_sendReplicationRequest_failed (me stream : String) (id timeout elapsed newest epoch : Int) (e : String) :
    reqView (runG prog (follExt elapsed newest (some e)) 30 "sendReplicationRequest" (some (encPartR me stream id timeout)) [.int epoch] []) =
      some ([[.struct [("ReplicaID", .str me), ("Offset", .int newest), ("LeaderEpoch", .int epoch)]]], [.int 0, .str e]) := by
  rfl

theorem go_sendReplicationRequest_request (me stream : String) (id timeout elapsed newest epoch : Int) :
    (reqView (runG prog (follExt elapsed newest none) 30 "sendReplicationRequest" (some (encPartR me stream id timeout)) [.int epoch] [])).map (·.1) =
      some [[.struct [("ReplicaID", .str me), ("Offset", .int newest), ("LeaderEpoch", .int epoch)]]] := by
  rfl

end Liftbridge.Props.GoReplication
