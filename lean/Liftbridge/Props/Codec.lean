/-
Byte-level round trip of the stored message format (part of C01: "exactly the key, value,
headers … that were stored"; and of C14: stored values are returned verbatim).
-/
import Liftbridge.Model.Codec
import Liftbridge.Proofs.Codec

namespace Liftbridge.Props.Codec
open Liftbridge Liftbridge.Codec Liftbridge.Proofs.Codec

/-- Reading back an encoded message returns exactly the key that was stored (nil ≠ empty). -/
theorem key_encode (crc : Bytes → Nat) (m : WireMsg) (h : WF m) : key (encode crc m) = .ok m.key :=
  key_encode' crc m h.1

/-- … exactly the value … -/
theorem value_encode (crc : Bytes → Nat) (m : WireMsg) (h : WF m) : value (encode crc m) = .ok m.val :=
  value_encode' crc m h.1 h.2.1

/-- … and exactly the headers, keys and values (nil ≠ empty), in stored order. -/
theorem headers_encode (crc : Bytes → Nat) (m : WireMsg) (h : WF m) :
    headers (encode crc m) = .ok m.hdrs :=
  headers_encode' crc m h.1 h.2.1 h.2.2.1 (WF.hdrOk h)

/-- The stored CRC matches, so `readMessage` accepts what `Append` wrote. -/
theorem crc_encode (crc : Bytes → Nat) (m : WireMsg) : crcOk crc (encode crc m) = true := by
  have h1 : (encode crc m).take 4 = beBytes 4 (crc (encodeBody m)) :=
    List.take_left' (beBytes_length 4 _)
  have h2 : (encode crc m).drop 4 = encodeBody m :=
    List.drop_left' (beBytes_length 4 _)
  simp [crcOk, h1, h2, beNat_beBytes]

/-- The encoded length is the one the commit-log model uses for positions and segment rolls. -/
theorem encode_length (crc : Bytes → Nat) (p : Log.Payload) :
    (encode crc (toWire p)).length = p.encLen := by
  rw [encode_length_wire]
  simp only [toWire, Log.Payload.encLen, List.map_map]
  congr 2
  exact List.map_congr_left fun kv _ => by simp only [Function.comp, toUTF8_toList_length]

/-- Outside `WF` the format does NOT round-trip: 65536 headers wrap the 16-bit count to 0. -/
theorem header_count_wraps (crc : Bytes → Nat) :
    ∃ m : WireMsg, m.hdrs.length = 65536 ∧ headers (encode crc m) = .ok [] := by
  have hlen : (wrapMsg 65536).hdrs.length = 65536 := List.length_replicate
  exact ⟨wrapMsg 65536, hlen,
    headers_encode_wrap crc _ (Nat.two_pow_pos 31) (Nat.two_pow_pos 31) (by rw [hlen])⟩

/-- A nil header value is stored with size -1 and read back as nil (the accessor
before its repair sliced `m[n:n-1]`). -/
theorem nil_header_value_roundtrip (crc : Bytes → Nat) :
    headers (encode crc { magic := 1, attrs := 0, key := none, val := some [1], hdrs := [([110], none)] })
      = .ok [([110], none)] :=
  headers_encode crc _ (by simp [WF, Log.bytesLen])

end Liftbridge.Props.Codec
