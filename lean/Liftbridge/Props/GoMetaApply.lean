/-
C06 / C07 at the level of the function body: the APPLY side of the metadata operations that change a partition's in-sync set
and leader (server/metadata.go: `metadataAPI.RemoveFromISR`, `AddToISR`, `ChangeLeader`, `SetReadonly`), translated from the code
(`ChangeGroupCoordinator` and `PausePartitions` are translated with them; no theorem here is about them). These are what
`Server.apply` (Props.GoFSM) calls with the Raft index as the epoch - on every server, live and on replay.

The partition / stream / group objects are external: their accessors are answered by fields, their mutators are recorded
(a local variable that holds a value of another type has its method names qualified, `partition.RemoveFromISR`, so that
it can never be taken for the `metadataAPI` method of the same name).
-/
import Liftbridge.Proofs.GoCodeBase
import Liftbridge.Gen.GoMetaApply

namespace Liftbridge.Props.GoMetaApply
open Liftbridge Liftbridge.GoMini Liftbridge.GoCode
open Liftbridge.Gen.GoMetaApply

theorem translation_complete : unsupported = [] := rfl

@[simp] theorem lk_4 : evalE.lookup' "ChangeGroupCoordinator" prog = some fn_metadataAPI_ChangeGroupCoordinator := by simp [prog, gomini]
@[simp] theorem lk_n : evalE.lookup' "GetConsumerGroup" prog = none := by simp [prog, gomini]
@[simp] theorem lk_o : evalE.lookup' "group.GetCoordinator" prog = none := by simp [prog, gomini]
@[simp] theorem lk_p : evalE.lookup' "group.SetCoordinator" prog = none := by simp [prog, gomini]

/-- `*partition` as the apply functions see it: its epoch and its leader (accessors), an identity -/
def encPart (pEpoch : Int) (leader : String) : Val :=
  .struct [("id", .str "the-partition"), ("partition.GetEpoch", .int pEpoch), ("partition.GetLeader", .tup [.str leader, .int 0])]

/-- the metadata store: the broker load tables (maps keyed by server id) -/
def encMeta (leaderLoad : List (String × Val)) : Val :=
  .struct [("stats", .struct [("brokerLeaderLoad", .struct leaderLoad), ("brokerCoordinatorLoad", .struct leaderLoad)])]

/-- `found`: the partition the look-up answers (none: unknown); `changeFails`: the partition-level change is refused -/
def maExt (found : Option Val) (changeFails : Bool) : Ext := fun f _ _ =>
  if f = "GetPartition" ∨ f = "GetConsumerGroup" ∨ f = "GetStream" then some (found.getD .nil)
  else if f = "partition.RemoveFromISR" ∨ f = "partition.AddToISR" ∨ f = "partition.SetLeader" ∨ f = "group.SetCoordinator"
      ∨ f = "stream.SetReadonly" then
    some (if changeFails then .str "refused" else .nil)
  else if f = "fmt.Errorf" then some (.str "no-such")
  else if f = "errors.Wrap" then some (.str "wrapped")
  else if f = "fmt.Sprintf" then some (.str "msg")
  else none

/-- the mutating calls among the effects (look-ups, locks and message formatting dropped) -/
def mutators (eff : List (String × List Val)) : List (String × List Val) :=
  eff.filter fun e => e.1 = "partition.RemoveFromISR" ∨ e.1 = "partition.AddToISR" ∨ e.1 = "partition.SetEpoch"
    ∨ e.1 = "partition.SetLeader" ∨ e.1 = "dropPartitionFailover" ∨ e.1 = "group.SetCoordinator" ∨ e.1 = "stream.SetReadonly"

/-- (returned an error?, the mutating calls in order) -/
def view : R Out → Option (Bool × List (String × List Val))
  | .ok o => match o.rets with
    | [e] => some (!isNil e, mutators o.eff)
    | _ => none
  | _ => none

/-- What an in-sync-set change does when applied: an unknown partition is an error and nothing is called; an entry whose epoch
is NOT ABOVE the partition's epoch changes NOTHING (replay idempotency, and: the partition epoch never decreases); otherwise
exactly the partition's own `RemoveFromISR(replica)` / `AddToISR(replica)` and then `SetEpoch(epoch)`; when the change itself
fails the epoch is NOT advanced. -/
def isrApplySpec (call : String) (found : Bool) (pEpoch epoch : Int) (replica : String) (changeFails : Bool) :
    Bool × List (String × List Val) :=
  if !found then (true, [])
  else if pEpoch ≥ epoch then (false, [])
  else if changeFails then (true, [(call, [.str replica])])
  else (false, [(call, [.str replica]), ("partition.SetEpoch", [.int epoch])])

theorem go_RemoveFromISR (stream replica leader : String) (pid pEpoch epoch : Int) (found changeFails : Bool)
    (load : List (String × Val)) :
    view (runG prog (maExt (if found then some (encPart pEpoch leader) else none) changeFails) 30 "RemoveFromISR"
        (some (encMeta load)) [.str stream, .str replica, .int pid, .int epoch] []) =
      some (isrApplySpec "partition.RemoveFromISR" found pEpoch epoch replica changeFails) := by
  cases found
  · rfl
  · -- the one test on symbolic values is the epoch fence (statement 2)
    rw [runG_eq rfl rfl, runBlock_ite_at 2 rfl rfl rfl rfl]
    by_cases h : pEpoch ≥ epoch
    · simp [isrApplySpec, h]; rfl
    · cases changeFails <;> simp [isrApplySpec, h] <;> rfl

theorem go_AddToISR (stream replica leader : String) (pid pEpoch epoch : Int) (found changeFails : Bool)
    (load : List (String × Val)) :
    view (runG prog (maExt (if found then some (encPart pEpoch leader) else none) changeFails) 30 "AddToISR"
        (some (encMeta load)) [.str stream, .str replica, .int pid, .int epoch] []) =
      some (isrApplySpec "partition.AddToISR" found pEpoch epoch replica changeFails) := by
  cases found
  · rfl
  · rw [runG_eq rfl rfl, runBlock_ite_at 2 rfl rfl rfl rfl]
    by_cases h : pEpoch ≥ epoch
    · simp [isrApplySpec, h]; rfl
    · cases changeFails <;> simp [isrApplySpec, h] <;> rfl

/-- consequence, in words of the property: an applied in-sync-set change never lowers the partition epoch - the epoch is only
ever set to a value strictly above the current one -/
theorem isrApply_epoch_increases (call : String) (found : Bool) (pEpoch epoch : Int) (replica : String) (changeFails : Bool) :
    ("partition.SetEpoch", [Val.int epoch]) ∈ (isrApplySpec call found pEpoch epoch replica changeFails).2 → pEpoch < epoch := by
  unfold isrApplySpec
  cases found <;> simp
  by_cases h : epoch ≤ pEpoch
  · simp [h]
  · intro _; omega

/-- What a leader change does when applied: the same fence; otherwise `SetLeader(leader, epoch)`, `SetEpoch(epoch)`, and THEN
the reports collected about the previous leader are dropped (`dropPartitionFailover(partition)`: the seeded C07 changes that let
a report about the old leader count against the new one remove exactly this call). A refused `SetLeader` (Props.GoAck: an
epoch below the leader epoch) changes nothing else. -/
def leaderApplySpec (found : Bool) (pEpoch epoch : Int) (leader : String) (part : Val) (changeFails : Bool) :
    Bool × List (String × List Val) :=
  if !found then (true, [])
  else if pEpoch ≥ epoch then (false, [])
  else if changeFails then (true, [("partition.SetLeader", [.str leader, .int epoch])])
  else (false, [("partition.SetLeader", [.str leader, .int epoch]), ("partition.SetEpoch", [.int epoch]),
                ("dropPartitionFailover", [part])])

/-- (error?, mutating calls, the leader-load table afterwards) -/
def viewL : R Out → Option (Bool × List (String × List Val) × Option Val)
  | .ok o => match o.rets with
    | [e] => some (!isNil e, mutators o.eff,
        match o.recv with
        | some (.struct [("stats", .struct [("brokerLeaderLoad", t), _])]) => some t
        | _ => none)
    | _ => none
  | _ => none

/-- the load table restricted to the two servers involved (Go's zero value for a missing key is not modelled by the
embedding: both servers have an entry) -/
def load2 (oldLeader leader : String) (a b : Int) : List (String × Val) := [(oldLeader, .int a), (leader, .int b)]

/-- the fence and the refusals: nothing but (at most) the refused `SetLeader` is called, the load table is untouched -/
theorem go_ChangeLeader_refused (stream leader oldLeader : String) (pid pEpoch epoch a b : Int) (found changeFails : Bool)
    (h : found = false ∨ pEpoch ≥ epoch ∨ changeFails = true) :
    viewL (runG prog (maExt (if found then some (encPart pEpoch oldLeader) else none) changeFails) 30 "ChangeLeader"
        (some (encMeta (load2 oldLeader leader a b))) [.str stream, .str leader, .int pid, .int epoch] []) =
      some ((leaderApplySpec found pEpoch epoch leader (encPart pEpoch oldLeader) changeFails).1,
            (leaderApplySpec found pEpoch epoch leader (encPart pEpoch oldLeader) changeFails).2,
            some (.struct (load2 oldLeader leader a b))) := by
  cases found
  · rfl
  · rw [runG_eq rfl rfl, runBlock_ite_at 2 rfl rfl rfl rfl]
    by_cases hge : pEpoch ≥ epoch
    · simp [leaderApplySpec, hge]; rfl
    · obtain rfl : changeFails = true := by simpa [hge] using h
      simp [leaderApplySpec, hge]; rfl

/-- an applied leader change: SetLeader, SetEpoch, the reports about the previous leader dropped - in that order -, one unit
of leader load moved from the old leader (never below zero) to the new one -/
theorem go_ChangeLeader_applied (stream leader oldLeader : String) (pid pEpoch epoch a b : Int)
    (hlt : pEpoch < epoch) (hne : oldLeader ≠ leader) :
    viewL (runG prog (maExt (some (encPart pEpoch oldLeader)) false) 30 "ChangeLeader"
        (some (encMeta (load2 oldLeader leader a b))) [.str stream, .str leader, .int pid, .int epoch] []) =
      some (false,
            [("partition.SetLeader", [.str leader, .int epoch]), ("partition.SetEpoch", [.int epoch]),
             ("dropPartitionFailover", [encPart pEpoch oldLeader])],
            some (.struct (load2 oldLeader leader (if a > 0 then a - 1 else a) (b + 1)))) := by
  have hge : ¬ pEpoch ≥ epoch := by omega
  have hne' : ¬ leader = oldLeader := fun h => hne h.symm
  -- past the fence (statement 2) the calls on the partition run as a closed computation
  rw [runG_eq rfl rfl, runBlock_ite_at 2 rfl rfl rfl rfl, decide_eq_false hge, andThen_block rfl, runBlock_take 5 rfl]
  -- the load table is keyed by the symbolic names: its update by rewriting
  by_cases ha : a > 0 <;>
  simp [prog, gomini, Out.of, viewL, maExt, encMeta, encPart, binVal, binInt, isNil, mutators,
    St.log, lookup, update, load2, hne', ha, getField, setField, setPath]

/-- `leaderApplySpec` on the applied branch is that list (the two theorems cover every case of the code) -/
theorem leaderApplySpec_applied (pEpoch epoch : Int) (leader : String) (part : Val) (hlt : pEpoch < epoch) :
    leaderApplySpec true pEpoch epoch leader part false =
      (false, [("partition.SetLeader", [.str leader, .int epoch]), ("partition.SetEpoch", [.int epoch]),
               ("dropPartitionFailover", [part])]) := by
  have hge : ¬ pEpoch ≥ epoch := by omega
  simp [leaderApplySpec, hge]

/-- the reports about the previous leader are dropped by EVERY applied leader change, and only after the new leader and epoch
were recorded -/
theorem drop_after_setLeader (found : Bool) (pEpoch epoch : Int) (leader : String) (part : Val) (changeFails : Bool) :
    ("partition.SetEpoch", [Val.int epoch]) ∈ (leaderApplySpec found pEpoch epoch leader part changeFails).2 →
    ("dropPartitionFailover", [part]) ∈ (leaderApplySpec found pEpoch epoch leader part changeFails).2 := by
  unfold leaderApplySpec
  cases found <;> cases changeFails <;> simp <;> (by_cases h : epoch ≤ pEpoch <;> simp [h])

/-- unknown stream -> ErrStreamNotFound, else exactly one `stream.SetReadonly(partitions, readonly)` -/
theorem go_SetReadonly (stream : String) (parts : List Val) (ro found fails : Bool) (load : List (String × Val)) :
    view (runG prog (maExt (if found then some (.struct [("id", .str "the-stream")]) else none) fails) 30 "SetReadonly"
        (some (encMeta load)) [.str stream, .list parts, .bool ro] [("ErrStreamNotFound", .str "ErrStreamNotFound")]) =
      some (if !found then (true, []) else (fails, [("stream.SetReadonly", [.list parts, .bool ro])])) := by
  cases found <;> cases fails <;> rfl

/-- non-vacuity: epoch 7 applied to a partition at epoch 5 led by "a": the three calls; at epoch 7 already: nothing -/
example : (leaderApplySpec true 5 7 "b" .nil false).2.length = 3 ∧ (leaderApplySpec true 7 7 "b" .nil false).2 = [] := by
  decide

end Liftbridge.Props.GoMetaApply
