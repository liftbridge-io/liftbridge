/-
The hand-over decision of the consumer-group model IS the translated Go code.

`Gen/GoGroupSub.lean` holds `partition.Subscribe` and `partition.removeGroupSubscriber` of
server/partition.go. For EVERY registry `p.consumers`, group, consumer, epoch and every outcome of
what the model treats as a parameter (start/stop resolution, the range check, reader creation): the
translated `Subscribe` refuses exactly when `GroupSub.refusedBy` does, returns before touching the
previous member exactly in the model's `early` case, closes the previous member's subscription and
returns without registering in the `late` case, and otherwise closes the previous member (if any),
starts the loop and registers the new member under the group — `GroupSub.subscribe`.
`removeGroupSubscriber` deletes the group's entry exactly when it still names the given subscription
(`GroupSub.cleanup` with `bySub`). Locks are dropped by the translation (the atomicity of the
section is the model's granularity assumption).
-/
import Liftbridge.Proofs.GoCodeBase
import Liftbridge.Gen.GoGroupSub
import Liftbridge.Model.GroupSub
import Liftbridge.Proofs.GroupSub

namespace Liftbridge.Props.GoGroupSub
open Liftbridge Liftbridge.GoMini Liftbridge.GoCode
open Liftbridge.Gen.GoGroupSub

theorem translation_complete : unsupported = [] := rfl

/-- `*groupMember`; the subscription pointer is the subscription's id -/
def encMember (m : GroupSub.Member) : Val :=
  .struct [("consumerID", .str m.consumer), ("groupEpoch", .int m.epoch), ("sub", .int m.subId)]

/-- `p.consumers` -/
def encConsumers (cs : List (String × GroupSub.Member)) : List (String × Val) := cs.map fun kv => (kv.1, encMember kv.2)

theorem lookup_enc (g : String) : ∀ cs : List (String × GroupSub.Member),
    lookup g (encConsumers cs) = (GroupSub.lookup g cs).map encMember
  | [] => rfl
  | (k, m) :: rest => by
    have ih := lookup_enc g rest
    by_cases h : k = g <;> simp_all [encConsumers, GoMini.lookup, GroupSub.lookup, eq_comm]

theorem eraseKey_enc (g : String) : ∀ cs : List (String × GroupSub.Member),
    eraseKey g (encConsumers cs) = encConsumers (GroupSub.del g cs)
  | [] => rfl
  | (k, m) :: rest => by
    have ih := eraseKey_enc g rest
    by_cases h : k = g <;> simp_all [encConsumers, eraseKey, GroupSub.del]

theorem lk (f : String) : evalE.lookup' f prog =
    if f = "Subscribe" then some fn_partition_Subscribe
    else if f = "removeGroupSubscriber" then some fn_partition_removeGroupSubscriber else none := by rfl
@[simp] theorem sig_b : fn_partition_removeGroupSubscriber.recv = some "p" ∧ fn_partition_removeGroupSubscriber.params = ["groupID", "sub"] := ⟨rfl, rfl⟩

theorem facts : Gen.GroupSub.refuseCmp = .gt ∧ Gen.GroupSub.cleanupBySubscription = true := by decide

/-- `removeGroupSubscriber(g, sub)`: the registry afterwards is the model's `cleanup` (by subscription) -/
theorem go_removeGroupSubscriber (cs : List (String × GroupSub.Member)) (l : GroupSub.Loop) (hg : l.group ≠ "") :
    (match run prog noExt 20 "removeGroupSubscriber" (some (.struct [("consumers", .struct (encConsumers cs))])) [.str l.group, .int l.subId] with
     | .ok o => o.recv
     | _ => none) =
      some (.struct [("consumers", .struct (encConsumers (GroupSub.cleanup GroupSub.Cfg.current cs l)))]) := by
  cases hl : GroupSub.lookup l.group cs with
  | none =>
    simp [run, runG, lk, fn_partition_removeGroupSubscriber, gomini, lookup_enc, hl, GroupSub.cleanup, hg]
  | some m =>
    by_cases hs : m.subId = l.subId
    · simp [run, runG, lk, fn_partition_removeGroupSubscriber, gomini, lookup_enc, hl, GroupSub.cleanup, hg,
        encMember, binInt, hs, GroupSub.cleanupMatches, GroupSub.Cfg.current, facts, eraseKey_enc]
    · have hs' : ¬ ((m.subId : Int) = (l.subId : Int)) := by omega
      simp [run, runG, lk, fn_partition_removeGroupSubscriber, gomini, lookup_enc, hl, GroupSub.cleanup, hg, encMember, binInt,
        hs, hs', GroupSub.cleanupMatches, GroupSub.Cfg.current, facts]

/-- what the model treats as parameters of a subscribe step -/
structure Env where
  start : Int
  startOK : Bool
  stop : Int
  stopOK : Bool
  readerOK : Bool
  reverse : Bool
  deriving Repr

def subExt (x : Env) : Ext := fun f args _ =>
  if f = "getStartOffset" then some (.tup [.int x.start, if x.startOK then .nil else .str "status: start"])
  else if f = "getStopOffset" then some (.tup [.int x.stop, if x.stopOK then .nil else .str "status: stop"])
  else if f = "NewReader" ∨ f = "NewReverseReader" then
    some (.tup [.struct [("reader", .str f)], if x.readerOK then .nil else .str "error: reader"])
  else if f = "status.New" then
    match args with
    | .int code :: _ => some (.struct [("code", .int code)])
    | _ => none
  else none

def globals : List (String × Val) :=
  [("codes.FailedPrecondition", .int 9), ("codes.InvalidArgument", .int 3), ("codes.Internal", .int 13), ("waitForNewMessages", .int (-1))]

def encReq (g c : String) (e : Nat) (x : Env) : Val :=
  .struct [("Consumer", .struct [("GroupId", .str g), ("ConsumerId", .str c), ("GroupEpoch", .int e)]), ("Reverse", .bool x.reverse)]

def encPart (cs : List (String × GroupSub.Member)) : Val :=
  .struct [("consumers", .struct (encConsumers cs)), ("log", .struct []), ("srv", .struct [])]

inductive Kind where
  | accepted | refused | invalid | readerFailed | other
  deriving Repr, DecidableEq

/-- (answer, was `Close` called on the previous member's subscription, who is registered under `g` afterwards) -/
def goView (g : String) : R Out → Option (Kind × Bool × Option (Val × Val))
  | .ok o =>
    let kind : Kind := match o.rets with
      | [.struct _, .nil] => .accepted
      | [.nil, .struct [("code", .int 9)]] => .refused
      | [.nil, .struct [("code", .int 3)]] => .invalid
      | [.nil, .str _] => .invalid
      | [.nil, .struct [("code", .int 13)]] => .readerFailed
      | _ => .other
    let closed := o.eff.any fun ev => ev.1 = "Close"
    let reg := match o.recv with
      | some (.struct fs) => (match lookup "consumers" fs with
        | some (.struct ms) => (match lookup g ms with
          | some (.struct m) => (match lookup "consumerID" m, lookup "groupEpoch" m with
            | some a, some b => some (a, b)
            | _, _ => none)
          | _ => none)
        | _ => none)
      | _ => none
    some (kind, closed, reg)
  | _ => none

/-- the range check of `Subscribe` (part of the model's `early` outcome) -/
def rangeOK (x : Env) : Bool :=
  x.stop = -1 || (if x.reverse then decide (x.stop ≤ x.start) else decide (x.start ≤ x.stop))

/-- the outcome parameter of the model's subscribe step -/
def outcome (x : Env) : GroupSub.Outcome :=
  if !(x.startOK && x.stopOK && rangeOK x) then .early else if !x.readerOK then .late else .ok

def memberView (m : GroupSub.Member) : Val × Val := (.str m.consumer, .int m.epoch)

/-- what the model's `subscribe` does, in the same terms -/
def modelView (cs : List (String × GroupSub.Member)) (g c : String) (e : Nat) (x : Env) : Kind × Bool × Option (Val × Val) :=
  let prev := GroupSub.lookup g cs
  if GroupSub.refusedBy GroupSub.Cfg.current prev e then (.refused, false, prev.map memberView)
  else match outcome x with
    | .early => (.invalid, false, prev.map memberView)
    | .late => (.readerFailed, prev.isSome, prev.map memberView)
    | .ok => (.accepted, prev.isSome, some (.str c, .int e))

@[simp] theorem sig_a : fn_partition_Subscribe.recv = some "p" ∧ fn_partition_Subscribe.params = ["ctx", "req"] := ⟨rfl, rfl⟩

section
variable (cs : List (String × GroupSub.Member)) (g c : String) (e : Nat) (x : Env)

def start : St :=
  { env := envOf ([("p", encPart cs), ("ctx", .struct []), ("req", encReq g c e x)] ++ globals), eff := [] }

theorem Subscribe_run :
    runG prog (subExt x) 40 "Subscribe" (some (encPart cs)) [.struct [], encReq g c e x] globals =
      Out.of (some "p") (runBlock (exec prog (subExt x) 40) fn_partition_Subscribe.body (start cs g c e x)) :=
  runG_eq rfl rfl

theorem goView_untouched (rets : List Val) (eff : List (String × List Val)) :
    goView g (.ok ⟨rets, some (.struct [("consumers", .struct (encConsumers cs)), ("log", .struct []), ("srv", .struct [])]), eff⟩) =
      (goView g (.ok ⟨rets, none, eff⟩)).map fun v => (v.1, v.2.1, (GroupSub.lookup g cs).map memberView) := by
  cases h : GroupSub.lookup g cs <;> simp [goView, gomini, lookup_enc, h, encMember, memberView]

/-- a subscriber older than the registered member is refused; nothing is touched -/
theorem go_Subscribe_refused (hg : g ≠ "")
    (m : GroupSub.Member) (hm : GroupSub.lookup g cs = some m) (hr : e < m.epoch) :
    goView g (runG prog (subExt x) 40 "Subscribe" (some (encPart cs)) [.struct [], encReq g c e x] globals) =
      some (modelView cs g c e x) := by
  have hr' : ((e : Int) < (m.epoch : Int)) := by omega
  have hmod : modelView cs g c e x = (.refused, false, (GroupSub.lookup g cs).map memberView) := by
    simp [modelView, hm, GroupSub.refusedBy, GroupSub.Cfg.current, facts, Cmp.evalNat, hr]
  rw [hmod, Subscribe_run]
  simp [Out.of, start, lk, fn_partition_Subscribe, gomini, encReq, encPart, lookup_enc, hm, hg, encMember, binInt, hr', subExt, globals]
  rw [goView_untouched, hm]; rfl

/-- the state after statements 0–5; `pv` is what is registered under the group -/
def looked (pv : Val) (ok : Bool) : St :=
  (start cs g c e x).setAll [("previousSubscriber", .nil), ("groupID", .str ""), ("consumerID", .str ""), ("groupEpoch", .int 0),
    ("groupID", .str g), ("consumerID", .str c), ("groupEpoch", .int e), ("existing", pv), ("ok", .bool ok),
    ("previousSubscriber", pv)]

theorem Subscribe_lookup (hg : g ≠ "")
    (prev : Option GroupSub.Member) (hm : GroupSub.lookup g cs = prev) (he : ∀ m ∈ prev, m.epoch ≤ e) :
    runBlock (exec prog (subExt x) 40) (fn_partition_Subscribe.body.take 6) (start cs g c e x) =
      .ok (.next, looked cs g c e x ((prev.map encMember).getD .nil) prev.isSome) := by
  obtain _ | m := prev
  · simp [fn_partition_Subscribe, gomini, start, looked, St.setAll, encReq, encPart, lookup_enc, hm, hg]
    -- nothing is registered: `previousSubscriber` is not assigned again, it still holds the nil `looked` binds it to
    exact (St.set_known rfl).symm
  · have he1 : ¬ ((e : Int) < (m.epoch : Int)) := by have := he m rfl; omega
    simp [fn_partition_Subscribe, gomini, start, looked, St.setAll, encReq, encPart, lookup_enc, hm, hg, encMember, binInt, he1]

/-- what the rest of the body reads of the state `looked`, the most often read last: a run from `st.setAll (reads …)` finds
`p` and `req` at once instead of below every local variable -/
def reads (pv : Val) : List (String × Val) :=
  [("codes.Internal", .int 13), ("codes.InvalidArgument", .int 3), ("waitForNewMessages", .int (-1)), ("ctx", .struct []),
    ("groupEpoch", .int e), ("consumerID", .str c), ("previousSubscriber", pv), ("groupID", .str g), ("req", encReq g c e x),
    ("p", encPart cs)]

theorem looked_binds (pv : Val) (ok : Bool) :
    (looked cs g c e x pv ok).Binds (reads cs g c e x pv) := ⟨rfl, rfl, rfl, rfl, rfl, rfl, rfl, rfl, rfl, rfl, trivial⟩

theorem Subscribe_early (pv : Val)
    (st : St) (hst : st.Binds (reads cs g c e x pv)) (heff : st.eff = [])
    (hv : ¬ (x.startOK = true ∧ x.stopOK = true ∧ rangeOK x = true)) :
    goView g (Out.of (some "p") (runBlock (exec prog (subExt x) 40) (fn_partition_Subscribe.body.drop 6) st)) =
      some (.invalid, false, (GroupSub.lookup g cs).map memberView) := by
  rw [← St.Binds.setAll hst]
  obtain ⟨so, sok, eo, eok, rok, rev⟩ := x
  cases sok
  · simp [Out.of, St.setAll, reads, lk, fn_partition_Subscribe, gomini, encReq, encPart, subExt, heff]
    rw [goView_untouched]; rfl
  cases eok
  · simp [Out.of, St.setAll, reads, lk, fn_partition_Subscribe, gomini, encReq, encPart, subExt, heff]
    rw [goView_untouched]; rfl
  cases rev
  · obtain ⟨h1, h2⟩ : eo ≠ -1 ∧ eo < so := by simpa [rangeOK] using hv
    simp [Out.of, St.setAll, reads, lk, fn_partition_Subscribe, gomini, encReq, encPart, subExt, binInt, heff, h1, h2]
    rw [goView_untouched]; rfl
  · obtain ⟨h1, h2⟩ : eo ≠ -1 ∧ so < eo := by simpa [rangeOK] using hv
    simp [Out.of, St.setAll, reads, lk, fn_partition_Subscribe, gomini, encReq, encPart, subExt, binInt, heff, h1, h2]
    rw [goView_untouched]; rfl

def ranged (st : St) : St :=
  (((st.log "getStartOffset" [encReq g c e x]).setAll [("startOffset", .int x.start), ("st", .nil)]).log
    "getStopOffset" [encReq g c e x]).setAll [("stopOffset", .int x.stop), ("st", .nil)]

theorem Subscribe_validated (pv : Val) (st : St)
    (hst : st.Binds (reads cs g c e x pv)) (h1 : x.startOK = true) (h2 : x.stopOK = true) (h3 : rangeOK x = true) :
    runBlock (exec prog (subExt x) 40) ((fn_partition_Subscribe.body.drop 6).take 5) st = .ok (.next, ranged g c e x st) := by
  rw [← St.Binds.setAll hst]
  obtain ⟨so, sok, eo, eok, rok, rev⟩ := x
  subst h1 h2
  by_cases h : eo = -1
  · simp [lk, fn_partition_Subscribe, gomini, ranged, reads, St.setAll, encReq, encPart, subExt, binInt, h]
  · cases rev
    · have h' : ¬ eo < so := by simpa [rangeOK, h] using h3
      simp [lk, fn_partition_Subscribe, gomini, ranged, reads, St.setAll, encReq, encPart, subExt, binInt, h, h']
    · have h' : ¬ so < eo := by simpa [rangeOK, h] using h3
      simp [lk, fn_partition_Subscribe, gomini, ranged, reads, St.setAll, encReq, encPart, subExt, binInt, h, h']

def handoverReads : List (String × Val) :=
  [("codes.Internal", .int 13), ("ctx", .struct []), ("consumerID", .str c), ("groupEpoch", .int e), ("stopOffset", .int x.stop),
    ("startOffset", .int x.start), ("groupID", .str g), ("req", encReq g c e x), ("p", encPart cs)]

theorem ranged_binds {pv : Val} {st : St}
    (hst : st.Binds (reads cs g c e x pv)) : (ranged g c e x st).Binds (handoverReads cs g c e x) := by
  rw [← St.Binds.setAll hst]
  exact ⟨rfl, rfl, rfl, rfl, rfl, rfl, rfl, rfl, rfl, trivial⟩

theorem Subscribe_handover (hg : g ≠ "")
    (st : St) (hst : st.Binds (handoverReads cs g c e x)) :
    goView g (Out.of (some "p") (runBlock (exec prog (subExt x) 40) (fn_partition_Subscribe.body.drop 12) st)) =
      some (if x.readerOK then .accepted else .readerFailed, st.eff.any fun ev => ev.1 = "Close",
        if x.readerOK then some (.str c, .int e) else (GroupSub.lookup g cs).map memberView) := by
  rw [← St.Binds.setAll hst]
  clear hst
  obtain ⟨so, sok, eo, eok, rok, rev⟩ := x
  cases rok
  · cases rev <;>
      (simp [Out.of, St.setAll, handoverReads, lk, fn_partition_Subscribe, gomini, encReq, encPart, subExt]
       rw [goView_untouched]
       simp [goView])
  · cases rev <;>
      simp [Out.of, St.setAll, handoverReads, lk, fn_partition_Subscribe, gomini, encReq, encPart, subExt, goView, hg]

theorem Subscribe_tail (hg : g ≠ "")
    (prev : Option GroupSub.Member) (hm : GroupSub.lookup g cs = prev) (he : ∀ m ∈ prev, m.epoch ≤ e)
    (st : St) (hst : st.Binds (reads cs g c e x ((prev.map encMember).getD .nil))) (heff : st.eff = []) :
    goView g (Out.of (some "p") (runBlock (exec prog (subExt x) 40) (fn_partition_Subscribe.body.drop 6) st)) =
      some (modelView cs g c e x) := by
  by_cases hv : x.startOK = true ∧ x.stopOK = true ∧ rangeOK x = true
  · -- the offsets are in order: the previous member's subscription is closed (statement 11), then the hand-over
    rw [runBlock_take 5 (Subscribe_validated cs g c e x _ st hst hv.1 hv.2.1 hv.2.2)]
    have hb := ranged_binds cs g c e x hst
    obtain ⟨h1, h2, h3⟩ := hv
    obtain _ | m := prev
    · rw [runBlock_take 1 (st' := ranged g c e x st) (by rw [← St.Binds.setAll hst]; rfl)]
      rw [show List.drop 1 (List.drop 5 (List.drop 6 fn_partition_Subscribe.body)) = List.drop 12 fn_partition_Subscribe.body from rfl,
        Subscribe_handover cs g c e x hg _ hb]
      simp [ranged, St.setAll, gomini, heff, modelView, GroupSub.refusedBy, outcome, h1, h2, h3, hm]
      cases x.readerOK <;> rfl
    · have he2 : ¬ e < m.epoch := by have := he m rfl; omega
      rw [runBlock_take 1 (st' := (ranged g c e x st).log "Close" []) (by rw [← St.Binds.setAll hst]; rfl)]
      rw [show List.drop 1 (List.drop 5 (List.drop 6 fn_partition_Subscribe.body)) = List.drop 12 fn_partition_Subscribe.body from rfl,
        Subscribe_handover cs g c e x hg ((ranged g c e x st).log "Close" []) hb]
      simp [ranged, St.setAll, gomini, heff, modelView, GroupSub.refusedBy, outcome, h1, h2, h3, hm, he2, GroupSub.Cfg.current,
        facts, Cmp.evalNat]
      cases x.readerOK <;> rfl
  · have ho : outcome x = .early := by
      have : (x.startOK && x.stopOK && rangeOK x) = false := by
        cases h1 : x.startOK <;> cases h2 : x.stopOK <;> cases h3 : rangeOK x <;> simp_all
      simp [outcome, this]
    rw [Subscribe_early cs g c e x _ st hst heff hv]
    obtain _ | m := prev
    · simp [modelView, GroupSub.refusedBy, ho, hm]
    · have he2 : ¬ e < m.epoch := by have := he m rfl; omega
      simp [modelView, GroupSub.refusedBy, ho, hm, he2, GroupSub.Cfg.current, facts, Cmp.evalNat]


/-- a subscriber that is not refused (`prev` is the member registered under the group, if any): `Subscribe` = the model's step,
whatever the parameters; the previous member's subscription is closed exactly when the new request got past validation -/
theorem go_Subscribe_admitted (hg : g ≠ "")
    (prev : Option GroupSub.Member) (hm : GroupSub.lookup g cs = prev) (he : ∀ m ∈ prev, m.epoch ≤ e) :
    goView g (runG prog (subExt x) 40 "Subscribe" (some (encPart cs)) [.struct [], encReq g c e x] globals) =
      some (modelView cs g c e x) := by
  rw [Subscribe_run, runBlock_take 6 (Subscribe_lookup cs g c e x hg prev hm he)]
  exact Subscribe_tail cs g c e x hg prev hm he _ (looked_binds ..) rfl

end

/-- **`partition.Subscribe` = the model's subscribe step** for a group subscriber, whatever is registered and whatever
the parameters: answer, whether the previous member's subscription is closed, who is registered afterwards. -/
theorem go_Subscribe (cs : List (String × GroupSub.Member)) (g c : String) (e : Nat) (x : Env) (hg : g ≠ "") :
    goView g (runG prog (subExt x) 40 "Subscribe" (some (encPart cs)) [.struct [], encReq g c e x] globals) =
      some (modelView cs g c e x) := by
  cases hm : GroupSub.lookup g cs with
  | none => exact go_Subscribe_admitted cs g c e x hg none hm (by simp)
  | some m =>
    by_cases he : e < m.epoch
    · exact go_Subscribe_refused cs g c e x hg m hm he
    · exact go_Subscribe_admitted cs g c e x hg (some m) hm (by simp; omega)

def kindOf : GroupSub.Reply → Kind
  | .sub _ => .accepted
  | .refused => .refused
  | .invalid => .invalid
  | .readerFailed => .readerFailed
  | _ => .other

/-- `modelView` is the model: the reply and the registry entry of `GroupSub.subscribe`, and the previous member is
closed exactly when the step goes through `closePrev` with a registered member -/
theorem model_agrees (s : GroupSub.State) (g c : String) (e : Nat) (x : Env) (hg : g ≠ "") :
    let r := GroupSub.subscribe GroupSub.Cfg.current s g c e (outcome x)
    (modelView s.consumers g c e x).1 = kindOf r.2 ∧
    (modelView s.consumers g c e x).2.2 = (GroupSub.lookup g r.1.consumers).map memberView ∧
    ((modelView s.consumers g c e x).2.1 = false → outcome x ≠ .ok → r.1.loops = s.loops) := by
  simp only [modelView, GroupSub.subscribe, GroupSub.existing, hg, if_false]
  cases hp : GroupSub.lookup g s.consumers with
  | none =>
    cases ho : outcome x <;>
      simp [GroupSub.refusedBy, kindOf, GroupSub.closePrev, GroupSub.register, hg, Proofs.GroupSub.lookup_put, memberView, hp]
  | some m =>
    by_cases hr : GroupSub.refusedBy GroupSub.Cfg.current (some m) e = true
    · simp [hr, kindOf, hp]
    · cases ho : outcome x <;>
        simp [hr, kindOf, GroupSub.closePrev, GroupSub.register, hg, Proofs.GroupSub.lookup_put, memberView, hp]

/-! ### non-vacuity -/
def mA : GroupSub.Member := { consumer := "A", epoch := 2, subId := 0 }
def envOK : Env := { start := 0, startOK := true, stop := -1, stopOK := true, readerOK := true, reverse := false }
example : modelView [("g", mA)] "g" "B" 1 envOK = (.refused, false, some (.str "A", .int 2)) := by
  simp [modelView, GroupSub.lookup, GroupSub.refusedBy, GroupSub.Cfg.current, facts, Cmp.evalNat, mA, memberView]
example : modelView [("g", mA)] "g" "B" 2 envOK = (.accepted, true, some (.str "B", .int 2)) := by
  simp [modelView, GroupSub.lookup, GroupSub.refusedBy, GroupSub.Cfg.current, facts, Cmp.evalNat, mA, outcome, envOK, rangeOK]
example : modelView [("g", mA)] "g" "B" 3 { envOK with readerOK := false } = (.readerFailed, true, some (.str "A", .int 2)) := by
  simp [modelView, GroupSub.lookup, GroupSub.refusedBy, GroupSub.Cfg.current, facts, Cmp.evalNat, mA, outcome, envOK, rangeOK, memberView]

end Liftbridge.Props.GoGroupSub
