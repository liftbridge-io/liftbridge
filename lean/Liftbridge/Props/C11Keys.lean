/-
C11 is about (cursor id, stream, partition) TRIPLES; the cursors stream stores one record per KEY built by
`cursorManager.getCursorKey` = `fmt.Sprintf("%s,%s,%d", cursorID, streamName, partitionID)` (format string and
argument order regenerated: `Gen.Cursors.keyFormat`). The Cursors model is keyed by the key
BYTES, as the code is; C11's statement transfers to triples only where the key function is injective. It is not:

* `key_collision` — two different triples with the same key (replayed on the real server by `TestVerifC11Keys`:
  FetchCursor("a", "b,c", 0) returns what was set for ("a,b", "c", 0)); hence `keys_injective_asStated_false`.
  Recorded as a known finding (`cursor-key-collision`), not repaired: an unambiguous key changes the key of cursors
  already stored under ids or stream names that contain a comma.
* `key_injective_partial` — it is injective on ids and stream names WITHOUT a comma (every partition number): for
  those, what C11 says of a key it says of the triple.
-/
import Liftbridge.Gen.Cursors

namespace Liftbridge.Props.C11Keys
open Liftbridge

/-- the format the theorems are about (a changed format is a broken obligation here) -/
theorem format_is : Gen.Cursors.keyFormat = "%s,%s,%d" := by decide

/-- `fmt.Sprintf("%s,%s,%d", id, stream, part)` on character lists; `digits` = the decimal digits of the partition -/
def key (id stream digits : List Char) : List Char := id ++ [','] ++ stream ++ [','] ++ digits

def keyOf (id stream : String) (part : Nat) : List Char := key id.toList stream.toList (toString part).toList

/-- two different triples, one key -/
theorem key_collision : keyOf "a,b" "c" 0 = keyOf "a" "b,c" 0 ∧ ("a,b", "c") ≠ ("a", "b,c") := by decide

/-- injectivity of the key function on all triples is false -/
theorem keys_injective_asStated_false :
    ¬ (∀ (i1 s1 i2 s2 : String) (p1 p2 : Nat), keyOf i1 s1 p1 = keyOf i2 s2 p2 → (i1, s1, p1) = (i2, s2, p2)) := by
  intro h
  have := h "a,b" "c" "a" "b,c" 0 0 key_collision.1
  exact absurd this (by decide)

/-- splitting at the first separator is unique when the prefixes have none -/
theorem split_first {α} (c : α) : ∀ (a b x y : List α), c ∉ a → c ∉ b → a ++ c :: x = b ++ c :: y → a = b ∧ x = y
  | [], [], _, _, _, _, h => by simpa using h
  | [], d :: b, _, _, _, hb, h => by
    simp only [List.nil_append, List.cons_append, List.cons.injEq] at h
    exact absurd (h.1 ▸ List.mem_cons_self) hb
  | d :: a, [], _, _, ha, _, h => by
    simp only [List.nil_append, List.cons_append, List.cons.injEq] at h
    exact absurd (h.1 ▸ List.mem_cons_self) ha
  | d :: a, e :: b, x, y, ha, hb, h => by
    simp only [List.cons_append, List.cons.injEq] at h
    obtain ⟨e1, e2⟩ := split_first c a b x y (fun m => ha (List.mem_cons_of_mem _ m))
      (fun m => hb (List.mem_cons_of_mem _ m)) h.2
    exact ⟨by rw [h.1, e1], e2⟩

theorem split_first_comma : ∀ (a b x y : List Char), ',' ∉ a → ',' ∉ b → a ++ ',' :: x = b ++ ',' :: y → a = b ∧ x = y :=
  split_first ','

/-- three parts joined by a separator that the first two do not contain determine each other -/
theorem parts_injective {α} (c : α) {a b d a' b' d' : List α} (ha : c ∉ a) (hb : c ∉ b) (ha' : c ∉ a') (hb' : c ∉ b')
    (h : a ++ [c] ++ b ++ [c] ++ d = a' ++ [c] ++ b' ++ [c] ++ d') : a = a' ∧ b = b' ∧ d = d' := by
  simp only [List.append_assoc, List.singleton_append] at h
  obtain ⟨e1, h⟩ := split_first c a a' _ _ ha ha' h
  obtain ⟨e2, h⟩ := split_first c b b' _ _ hb hb' h
  exact ⟨e1, e2, h⟩

/-- **ids and stream names without a comma: the key determines the triple** (for digit strings without a comma, which
decimal numbers are) -/
theorem key_injective_partial (i1 s1 d1 i2 s2 d2 : List Char)
    (h1 : ',' ∉ i1) (h2 : ',' ∉ s1) (h3 : ',' ∉ i2) (h4 : ',' ∉ s2)
    (h : key i1 s1 d1 = key i2 s2 d2) : i1 = i2 ∧ s1 = s2 ∧ d1 = d2 :=
  parts_injective ',' h1 h2 h3 h4 h

/-- non-vacuity: the hypotheses hold for ordinary names -/
example : ',' ∉ "orders-consumer".toList ∧ ',' ∉ "orders".toList := by decide

end Liftbridge.Props.C11Keys
