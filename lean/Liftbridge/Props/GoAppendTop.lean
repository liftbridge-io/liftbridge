/-
C01 / C16 at the level of the function bodies: the two entry points of the commit log's write path - `commitLog.Append` (the
leader) and `commitLog.AppendMessageSet` (a follower replicating) - translated from server/commitlog/commitlog.go
(`Gen/GoAppendTop.lean`). The roll decision (`Props.GoSplit`), the stamping of a batch
(`Props.GoMessageSet`) and the write itself (`Props.GoAppend`, `Props.GoSegFiles`) are parameters here; what these theorems fix
is the ORDER in which they are combined: the active segment, its position and its next offset are read AFTER the roll check -
a batch that makes the log roll is stamped and indexed for the NEW segment (the seeded change
C01-replicated-set-indexed-before-roll reads the position before the check).

`go_Append_*`: a read-only log refuses before anything else happens; a failing roll or a refused batch (e.g. the
concurrency-control check) ends the call without any write; otherwise exactly one `append`, to the segment that is active after
the roll check, of the batch stamped with THAT segment's next offset and position and the log's concurrency-control setting.
`go_AppendMessageSet_*`: no read-only check (a follower must be able to replicate into a read-only log); the index entries are
computed at the position of the segment active after the roll check, and that segment receives the set.
-/
import Liftbridge.Proofs.GoCodeBase
import Liftbridge.Gen.GoAppendTop

namespace Liftbridge.Props.GoAppendTop
open Liftbridge Liftbridge.GoMini Liftbridge.GoCode
open Liftbridge.Gen.GoAppendTop

theorem translation_complete : unsupported = [] := rfl

def segV (name : String) (position next : Int) : Val := .struct [("name", .str name), ("Position", .int position), ("NextOffset", .int next)]

def errV : Option String → Val
  | some e => .str e
  | none => .nil

/-- the log's collaborators. The active segment is `old` until the roll check has run and rolled, `new` afterwards. -/
def topExt (readonly : Bool) (splitErr : Option String) (rolled occ : Bool) (stampErr : Option String) (old new : Val) : Ext := fun f args eff =>
  if f = "IsReadonly" then some (.bool readonly)
  else if f = "IsConcurrencyControlEnabled" then some (.bool occ)
  else if f = "checkAndPerformSplit" then some (.tup [.bool rolled, errV splitErr])
  else if f = "activeSegment" then some (if rolled && eff.any (fun e => e.1 = "checkAndPerformSplit") then new else old)
  else if f = "newMessageSetFromProto" then
    match args with
    | [bo, bp, _, o] => some (.tup [.struct [("stampedAt", .list [bo, bp, o])], .str "entries", errV stampErr])
    | _ => none
  else if f = "entriesForMessageSet" then
    match args with
    | [bp, _] => some (.struct [("entriesAt", bp)])
    | _ => none
  else if f = "append" then some (.tup [.list [], .nil])
  else none

/-- (error returned, the `append` calls with their arguments: segment, message set, entries) -/
def topView : R Out → Option (Val × List (List Val))
  | .ok o => some (o.rets.getD 1 .nil, (o.eff.filter fun e => e.1 = "append").map (·.2))
  | _ => none

def lV : Val := .struct [("kind", .str "commit log")]
def globals : List (String × Val) := [("ErrCommitLogReadonly", .str "ErrCommitLogReadonly")]

theorem go_Append_readonly (splitErr stampErr : Option String) (rolled occ : Bool) (old new msgs : Val) :
    topView (runG prog (topExt true splitErr rolled occ stampErr old new) 30 "Append" (some lV) [msgs] globals) =
      some (.str "ErrCommitLogReadonly", []) := by
  rfl

theorem go_Append_refused (splitErr stampErr : Option String) (rolled occ : Bool) (old new msgs : Val) (pn nn : Int)
    (hnew : new = segV "new" 0 nn) (hold : old = segV "old" pn nn) (h : splitErr.isSome ∨ stampErr.isSome) :
    ∃ e, topView (runG prog (topExt false splitErr rolled occ stampErr old new) 30 "Append" (some lV) [msgs] globals) = some (.str e, []) := by
  subst hnew hold
  cases splitErr with
  | some e => exact ⟨e, rfl⟩
  | none =>
    cases stampErr with
    | none => simp at h
    | some e => exact ⟨e, by cases rolled <;> rfl⟩

/-- one append, to the segment active AFTER the roll check, stamped with that segment's next offset and position -/
theorem go_Append_ok (rolled occ : Bool) (msgs : Val) (po no nn : Int) :
    topView (runG prog (topExt false none rolled occ none (segV "old" po no) (segV "new" 0 nn)) 30 "Append" (some lV) [msgs] globals) =
      some (.nil, [[if rolled then segV "new" 0 nn else segV "old" po no,
                    .struct [("stampedAt", .list [.int (if rolled then nn else no), .int (if rolled then 0 else po), .bool occ])], .str "entries"]]) := by
  cases rolled <;> rfl

/-- replication: no read-only check; the entries are computed at the position of the segment active after the roll check -/
theorem go_AppendMessageSet_ok (readonly rolled occ : Bool) (ms : Val) (po no nn : Int) :
    topView (runG prog (topExt readonly none rolled occ none (segV "old" po no) (segV "new" 0 nn)) 30 "AppendMessageSet" (some lV) [ms] globals) =
      some (.nil, [[if rolled then segV "new" 0 nn else segV "old" po no, ms, .struct [("entriesAt", .int (if rolled then 0 else po))]]]) := by
  cases rolled <;> rfl

theorem go_AppendMessageSet_split_fails (readonly rolled occ : Bool) (ms old new : Val) (e : String) :
    topView (runG prog (topExt readonly (some e) rolled occ none old new) 30 "AppendMessageSet" (some lV) [ms] globals) = some (.str e, []) := by
  rfl

end Liftbridge.Props.GoAppendTop
