/-
C18 at the level of the function body: `activityManager.publishActivityEvent` (server/activity.go) - what ONE
iteration of the dispatcher does with an event - and the retry back-off, translated from the code.
The publish into the activity stream (`publishInternal`) and
the Raft proposal that records the published index (`applyOperation`, then the future's `Error()`) are external
calls whose outcomes are parameters; every call is recorded with its arguments.
-/
import Liftbridge.Proofs.GoCodeBase
import Liftbridge.Gen.GoActivity

namespace Liftbridge.Props.GoActivity
open Liftbridge Liftbridge.GoMini Liftbridge.GoCode
open Liftbridge.Gen.GoActivity

theorem translation_complete : unsupported = [] := rfl

theorem binVal_eq_nil_nil : binVal "==" Val.nil Val.nil = .ok (.bool true) := GoMini.binVal_nil_nil "=="
theorem binVal_int (op : String) (a b : Int) : binVal op (Val.int a) (Val.int b) = binInt op a b := GoMini.binVal_int op a b

def errOf : Option String → Val
  | some m => .str m
  | none => .nil

/-- outcomes: of the publish, of proposing the PUBLISH_ACTIVITY operation, of its future -/
def actExt (pubErr propErr futErr : Option String) : Ext := fun f _ _ =>
  if f = "pb.Marshal" then some (.tup [.str "event-bytes", .nil])
  else if f = "context.Background" then some (.str "background")
  else if f = "context.WithTimeout" then some (.tup [.str "ctx", .str "cancel"])
  else if f = "publishInternal" then some (.tup [.nil, errOf pubErr])
  else if f = "applyOperation" then some (.tup [.struct [("Error", errOf futErr)], errOf propErr])
  else none

def manager (policy timeout : Int) : Val :=
  .struct [("config", .struct [("ActivityStream", .struct [("PublishTimeout", .int timeout), ("PublishAckPolicy", .int policy)])]),
           ("api", .struct [("kind", .str "api")]), ("getRaft", .struct [("kind", .str "raft")])]

def globals : List (String × Val) := [("activityStream", .str "__activity"), ("proto.Op_PUBLISH_ACTIVITY", .int 8)]

def eventV (id : Int) (op : Int) : Val := .struct [("Id", .int id), ("Op", .int op)]

/-- (nil error?, the publishes and proposals with their arguments) -/
def view : R Out → Option (Bool × List (String × List Val))
  | .ok o => some (match o.rets with | [e] => isNil e | _ => false,
      o.eff.filter fun e => e.1 = "publishInternal" ∨ e.1 = "applyOperation")
  | _ => none

def publishCall (policy : Int) : String × List Val :=
  ("publishInternal", [.str "ctx", .struct [("Value", .str "event-bytes"), ("Stream", .str "__activity"), ("AckPolicy", .int policy)]])

def recordCall (id : Int) : String × List Val :=
  ("applyOperation", [.str "ctx", .struct [("Op", .int 8), ("PublishActivityOp", .struct [("RaftIndex", .int id)])], .nil])

/-- For every event and every outcome:
  * the event is published FIRST, to the activity stream, with the configured ack policy;
  * a failed publish is an error and NOTHING is proposed - the index is not recorded, the dispatcher retries this
    entry (the model's step outcome "publish failed");
  * after a successful publish exactly one PUBLISH_ACTIVITY operation is proposed, carrying the event's id (= the
    Raft index of the operation it reports); the call succeeds iff the proposal and its future succeed (outcomes
    "appended but error reported" / "ok" of the model's dispatch step). -/
theorem go_publishActivityEvent (policy timeout id op : Int) (pubErr propErr futErr : Option String) :
    view (runG prog (actExt pubErr propErr futErr) 40 "publishActivityEvent" (some (manager policy timeout)) [eventV id op] globals) =
      some (match pubErr with
        | some _ => (false, [publishCall policy])
        | none => (propErr.isNone && futErr.isNone, [publishCall policy, recordCall id])) := by
  cases pubErr
  · -- published: the statements in front of the proposal run once; a refused proposal has no future to ask
    rw [runG_eq rfl rfl, runBlock_take 8 rfl]
    cases propErr
    · cases futErr <;> rfl
    · rfl
  · rfl

def backoffGlobals (second max : Int) : List (String × Val) := [("time.Second", .int second), ("maxActivityPublishBackoff", .int max)]

/-- 1 s after the first failure, then doubled, capped by `maxActivityPublishBackoff` -/
theorem go_backoff (prev second max : Int) :
    (match runG prog noExt 20 "computeActivityPublishBackoff" none [.int prev] (backoffGlobals second max) with
      | .ok o => some o.rets | _ => none) =
      some [.int (if prev = 0 then second else if prev * 2 > max then max else prev * 2)] := by
  by_cases h0 : prev = 0
  · subst h0; rfl
  · by_cases h1 : max < prev * 2 <;>
      simp [runG, fn_computeActivityPublishBackoff, prog, gomini, bind, R.bind, backoffGlobals, binInt, h0, h1]

end Liftbridge.Props.GoActivity
