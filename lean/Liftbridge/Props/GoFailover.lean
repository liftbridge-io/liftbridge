/-
The failure detector of the hand-written failover model IS the translated Go code.

`Gen/GoFailover.lean` holds the bodies of `failoverStatus.report`, `partitionFailover.Quorum` /
`IsWitness` / `Timeout` (server/failover.go) and `partition.inISR` / `ISRSize` / `GetLeader`
(server/partition.go). `go_report` states, for EVERY witness map, in-sync set, leader, timer state
and reporter: the report is recorded, the witnesses counted are exactly the recorded reporters that
are in the in-sync set NOW and are not the leader, `Failover` runs iff that count exceeds `(|ISR| -
1) / 2` (Go's truncating division), and otherwise the timer is reset (or created). The count and the
quorum are the model's (`counted_is_model`, `quorum_is_model`): `Failover.reports`,
`Failover.quorum`, `Failover.isWitness`, which C07's theorems `quorum_ok`, `failover_entries_fresh`,
… are about.
-/
import Liftbridge.Proofs.GoFailover

namespace Liftbridge.Props.GoFailover
open Liftbridge Liftbridge.GoMini Liftbridge.GoCode
open Liftbridge.Gen.GoFailover

theorem translation_complete : unsupported = [] := rfl

theorem go_report (W : List (String × Val)) (timer : Bool) (isr : List String) (leader : String) (epoch timeout : Int)
    (ctx : Val) (w : String) :
    effView (run prog timerExt 40 "report" (some (encStatus W timer isr leader epoch timeout)) [ctx, .str w]) =
      some ([.nil],
        if (counted isr leader (update w (.struct []) W) : Int) > Int.tdiv ((isr.length : Int) - 1) 2 then
          (if timer then [("Stop", [])] else []) ++ [("Failover", [ctx])]
        else if timer then [("Reset", [.int timeout])] else [("time.AfterFunc", [.int timeout, .nil])]) := by
  -- the report is recorded; the witnesses are counted
  rw [run, runG_eq rfl rfl]
  refine Ends.view ?_
  rw [runBlock_forRangeMap_at 3 rfl rfl rfl]
  refine Ends.andThen (count_loop timerExt 19 _ isr leader epoch timeout _ 0 _ (by rfl) (by rfl) (by rfl))
    fun st2 ⟨hr, hf, he⟩ => ?_
  -- the count against the quorum
  rw [← St.Binds.setAll (st := st2) (bs := [("reports", .int (0 + counted isr leader (update w (.struct []) W))),
    ("f", encStatus (update w (.struct []) W) timer isr leader epoch timeout), ("ctx", ctx)])
    ⟨hr, hf _ (by decide) (by decide), hf _ (by decide) (by decide), trivial⟩]
  have hlen : ((encSet isr).length : Int) = (isr.length : Int) := by simp [encSet]
  have he' : st2.eff = [] := he
  by_cases hgt : Int.tdiv ((isr.length : Int) - 1) 2 < (counted isr leader (update w (.struct []) W) : Int) <;> cases timer <;>
    simp [fn_partitionFailover_Quorum, fn_partition_ISRSize, fn_partitionFailover_Timeout, lk_Quorum, lk_ISRSize,
      lk_Timeout, lk_none, gomini, St.setAll, encStatus, encFO, encPartition, binInt, hlen, hgt, timerExt, Out.of, effView, he', show builtin "time.AfterFunc" [.int timeout, .nil] = none from rfl]

/-- what the code counts is what the model counts (`Failover.reports` with follower-only witnesses) -/
theorem counted_is_model (pt : Failover.Part) (ws : List String) :
    counted pt.isr pt.leader (encSet ws) = (ws.filter (Failover.isWitness pt)).length := by
  induction ws with
  | nil => simp [counted, encSet]
  | cons a rest ih =>
    simp only [counted, encSet, List.map_cons, List.filter_cons, Failover.isWitness] at ih ⊢
    by_cases h : (decide (a ≠ pt.leader) && decide (a ∈ pt.isr)) = true
    · simp only [h, ↓reduceIte, List.length_cons]; omega
    · simp only [h, Bool.false_eq_true, ↓reduceIte]; exact ih

/-- the quorum of the code (`(ISRSize() - 1) / 2`, truncating) is the model's -/
theorem quorum_is_model (pt : Failover.Part) :
    Int.tdiv ((pt.isr.length : Int) - 1) 2 = (Failover.quorum pt : Int) := by
  have hc : Gen.Failover.quorumSub = 1 ∧ Gen.Failover.quorumDiv = 2 := by decide
  simp only [Failover.quorum, hc.1, hc.2]
  cases hn : pt.isr.length with
  | zero => decide
  | succ n =>
    have : ((n + 1 : Nat) : Int) - 1 = (n : Int) := by omega
    rw [this, Int.tdiv_eq_ediv_of_nonneg (by omega)]
    simp

end Liftbridge.Props.GoFailover
