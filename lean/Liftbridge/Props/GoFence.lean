/-
C07 at the level of the function bodies: the fence in front of every in-sync-set change - `metadataAPI.checkLeaderGeneration`,
`partitionExists`, `checkShrinkISRPreconditions`, `checkExpandISRPreconditions`, `checkChangeLeaderPreconditions`
(server/metadata.go), evaluated under the Raft lock when the operation is proposed - translated from the code.
`Gen/GoFence.lean` is regenerated on every run; the package's sentinel errors are values of their own in this unit (a
translated callee sees its receiver and parameters only).

`go_checkLeaderGeneration`: the check passes iff the stream and the partition exist AND the request names the partition's
CURRENT leader AND its CURRENT leader epoch; a stale leader, a stale epoch or a future epoch is refused ("in-sync-set changes
... that name a stale leader or epoch are refused"). `go_checkShrinkExpand`: ShrinkISR and ExpandISR are fenced by exactly that
check on the pair their request carries.
-/
import Liftbridge.Proofs.GoCodeBase
import Liftbridge.Gen.GoFence

namespace Liftbridge.Props.GoFence
open Liftbridge Liftbridge.GoMini Liftbridge.GoCode
open Liftbridge.Gen.GoFence


theorem translation_complete : unsupported = [] := rfl

theorem lk_clg : evalE.lookup' "checkLeaderGeneration" prog = some fn_metadataAPI_checkLeaderGeneration := by simp [prog, gomini]
@[simp] theorem clg_recv : fn_metadataAPI_checkLeaderGeneration.recv = some "m" := rfl
@[simp] theorem clg_params : fn_metadataAPI_checkLeaderGeneration.params = ["streamName", "partitionID", "leader", "epoch"] := rfl
theorem lk_cs : evalE.lookup' "checkShrinkISRPreconditions" prog = some fn_metadataAPI_checkShrinkISRPreconditions := by simp [prog, gomini]
theorem lk_ce : evalE.lookup' "checkExpandISRPreconditions" prog = some fn_metadataAPI_checkExpandISRPreconditions := by simp [prog, gomini]
@[simp] theorem lk_ccl : evalE.lookup' "checkChangeLeaderPreconditions" prog = some fn_metadataAPI_checkChangeLeaderPreconditions := by simp [prog, gomini]

def mV : Val := .struct [("kind", .str "metadataAPI")]

/-! ### the fence of in-sync-set changes: a request must name the CURRENT leader and leader epoch -/

/-- the metadata as the checks see it: is the stream there, is the partition there, who leads it under which epoch -/
def fenceExt (stream partition : Bool) (curLeader : String) (curEpoch : Int) : Ext := fun f _ _ =>
  if f = "GetStream" then (if stream then some (.struct [("kind", .str "stream")]) else some .nil)
  else if f = "GetPartition" then (if partition then some (.struct [("GetLeader", .tup [.str curLeader, .int curEpoch])]) else some .nil)
  else none

inductive Fence where | ok | streamNotFound | partitionNotFound | mismatch
  deriving DecidableEq, Repr

def fenceOf : R Out → Option Fence
  | .ok o => match o.rets with
    | [.nil] => some .ok
    | [.str "ErrStreamNotFound"] => some .streamNotFound
    | [.str "ErrPartitionNotFound"] => some .partitionNotFound
    | [.str _] => some .mismatch
    | _ => none
  | _ => none

def fenceSpec (stream partition : Bool) (curLeader : String) (curEpoch : Int) (leader : String) (epoch : Int) : Fence :=
  if !stream then .streamNotFound else if !partition then .partitionNotFound
  else if leader ≠ curLeader ∨ epoch ≠ curEpoch then .mismatch else .ok

/-- what the functions return for each outcome -/
def Fence.val : Fence → Val
  | .ok => .nil
  | .streamNotFound => .str "ErrStreamNotFound"
  | .partitionNotFound => .str "ErrPartitionNotFound"
  | .mismatch => .str "error: Leader generation mismatch, current leader: %s epoch: %d, got leade..."

theorem fenceOf_val (f : Fence) (r : Option Val) (e : List (String × List Val)) :
    fenceOf (.ok { rets := [f.val], recv := r, eff := e }) = some f := by
  cases f <;> rfl

/-- `checkLeaderGeneration` at the level of its body (any fuel ≥ 6, any effect trace) -/
theorem checkLeaderGeneration_body (n : Nat) (stream partition : Bool) (curLeader : String) (curEpoch : Int) (s : String) (id : Int)
    (leader : String) (epoch : Int) (eff : List (String × List Val)) :
    ∃ st', runBlock (exec prog (fenceExt stream partition curLeader curEpoch) (n + 6)) fn_metadataAPI_checkLeaderGeneration.body
      { env := envOf [("m", mV), ("streamName", .str s), ("partitionID", .int id), ("leader", .str leader), ("epoch", .int epoch)], eff := eff }
      = .ok (.ret [(fenceSpec stream partition curLeader curEpoch leader epoch).val], st') := by
  -- a missing stream or partition ends the run before anything is compared: a closed computation
  cases stream
  · exact ⟨_, rfl⟩
  cases partition
  · exact ⟨_, rfl⟩
  -- both exist: the comparison decides; a different leader is refused whatever the epoch
  by_cases h1 : leader = curLeader
  · by_cases h2 : epoch = curEpoch <;>
      simp [fn_metadataAPI_checkLeaderGeneration, fn_metadataAPI_partitionExists, prog, gomini, fenceSpec, fenceExt, mV, binInt, h1, h2,
        Fence.val]
  · simp [fn_metadataAPI_checkLeaderGeneration, fn_metadataAPI_partitionExists, prog, gomini, fenceSpec, fenceExt, mV, h1, Fence.val]

/-- `checkLeaderGeneration`: passes iff stream and partition exist AND the request names the current leader AND the current
leader epoch - a stale leader or a stale (or future) epoch is refused -/
theorem go_checkLeaderGeneration (stream partition : Bool) (curLeader : String) (curEpoch : Int) (s : String) (id : Int) (leader : String) (epoch : Int) :
    fenceOf (runG prog (fenceExt stream partition curLeader curEpoch) 30 "checkLeaderGeneration" (some mV) [.str s, .int id, .str leader, .int epoch] []) =
      some (fenceSpec stream partition curLeader curEpoch leader epoch) := by
  obtain ⟨st', h⟩ := checkLeaderGeneration_body 24 stream partition curLeader curEpoch s id leader epoch []
  simp [runG, lk_clg, gomini, h, fenceOf_val]

def encShrink (s : String) (id : Int) (leader : String) (epoch : Int) (field : String) : Val :=
  .struct [(field, .struct [("Stream", .str s), ("Partition", .int id), ("Leader", .str leader), ("LeaderEpoch", .int epoch)])]

/-- ShrinkISR and ExpandISR are fenced by exactly that check, on the (leader, epoch) pair the request carries -/
theorem go_checkShrinkExpand (stream partition : Bool) (curLeader : String) (curEpoch : Int) (s : String) (id : Int) (leader : String) (epoch : Int) :
    fenceOf (runG prog (fenceExt stream partition curLeader curEpoch) 30 "checkShrinkISRPreconditions" (some mV) [encShrink s id leader epoch "ShrinkISROp"] []) =
      some (fenceSpec stream partition curLeader curEpoch leader epoch) ∧
    fenceOf (runG prog (fenceExt stream partition curLeader curEpoch) 30 "checkExpandISRPreconditions" (some mV) [encShrink s id leader epoch "ExpandISROp"] []) =
      some (fenceSpec stream partition curLeader curEpoch leader epoch) := by
  obtain ⟨st', h⟩ := checkLeaderGeneration_body 23 stream partition curLeader curEpoch s id leader epoch []
  simp [runG, lk_cs, lk_ce, lk_clg, fn_metadataAPI_checkShrinkISRPreconditions, fn_metadataAPI_checkExpandISRPreconditions, gomini, encShrink, h, fenceOf_val]

end Liftbridge.Props.GoFence
