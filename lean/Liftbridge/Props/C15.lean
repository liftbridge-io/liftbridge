/-
C15 — with ACLs on, an unauthorised call is refused and changes nothing.

The theorems are about `Gen.Handlers.handlers`, the table of authorisation skeletons that
is REGENERATED from server/api.go on every run (one per method of the gRPC service, plus
the async publish loop), under the semantics of Model/Authz.lean. The policy is
universally quantified everywhere (casbin's `Enforce` is an arbitrary predicate).

On the current code the full-strength statement is FALSE (`C15_asStated_false`): the four
consumer-group RPCs never ask (Subscribe and the async publish loop were repaired and are
no longer tolerated as violators). What holds is
`C15_partial` (every handler that checks first — the list is computed, not hand-picked),
`C15_asStated_iff` (the full statement holds exactly when the computed list of violators
is empty, so a repaired tree flips it) and `C15_violators_known` (no handler outside the
recorded findings violates — a removed or displaced check elsewhere breaks this theorem).
-/
import Liftbridge.Proofs.Authz
import Liftbridge.Gen.Handlers

namespace Liftbridge.C15
open Liftbridge.Authz Liftbridge.Gen.Handlers

/-- The property for one handler: for EVERY policy and client, if the policy does not grant
the handler's (resource, action), no effect is executed on any path and every path ends in
a refusal. -/
def Holds (h : Handler) : Prop :=
  ∀ (pol : Policy) (cl : Client), ¬ pol cl h.res h.act = true →
    (run pol cl h.body).effects = [] ∧ (run pol cl h.body).denied = true

/-- C15 as stated: every handler of the regenerated table. -/
def C15_asStated : Prop := ∀ h ∈ handlers, Holds h

/-- Handlers for which the deny-all policy exhibits an effect or a missing refusal. -/
def violators : List Handler := handlers.filter Handler.violates

/-- Findings recorded as OPEN for the current code (known_findings.json): the
consumer-group RPCs (no check at all). Subscribe and PublishAsync / its loop were repaired
(fixes/C15-subscribe-order.diff, fixes/C15-publishasync-continue.diff) and must not
violate any more. -/
def knownViolators : List String :=
  ["JoinConsumerGroup", "LeaveConsumerGroup",
   "FetchConsumerGroupAssignments", "ReportConsumerGroupCoordinator"]

/-- C15 for every handler that checks its own permission first and stops on a denial; the
list is computed from the regenerated table. Holds for all policies and clients. -/
theorem C15_partial : ∀ h ∈ handlers.filter Handler.checkedFirst, Holds h := by
  intro h hm
  exact checkedFirst_sound h (List.mem_filter.mp hm).2

/-- The syntactic procedure decides every handler of the table: it either checks first or
the deny-all policy is a counterexample (no handler is left undetermined). -/
theorem C15_classified : ∀ h ∈ handlers, h.checkedFirst = true ∨ h.violates = true := by
  -- a finite fact about the table (string comparisons): evaluated by the kernel, here and below
  decide +kernel

/-- The full statement holds exactly when the computed list of violators is empty. -/
theorem C15_asStated_iff : C15_asStated ↔ violators = [] := by
  constructor
  · intro hs
    simp only [violators, List.filter_eq_nil_iff]
    intro h hm hv
    exact violates_witness h hv "" (hs h hm (fun _ _ _ => false) "" (by simp))
  · intro hv h hm
    simp only [violators, List.filter_eq_nil_iff] at hv
    rcases C15_classified h hm with hc | hvi
    · exact checkedFirst_sound h hc
    · exact absurd hvi (hv h hm)

/-- C15 as stated is false on the current code: some handler has an effect, or does not
refuse, under the deny-all policy. -/
theorem C15_asStated_false : ¬ C15_asStated := by
  rw [C15_asStated_iff]
  decide

/-- Every violator is one of the recorded findings: any OTHER handler losing or displacing
its check makes this theorem fail on the next run. -/
theorem C15_violators_known :
    (violators.map (·.name)).all (fun n => knownViolators.contains n) = true := by
  decide +kernel

/-- The table covers the whole gRPC service: every method of `APIServer` has a skeleton (or
is answered by `UnimplementedAPIServer`). -/
theorem C15_covers_service :
    serviceMethods.all (fun m => (handlers.map (·.name)).contains m || unimplemented.contains m) = true := by
  decide +kernel

/-- Extracted facts behind "the policy is consulted per call, a reload is seen by the next
call": `enforcePolicy` calls `Enforce(subject, object, action)` under the read lock on every
call, the check forwards (client id, resource, action) unchanged and is gated by
`config.TLSClientAuthz` only, and SIGHUP reloads under the write lock. -/
theorem C15_policy_consulted_per_call :
    enforcePerCall = true ∧ enforceArgOrder = true ∧ checkPassesArgs = true ∧
    checkGatedByConfig = true ∧ sighupReloads = true ∧ guardEmptyClient = .eq := by
  decide

/-- Reload: the outcome of a call depends only on the policy in force at that call. -/
theorem C15_reload (h : Handler) (hm : h ∈ handlers.filter Handler.checkedFirst)
    (_polBefore polAfter : Policy) (cl : Client) (hden : ¬ polAfter cl h.res h.act = true) :
    (run polAfter cl h.body).effects = [] ∧ (run polAfter cl h.body).denied = true :=
  C15_partial h hm polAfter cl hden

theorem allowed_bits : ∀ hasId nonEmpty ee eo : Bool,
    (ensureDecision.evalB true hasId nonEmpty ee eo = .allow) ↔
      (hasId = true ∧ nonEmpty = true ∧ ee = false ∧ eo = true) := by decide

/-- With authorisation enabled the check allows EXACTLY when the context carries a non-empty
client id and the enforcer answers "yes" without error for (that id, resource, action):
every other combination of inputs is refused. -/
theorem allowed_iff_policy_entry (i : DIn) (hen : i.enabled = true) :
    ensureDecision.eval i = .allow ↔
      ∃ id, i.ident = some id ∧ id ≠ "" ∧ i.enfErr = false ∧ i.enfOk = true := by
  rw [DTree.eval_bits, hen, allowed_bits]
  cases hi : i.ident with
  | none => simp
  | some s => simp [String.length_eq_zero_iff]

/-- A call whose context carries NO client identity (no value under the key, or a value that
is not a string) is never allowed while authorisation is enabled — whatever the enforcer
would answer. Statement about the decision tree regenerated from
`ensureAuthorizationPermission`. -/
theorem no_identity_never_allowed (enfErr enfOk : Bool) :
    ensureDecision.eval ⟨true, none, enfErr, enfOk⟩ ≠ .allow := fun h =>
  let ⟨_, hid, _⟩ := (allowed_iff_policy_entry _ rfl).1 h
  nomatch hid

/-- The empty identity (a certificate without common name) is never allowed either. -/
theorem empty_identity_never_allowed (enfErr enfOk : Bool) :
    ensureDecision.eval ⟨true, some "", enfErr, enfOk⟩ ≠ .allow := fun h =>
  let ⟨_, hid, hne, _⟩ := (allowed_iff_policy_entry _ rfl).1 h
  hne (Option.some.inj hid).symm

/-- The answers the handlers' checks get from the regenerated `ensureAuthorizationPermission`
when authorisation is enabled: context identity `ident`, policy `pol`, and `err` telling for
which questions the enforcer fails. -/
def allowOf (ident : Option String) (pol : Policy) (err : Client → Res → Act → Bool) :
    Res → Act → Bool :=
  fun r a => (ensureDecision.eval
    ⟨true, ident, err (ident.getD "") r a, pol (ident.getD "") r a⟩).isAllow

/-- C15 end to end for the handlers that check first: for EVERY context identity (absent,
empty, unknown, known), policy and enforcer failure behaviour, unless the context carries a
non-empty id for which the policy has the handler's (resource, action) entry, no effect is
executed on any path and every path refuses. -/
theorem C15_partial_identity : ∀ h ∈ handlers.filter Handler.checkedFirst,
    ∀ (ident : Option String) (pol : Policy) (err : Client → Res → Act → Bool),
    ¬ (∃ id, ident = some id ∧ id ≠ "" ∧ pol id h.res h.act = true) →
    (runWith (allowOf ident pol err) h.body).effects = [] ∧
    (runWith (allowOf ident pol err) h.body).denied = true := by
  intro h hm ident pol err hno
  refine checkedFirst_sound_with h (List.mem_filter.mp hm).2 _ (Bool.eq_false_iff.2 fun hd => hno ?_)
  obtain ⟨id, hid, hne, _, hok⟩ := (allowed_iff_policy_entry _ rfl).mp (DOut.isAllow_iff.1 hd)
  exact ⟨id, hid, hne, by simpa [show ident = some id from hid] using hok⟩

/-- Every client-streaming RPC of the service has a per-message loop in the regenerated
table, and every per-message loop body checks first: its authorisation call is an
unconditional statement of the loop body (not nested under any condition), nothing but the
`Recv` error test precedes it, and its denial branch has no effect and never falls through
(`spineGuard`); semantically, under deny-all no path of the body has an effect or fails to
refuse (`checkedFirst`). -/
theorem C15_session_check_unconditional :
    clientStreamingMethods.all (fun m => sessionLoops.any (·.name == m)) = true ∧
    sessionLoops.all (fun l => spineGuard l.res l.act l.body && l.checkedFirst) = true := by
  decide

/-- Sessions of any length: in EVERY execution of a per-message loop over the messages of one
session — policies may differ from message to message (reload) — every message for which an
effect was executed (published to NATS, stream resumed) or that was not answered by a refusal
had its own (client, stream, action) entry in the policy in force when it was processed. A
denial of an earlier message, or a grant of an earlier message to the same stream, has no
influence. By induction over the list of messages (`sessions_sound`). -/
theorem C15_session_every_published_had_entry : ∀ l ∈ sessionLoops,
    ∀ (cl : Client) (msgs : List Msg), ∀ tr ∈ sessions l.res cl l.body 0 msgs, ∀ d ∈ tr,
      (d.effects ≠ [] ∨ d.refused = false) →
      ∃ m, msgs[d.idx]? = some m ∧ m.pol cl m.stream l.act = true := by
  intro l hl cl msgs tr htr d hd hbad
  have hc : l.checkedFirst = true :=
    (Bool.and_eq_true _ _ ▸ List.all_eq_true.1 C15_session_check_unconditional.2 l hl).2
  obtain ⟨k, m, hk, hm, hg⟩ := sessions_sound l hc cl msgs 0 tr htr d hd hbad
  exact ⟨m, by simpa [hk] using hm, hg⟩

/-- Streaming RPCs that are not client-streaming (one request, answers streamed: Subscribe)
are covered by `C15_partial`: they are in the computed list of handlers that check first. -/
theorem C15_server_streaming_checked_first :
    (streamingMethods.filter (fun m => !clientStreamingMethods.contains m)).all
      (fun m => (handlers.filter Handler.checkedFirst).any (·.name == m)) = true := by
  decide

/-- the partial theorem is not about an empty list -/
example : ((handlers.filter Handler.checkedFirst).map (·.name)).contains "CreateStream" = true := by decide
example : 10 ≤ (handlers.filter Handler.checkedFirst).length := by decide
/-- a denying policy exists, and an allowing run does have effects (the skeletons are not empty) -/
example : ¬ (fun (_ : Client) (_ : Res) (_ : Act) => false) "alice" h_CreateStream.res h_CreateStream.act = true := by simp
example : (run (fun _ _ _ => true) "alice" h_CreateStream.body).effects.contains "createStream" = true := by decide
example : (run (fun _ _ _ => true) "alice" h_CreateStream.body).denied = false := by decide
/-- a policy granting OTHER actions on the same resource still refuses -/
example : (run (fun _ _ a => a != "DeleteStream") "alice" h_DeleteStream.body) = ⟨[], true⟩ := by decide

/-- the session theorem is not about an empty table, and a session in which a granted message
is published and a denied one (same stream, after a reload) is refused does exist -/
example : sessionLoops.length ≥ 1 := by decide
example : (sessions "req.Stream" "alice" (.seq (.check "req.Stream" "Publish" (.seq .report .cont)) (.effect "natsPublish")) 0
    [⟨"foo", fun _ _ _ => true⟩, ⟨"foo", fun _ _ _ => false⟩]) =
    [[⟨0, ["natsPublish"], false⟩, ⟨1, [], true⟩]] := by decide
/-- the mutated shape (check only when the stream differs from the previous one = nested under
a condition) has an execution that publishes a denied message, and is rejected by `spineGuard` -/
example : [⟨0, [], true⟩, ⟨1, ["natsPublish"], false⟩] ∈
    sessions "req.Stream" "mallory"
      (.seq (.ite (.check "req.Stream" "Publish" (.seq .report .cont)) .skip) (.effect "natsPublish")) 0
      [⟨"bar", fun _ _ _ => false⟩, ⟨"bar", fun _ _ _ => false⟩] := by decide
example : spineGuard "req.Stream" "Publish"
    (.seq (.ite (.check "req.Stream" "Publish" (.seq .report .cont)) .skip) (.effect "natsPublish")) = false := by decide
/-- the decision tree does allow a known client with an entry, and a tree with an early
`return nil` for a missing identity is told apart -/
example : ensureDecision.eval ⟨true, some "alice", false, true⟩ = .allow := by decide
example : ensureDecision.eval ⟨false, none, false, false⟩ = .allow := by decide
example : (DTree.ite .enabled (.ite .hasID (.ite (.idVsEmpty .eq) (.ret (.refuse "id")) (.ite .enfOk (.ret .allow) (.ret (.refuse "no"))))
    (.ret .allow)) (.ret .allow)).eval ⟨true, none, false, false⟩ = .allow := by decide

/-- Subscribe as of the unrepaired tree (api.go:225-236): set-up, deferred close, THEN the
check. Under deny-all the stream is resumed and the subscription (with group take-over)
is made before the refusal. -/
def subscribe_prefix_defect : Stmt :=
  .seq (.effect "resumeStream") (.seq (.effect "subscribe") (.seq (.ite (.ret .err) .skip)
  (.seq (.effect "closeSub") (.seq (.check "req.Stream" "Subscribe" (.ret .auth)) (.ret .ok)))))

example : (paths denyAll subscribe_prefix_defect).contains
    ⟨["resumeStream", "subscribe", "closeSub"], true, false, .ret .auth⟩ = true := by decide
example : (run (fun _ _ _ => false) "mallory" subscribe_prefix_defect).effects ≠ [] := by decide

/-- The async publish loop as of the unrepaired tree (api.go:1101-1106): the denial is
reported, there is no `continue`, the message is published. -/
def publishLoop_prefix_defect : Stmt :=
  .loop true (.seq (.check "req.Stream" "Publish" .report)
    (.seq (.effect "resumeStream") (.effect "natsPublish")))

example : run (fun _ _ _ => false) "mallory" publishLoop_prefix_defect
    = ⟨["resumeStream", "natsPublish"], true⟩ := by decide

/-- with the `continue` the same loop is clean -/
example : run (fun _ _ _ => false) "mallory"
    (.loop true (.seq (.check "req.Stream" "Publish" (.seq .report .cont))
      (.seq (.effect "resumeStream") (.effect "natsPublish")))) = ⟨[], true⟩ := by decide

end Liftbridge.C15
