/-
C01 at the level of the function bodies: when the log rolls a new segment - `segment.CheckSplit`, `segment.NextOffset`
and `commitLog.checkAndPerformSplit` (server/commitlog) - translated from the code.

`go_CheckSplit`: for every segment state, roll time and clock: split iff the segment is full (`position >= maxBytes`), or
age rolling is on, the segment has been written to, and `now - firstWriteTime >= logRollTime`. `model_needSplit`: the model's
`CLog.needSplit` is the size disjunct (the harnesses disable age rolling; an empty segment is never rolled by age).
`go_NextOffset` = the model's `Seg.nextOffset` (base offset for a segment without messages, last offset + 1 otherwise) -
the offset the next append is given.
`go_checkAndPerformSplit_*`: nothing to split -> (false, nil), no call of `split`, nothing sealed; a successful split ->
the OLD active segment is sealed, after the split, and (true, nil); a failing split (other than "another thread did it") ->
(false, err) and nothing is sealed. The retry after `ErrSegmentExists` re-reads the active segment, which changes
underneath - a second thread - and stays with the correspondence runs.
-/
import Liftbridge.Proofs.GoCodeBase
import Liftbridge.Gen.GoSplit

namespace Liftbridge.Props.GoSplit
open Liftbridge Liftbridge.GoMini Liftbridge.GoCode Liftbridge.Log
open Liftbridge.Gen.GoSplit


attribute [local gomini] runFor_succ

theorem translation_complete : unsupported = [] := rfl

theorem binVal_int (op : String) (a b : Int) : binVal op (Val.int a) (Val.int b) = binInt op a b := GoMini.binVal_int op a b
@[simp] theorem lk_capfs : evalE.lookup' "checkAndPerformSplit" prog = some fn_commitLog_checkAndPerformSplit := by simp [prog, gomini]
@[simp] theorem lk_CheckSplit : evalE.lookup' "CheckSplit" prog = some fn_segment_CheckSplit := by simp [prog, gomini]
@[simp] theorem lk_NextOffset : evalE.lookup' "NextOffset" prog = some fn_segment_NextOffset := by simp [prog, gomini]
@[simp] theorem lk_timestamp : evalE.lookup' "timestamp" prog = none := by simp [prog, gomini]
@[simp] theorem lk_activeSegment : evalE.lookup' "activeSegment" prog = none := by simp [prog, gomini]
@[simp] theorem lk_split : evalE.lookup' "split" prog = none := by simp [prog, gomini]
@[simp] theorem lk_Seal : evalE.lookup' "Seal" prog = none := by simp [prog, gomini]

def encSegS (position maxBytes firstWriteTime : Int) : Val :=
  .struct [("position", .int position), ("maxBytes", .int maxBytes), ("firstWriteTime", .int firstWriteTime)]

/-- the clock (`timestamp()`) and the outcome of `l.split(...)` -/
def splitExt (now : Int) (splitErr : Val) : Ext := fun f _ _ =>
  if f = "timestamp" then some (.int now) else if f = "split" then some splitErr else none

def rets : R Out → Option (List Val)
  | .ok o => some o.rets
  | _ => none

/-- the decision of `CheckSplit` -/
def checkSplitSpec (position maxBytes firstWriteTime rollTime now : Int) : Bool :=
  decide (position ≥ maxBytes) || (decide (rollTime ≠ 0) && decide (firstWriteTime ≠ 0) && decide (now - firstWriteTime ≥ rollTime))

@[simp] theorem sig_CheckSplit : fn_segment_CheckSplit.recv = some "s" ∧ fn_segment_CheckSplit.params = ["logRollTime"] := ⟨rfl, rfl⟩

/-- a full segment: `CheckSplit` answers true without looking at the roll time or the clock -/
theorem CheckSplit_full (n : Nat) (position maxBytes firstWriteTime rollTime now : Int) (e : Val)
    (h : position ≥ maxBytes) (eff : List (String × List Val)) :
    runBlock (exec prog (splitExt now e) (n + 8)) fn_segment_CheckSplit.body
        { env := envOf [("s", encSegS position maxBytes firstWriteTime), ("logRollTime", .int rollTime)], eff := eff } =
      .ok (.ret [.bool true],
        { env := envOf [("s", encSegS position maxBytes firstWriteTime), ("logRollTime", .int rollTime)], eff := eff }) := by
  simp [fn_segment_CheckSplit, gomini, encSegS, binInt, h]

/-- the segment is untouched and the clock is read only when the age has to be compared -/
theorem CheckSplit_body (n : Nat) (position maxBytes firstWriteTime rollTime now : Int) (e : Val)
    (hr : wrapS 64 rollTime = rollTime) (eff : List (String × List Val)) :
    ∃ st', runBlock (exec prog (splitExt now e) (n + 8)) fn_segment_CheckSplit.body
        { env := envOf [("s", encSegS position maxBytes firstWriteTime), ("logRollTime", .int rollTime)], eff := eff } =
      .ok (.ret [.bool (checkSplitSpec position maxBytes firstWriteTime rollTime now)], st') ∧
      st'.env "s" = some (encSegS position maxBytes firstWriteTime) ∧
      st'.eff = eff ++ if position ≥ maxBytes ∨ rollTime = 0 ∨ firstWriteTime = 0 then [] else [("timestamp", [])] := by
  by_cases h1 : position ≥ maxBytes
  · simp [CheckSplit_full, checkSplitSpec, h1, gomini]
  by_cases h2 : rollTime = 0
  · simp [fn_segment_CheckSplit, gomini, encSegS, checkSplitSpec, binInt, h1, h2]
  by_cases h3 : firstWriteTime = 0
  · simp [fn_segment_CheckSplit, gomini, encSegS, checkSplitSpec, binInt, h1, h2, h3]
  · simp [fn_segment_CheckSplit, gomini, encSegS, checkSplitSpec, binInt, h1, h2, h3, splitExt, hr]

theorem go_CheckSplit (position maxBytes firstWriteTime rollTime now : Int) (hr : wrapS 64 rollTime = rollTime) :
    rets (runG prog (splitExt now .nil) 30 "CheckSplit" (some (encSegS position maxBytes firstWriteTime)) [.int rollTime] []) =
      some [.bool (checkSplitSpec position maxBytes firstWriteTime rollTime now)] := by
  obtain ⟨st, h, -, -⟩ := CheckSplit_body 22 position maxBytes firstWriteTime rollTime now .nil hr []
  simp [runG, gomini, rets, h]

/-- the model rolls on size (age rolling off: roll time 0) -/
theorem model_needSplit (l : CLog) (firstWriteTime now : Int) :
    l.needSplit = checkSplitSpec (l.active.position : Int) l.maxSegBytes firstWriteTime 0 now := by
  simp [CLog.needSplit, checkSplitSpec, Gen.Log.splitCmp, Cmp.evalInt]

def encSegN (base lastOffset : Int) : Val := .struct [("BaseOffset", .int base), ("lastOffset", .int lastOffset)]

theorem go_NextOffset (base lastOffset : Int) :
    rets (runG prog noExt 30 "NextOffset" (some (encSegN base lastOffset)) [] []) =
      some [.int (if lastOffset = -1 then base else lastOffset + 1)] := by
  by_cases h : lastOffset = -1 <;>
    simp [runG, fn_segment_NextOffset, gomini, rets, encSegN, binInt, h]

/-- the model's `Seg.nextOffset` is that function of the segment's base and last offset -/
theorem model_nextOffset (s : Seg) : s.nextOffset = (if s.lastOffset = -1 then s.base else s.lastOffset + 1) := rfl

def encLogS (position maxBytes firstWriteTime age : Int) : Val :=
  .struct [("activeSegment", encSegS position maxBytes firstWriteTime), ("MaxSegmentAge", .int age)]

/-- (returned values, the calls of `split` and `Seal` in order) -/
def splitView : R Out → Option (List Val × List String)
  | .ok o => some (o.rets, (o.eff.filter fun e => e.1 = "split" ∨ e.1 = "Seal").map (·.1))
  | _ => none

def glob : List (String × Val) := [("ErrSegmentExists", .str "ErrSegmentExists")]

theorem go_checkAndPerformSplit_none (position maxBytes firstWriteTime age now : Int) (splitErr : Val) (hr : wrapS 64 age = age)
    (h : checkSplitSpec position maxBytes firstWriteTime age now = false) :
    splitView (runG prog (splitExt now splitErr) 30 "checkAndPerformSplit" (some (encLogS position maxBytes firstWriteTime age)) [] glob) =
      some ([.bool false, .nil], []) := by
  obtain ⟨st, hc, hs, he⟩ := CheckSplit_body 20 position maxBytes firstWriteTime age now splitErr hr []
  rw [h] at hc
  simp [runG, fn_commitLog_checkAndPerformSplit, gomini, splitView, encLogS, hc, hs, he, apply_ite (List.filter _)]

/-- a full segment (the size disjunct; age rolling needs the clock only) and a successful split: the old active segment is
sealed AFTER the split, and the call reports that it rolled -/
theorem go_checkAndPerformSplit_rolled (position maxBytes firstWriteTime age now : Int) (h : position ≥ maxBytes) :
    splitView (runG prog (splitExt now .nil) 30 "checkAndPerformSplit" (some (encLogS position maxBytes firstWriteTime age)) [] glob) =
      some ([.bool true, .nil], ["split", "Seal"]) := by
  have hf := @CheckSplit_full
  simp only [encSegS] at hf
  simp [runG, fn_commitLog_checkAndPerformSplit, gomini, splitView, encLogS, encSegS, hf, h, splitExt, glob]

/-- a split that fails with anything but "another thread did it": the error is returned and nothing is sealed -/
theorem go_checkAndPerformSplit_failed (position maxBytes firstWriteTime age now : Int) (e : String) (he : e ≠ "ErrSegmentExists")
    (h : position ≥ maxBytes) :
    splitView (runG prog (splitExt now (.str e)) 30 "checkAndPerformSplit" (some (encLogS position maxBytes firstWriteTime age)) [] glob) =
      some ([.bool false, .str e], ["split"]) := by
  have hf := @CheckSplit_full
  simp only [encSegS] at hf
  simp [runG, fn_commitLog_checkAndPerformSplit, gomini, splitView, encLogS, encSegS, hf, h, splitExt, glob, he]

/-- non-vacuity: a 100-byte segment with limit 64 splits whatever the clock; a 10-byte one does not with age rolling off -/
example : checkSplitSpec 100 64 5 0 9 = true ∧ checkSplitSpec 10 64 5 0 9 = false ∧ checkSplitSpec 10 64 5 3 9 = true := by decide

end Liftbridge.Props.GoSplit
