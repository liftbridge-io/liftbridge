/-
C03 at the level of the function body: `getHWPos` (server/commitlog/reader.go) - the byte position in the high-watermark
segment up to which a committed reader may read - translated from the code.

`go_getHWPos`: for every answer of `findSegment` (a segment and its index, or none) and of `findEntry` (an entry or an
error): no segment -> `ErrSegmentNotFound`; an error of the entry search is returned; an entry whose offset lies ABOVE the
high watermark (the message at the HW was removed by retention or compaction, `findEntry` answers the first entry at or
after it) -> the limit is the START of that entry (it is not committed); otherwise the limit is the END of the entry
(`Position + Size`): the message at the HW is readable and nothing behind it.
`model_hwPos`: the model's `Log.CLog.hwPos` (slots) is that decision on the model's index: the byte position of the slot the
model answers is what the code computes from the entry the model's `findEntry` selects (`entries_slot`: the index entry of
slot k starts at the prefix sum of the sizes before it).
-/
import Liftbridge.Proofs.GoCodeBase
import Liftbridge.Gen.GoHWPos

namespace Liftbridge.Props.GoHWPos
open Liftbridge Liftbridge.GoMini Liftbridge.GoCode Liftbridge.Log
open Liftbridge.Gen.GoHWPos


theorem translation_complete : unsupported = [] := rfl

theorem binVal_int (op : String) (a b : Int) : binVal op (Val.int a) (Val.int b) = binInt op a b := GoMini.binVal_int op a b

/-- answer of `hwSeg.findEntry(hw)` -/
inductive EntryAns where
  | entry (offset position size : Int)
  | failed
  deriving DecidableEq, Repr

def encEntryAns : EntryAns → Val
  | .entry o p s => .tup [.struct [("Offset", .int o), ("Position", .int p), ("Size", .int s)], .nil]
  | .failed => .tup [.nil, .str "ErrEntryNotFound"]

/-- the segment `findSegment` answers: its index and what its `findEntry(hw)` says; `none`: no segment contains the offset -/
def encSegAns : Option (Int × EntryAns) → Val
  | some (i, a) => .tup [.struct [("ans", encEntryAns a)], .int i]
  | none => .tup [.nil, .int 0]

def hwExt (seg : Option (Int × EntryAns)) : Ext := fun f args _ =>
  if f = "findSegment" then some (encSegAns seg)
  else if f = "findEntry" then
    match args with
    | [.struct fs, _] => lookup "ans" fs
    | _ => none
  else none

inductive HWPos where
  | at (segIdx : Int) (pos : Int)
  | error
  deriving DecidableEq, Repr

def view : R Out → Option HWPos
  | .ok o => match o.rets with
    | [.int i, .int p, .nil] => some (.at i p)
    | [.int 0, .int 0, .str _] => some .error
    | _ => none
  | _ => none

/-- the decision of `getHWPos` -/
def hwPosSpec (hw : Int) : Option (Int × EntryAns) → HWPos
  | none => .error
  | some (_, .failed) => .error
  | some (i, .entry o p s) => if o > hw then .at i p else .at i (p + s)

theorem go_getHWPos (hw : Int) (segs : Val) (seg : Option (Int × EntryAns))
    (hsize : ∀ i o p s, seg = some (i, .entry o p s) → wrapS 64 s = s) :
    view (runG prog (hwExt seg) 30 "getHWPos" none [segs, .int hw] [("ErrSegmentNotFound", .str "ErrSegmentNotFound")]) =
      some (hwPosSpec hw seg) := by
  cases seg with
  | none => simp [runG, fn_getHWPos, prog, gomini, view, hwPosSpec, hwExt, encSegAns]
  | some sa =>
    obtain ⟨i, a⟩ := sa
    cases a with
    | failed => simp [runG, fn_getHWPos, prog, gomini, view, hwPosSpec, hwExt, encSegAns, encEntryAns]
    | entry o p s =>
      by_cases h : o > hw <;>
        simp [runG, fn_getHWPos, prog, gomini, view, hwPosSpec, hwExt, encSegAns, encEntryAns, binInt,
          hsize i o p s rfl, h]

/-! ### the model's `hwPos` is this decision on the model's index -/

/-- byte position at which slot `k` starts -/
def slotPos (rs : List Rec) (k : Nat) : Nat := ((rs.take k).map Rec.size).sum

theorem entries_slot (rs : List Rec) : ∀ (p k : Nat),
    (Seg.entriesFrom p rs)[k]? = (rs[k]?).map fun r => { offset := r.offset, ts := r.ts, pos := p + slotPos rs k, size := r.size } := by
  induction rs with
  | nil => intro p k; simp [Seg.entriesFrom]
  | cons r tl ih =>
    intro p k
    cases k with
    | zero => simp [Seg.entriesFrom, slotPos]
    | succ j =>
      simp only [Seg.entriesFrom, List.getElem?_cons_succ, ih]
      cases tl[j]? with
      | none => rfl
      | some x => simp [slotPos, List.take_succ_cons, Nat.add_assoc]

theorem slotPos_succ (rs : List Rec) (k : Nat) (r : Rec) (h : rs[k]? = some r) : slotPos rs (k + 1) = slotPos rs k + r.size := by
  simp [slotPos, List.take_add_one, h]

/-- what the code computes from the index entry of slot `k` -/
def entryAnsOf (e : Entry) : EntryAns := .entry e.offset e.pos e.size

/-- the model's answer, as (segment index, byte position of the slot) -/
def modelHWPos (segs : List Seg) (hw : Int) : Option HWPos :=
  match CLog.hwPos segs hw with
  | .ok (i, slot) => (segs[i]?).map fun s => .at i (slotPos s.recs slot)
  | .err _ => some .error
  | .panic => none

theorem model_hwPos (segs : List Seg) (hw : Int) (i : Nat) (s : Seg) (k : Nat) (e : Entry)
    (hseg : CLog.findSegmentIdx segs hw = some i) (hs : segs[i]? = some s) (hk : s.findEntryIdx hw = some k)
    (he : s.entries[k]? = some e) :
    modelHWPos segs hw = some (hwPosSpec hw (some ((i : Int), entryAnsOf e))) := by
  unfold modelHWPos CLog.hwPos
  simp only [hseg, hs, hk]
  rw [Seg.entries, entries_slot] at he
  cases hr : s.recs[k]? with
  | none => simp [hr] at he
  | some r =>
    simp only [hr, Option.map_some, Option.some.injEq] at he
    subst he
    by_cases hgt : r.offset > hw
    · simp [Gen.Log.hwGoneCheck, hgt, hs, hwPosSpec, entryAnsOf]
    · simp [Gen.Log.hwGoneCheck, hgt, hs, hwPosSpec, entryAnsOf, slotPos_succ _ _ _ hr]

/-- non-vacuity: the entry at the HW (offset 7 = hw, at 100, 40 bytes) -> limit 140; the HW message gone (first entry after it is 9) -> limit 100 -/
example : hwPosSpec 7 (some (2, .entry 7 100 40)) = .at 2 140 ∧ hwPosSpec 7 (some (2, .entry 9 100 40)) = .at 2 100 := by decide

end Liftbridge.Props.GoHWPos
