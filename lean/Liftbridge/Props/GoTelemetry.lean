/-
C19 at the level of the function bodies: the two places where "telemetry is switched off" is decided,
translated from the code.

`Gen/GoTelemetry.lean` holds `telemetry.Collector.Start` and `parseTelemetryConfig`
(server/config.go). Starting the reporting goroutine is an effect (`go:run`) of the translated body;
the configuration source (viper) is an external call whose answers are parameters.
-/
import Liftbridge.Proofs.GoCodeBase
import Liftbridge.Gen.GoTelemetry

namespace Liftbridge.Props.GoTelemetry
open Liftbridge Liftbridge.GoMini Liftbridge.GoCode
open Liftbridge.Gen.GoTelemetry

theorem translation_complete : unsupported = [] := rfl

theorem builtin_go_run : builtin "go:run" [] = none := by simp [builtin]

def encCollector (enabled : Bool) : Val :=
  .struct [("config", .struct [("Enabled", .bool enabled), ("Interval", .int 3600)]), ("wg", .struct [("n", .int 0)]), ("instanceID", .str "id")]

/-- the names of the external calls / effects, in order -/
def effects : R Out → Option (List String)
  | .ok o => some (o.eff.map (·.1))
  | _ => none

/-- a disabled collector starts nothing -/
theorem go_Start_disabled (ext : Ext) :
    effects (runG prog ext 20 "Start" (some (encCollector false)) [] []) = some [] := by
  rfl

/-- an enabled one registers with its wait group and starts exactly one reporting goroutine -/
theorem go_Start_enabled (ext : Ext) :
    effects (runG prog ext 20 "Start" (some (encCollector true)) [] []) = some ["Add", "go:run"] := by
  cases h1 : ext "Add" [Val.struct [("n", Val.int 0)], Val.int 1] [] <;>
  cases h2 : ext "go:run" [] [("Add", [Val.int 1])] <;>
    simp [runG, fn_Collector_Start, prog, gomini, encCollector, effects, builtin_go_run, h1, h2]

/-- the configuration source: is the key set, and what it holds -/
structure Source where
  enabledSet : Bool
  enabled : Bool
  intervalSet : Bool
  interval : Int

def srcExt (s : Source) : Ext := fun f args _ =>
  match f, args with
  | "IsSet", [_, .str k] => some (.bool (if k = "telemetry.enabled" then s.enabledSet else if k = "telemetry.interval.seconds" then s.intervalSet else false))
  | "GetBool", [_, .str k] => some (.bool (if k = "telemetry.enabled" then s.enabled else false))
  | "GetInt", [_, .str k] => some (.int (if k = "telemetry.interval.seconds" then s.interval else 0))
  | _, _ => none

def encConfig (enabled : Bool) (interval : Int) : Val :=
  .struct [("Telemetry", .struct [("Enabled", .bool enabled), ("IntervalSeconds", .int interval)])]

def keys : List (String × Val) :=
  [("configTelemetryEnabled", .str "telemetry.enabled"), ("configTelemetryIntervalSeconds", .str "telemetry.interval.seconds")]

/-- the `*Config` after the call: `config` is a pointer parameter, so the body is run on a state in which `config`
is bound and the variable's final value is read (what `runG` does for a receiver) -/
def configAfter (s : Source) (cfg : Val) : Option Val :=
  match runBlock (exec prog (srcExt s) 30) fn_parseTelemetryConfig.body
      { env := envOf ([("config", cfg), ("v", .str "viper")] ++ keys), eff := [] } with
  | .ok (_, st) => st.env "config"
  | _ => none

/-- `Enabled` after parsing = what the source says when it has the key, else unchanged - for EVERY interval setting;
`IntervalSeconds` likewise follows its own key only -/
theorem go_parseTelemetryConfig (s : Source) (enabled : Bool) (interval : Int) :
    configAfter s (encConfig enabled interval) =
      some (encConfig (if s.enabledSet then s.enabled else enabled) (if s.intervalSet then s.interval else interval)) := by
  obtain ⟨es, e, is, i⟩ := s
  cases es <;> cases is <;> rfl

/-- the opt-out survives any interval: `telemetry.enabled: false` in the source gives `Enabled = false` -/
theorem optout_wins (s : Source) (h1 : s.enabledSet = true) (h2 : s.enabled = false) (enabled : Bool) (interval : Int) :
    ∃ iv, configAfter s (encConfig enabled interval) = some (encConfig false iv) := by
  rw [go_parseTelemetryConfig, h1, h2]
  exact ⟨_, rfl⟩

end Liftbridge.Props.GoTelemetry
