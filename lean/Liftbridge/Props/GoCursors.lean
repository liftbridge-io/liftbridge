/-
`SetCursor` of the hand-written Cursors model IS the translated Go code, as far as the ORDER of its two
effects goes: the cursor is published to the cursors partition first, and only a SUCCESSFUL publish is
followed by the cache write.

`Gen/GoCursors.lean` holds the body of `cursorManager.SetCursor` (server/cursors.go). For every
manager, request and publish outcome: one publish; exactly one cache write of (this key, this offset)
when it succeeded; an error status and no cache write when it failed; neither when this server does not
lead the cursors partition. `model_agrees`: `Cursors.setCursor` touches the cache only on success - the
function C11's refinement theorem is about.
-/
import Liftbridge.Proofs.GoCodeBase
import Liftbridge.Gen.GoCursors
import Liftbridge.Model.Cursors

namespace Liftbridge.Props.GoCursors
open Liftbridge Liftbridge.GoMini Liftbridge.GoCode
open Liftbridge.Gen.GoCursors

theorem translation_complete : unsupported = [] := rfl

theorem builtin_ensureTimeout (a b : Val) : builtin "ensureTimeout" [a, b] = none := by cases a <;> simp [builtin]

/-- the callees `SetCursor` does not own: key derivation, partition lookup, marshalling, the publish -/
def curExt (leader : String) (pubErr : Option String) : Ext := fun f args _ =>
  if f = "getCursorKey" then some (.str "key")
  else if f = "getCursorsPartitionID" then some (.tup [.int 0, .nil])
  else if f = "GetPartition" then some (.struct [("GetLeader", .tup [.str leader, .int 1])])
  else if f = "Marshal" then some (.tup [.str "cursor-bytes", .nil])
  else if f = "ensureTimeout" then some (.tup [.str "ctx", .nil])
  else if f = "Publish" then some (.tup [.nil, match pubErr with | none => .nil | some e => .str e])
  else if f = "Error" then some (args.headD .nil)
  else if f = "status.New" ∨ f = "status.Newf" then some (.str "status")
  else none

def encManager (me : String) (sets : Int) : Val :=
  .struct [("sets", .int sets), ("metadata", .struct []), ("api", .struct []), ("cache", .struct []),
           ("config", .struct [("Clustering", .struct [("ServerID", .str me)])])]

def globals : List (String × Val) :=
  [("cursorsStream", .str "__cursors"), ("defaultCursorTimeout", .int 5), ("codes.Internal", .int 13),
   ("codes.FailedPrecondition", .int 9)]

/-- (status returned is nil?, the cache writes, the publishes) -/
def setView : R Out → Option (Bool × List (List Val) × Nat)
  | .ok o => some (match o.rets with | [v] => isNil v | _ => false,
      (o.eff.filter (fun e => e.1 = "Add")).map (·.2), (o.eff.filter (fun e => e.1 = "Publish")).length)
  | _ => none

/-- `SetCursor` for every leader of the cursors partition and every outcome of the publish. Computation stops at two
places: the comparison of the leader with this server (statement 5), and the call `ensureTimeout(ctx, …)`, which the
evaluator tells from a conversion `T(x)` by the constructor of the argument - and `ctx` is a variable. -/
theorem go_SetCursor (me leader : String) (pe : Option String) (sets : Int) (ctx : Val) (stream id : String) (part off : Int) :
    setView (runG prog (curExt leader pe) 40 "SetCursor" (some (encManager me sets))
      [ctx, .str stream, .str id, .int part, .int off] globals) =
      some (if leader ≠ me then (false, [], 0) else
        match pe with
        | none => (true, [[.str "key", .int off]], 1)
        | some _ => (false, [], 1)) := by
  rw [runG_eq rfl rfl, runBlock_ite_at 5 rfl rfl rfl rfl]
  by_cases h : leader = me
  · subst h
    simp only [ne_eq, not_true_eq_false, decide_false, if_false]
    rw [andThen_block rfl, runBlock_at 3 rfl rfl]
    simp [gomini, bind, R.bind, andThen_ok, builtin_ensureTimeout, prog, curExt, globals]
    cases pe <;> rfl
  · simp [h]
    rfl

/-- the publish succeeded: one publish, then exactly one cache write, of the key and the offset of THIS call -/
theorem go_SetCursor_ok (me : String) (sets : Int) (ctx : Val) (stream id : String) (part off : Int) :
    setView (runG prog (curExt me none) 40 "SetCursor" (some (encManager me sets))
      [ctx, .str stream, .str id, .int part, .int off] globals) = some (true, [[.str "key", .int off]], 1) := by
  simp [go_SetCursor]

/-- the publish failed: an error status and NO cache write -/
theorem go_SetCursor_failed (me : String) (sets : Int) (ctx : Val) (stream id : String) (part off : Int) (e : String) :
    setView (runG prog (curExt me (some e)) 40 "SetCursor" (some (encManager me sets))
      [ctx, .str stream, .str id, .int part, .int off] globals) = some (false, [], 1) := by
  simp [go_SetCursor]

/-- this server does not lead the cursors partition: refused before anything is published or cached -/
theorem go_SetCursor_not_leader (me leader : String) (h : leader ≠ me) (sets : Int) (ctx : Val) (stream id : String) (part off : Int)
    (pe : Option String) :
    setView (runG prog (curExt leader pe) 40 "SetCursor" (some (encManager me sets))
      [ctx, .str stream, .str id, .int part, .int off] globals) = some (false, [], 0) := by
  simp [go_SetCursor, h]

/-- the model writes the cache exactly when the append (the publish) succeeded -/
theorem model_agrees (P : Cursors.Params) (s : Cursors.State) (k : Cursors.Key) (o : Int) (v : Bytes) :
    (∀ e, (Cursors.setCursor P s k o v).2 = .err e → (Cursors.setCursor P s k o v).1.cache = (Cursors.resume s).cache) ∧
    ((Cursors.setCursor P s k o v).2 = .ok () →
      (Cursors.setCursor P s k o v).1.cache = Cursors.Cache.add P.cap (Cursors.resume s).cache k o) := by
  unfold Cursors.setCursor
  cases h : ({ Cursors.resume s with seq := (Cursors.resume s).seq + 1 } : Cursors.State).log.append [Cursors.cursorMsg P k v] with
  | ok r => obtain ⟨l, offs⟩ := r; simp [h]
  | err e => simp [h]
  | panic => simp [h]

/-! ### `GetCursor`

A fetch answers from the cache when the key is there, and otherwise from a scan of the log whose result it then caches. The
guard `c.sets == sets` (no `SetCursor` ran while the log was scanned) compares two reads of a field that
only ANOTHER goroutine changes in between: a sequential embedding cannot tell it from `true`, so that guard stays with the
model (`Cursors.fetch…`) and the overlapping-calls harness (`TestVerifC11ConcurrentSets`). What the translated body fixes:
the refusal when this server does not lead the cursors partition (nothing is read), the cache hit (no scan, no cache
write), the failed scan (an error and NO cache write), the successful scan (the scanned offset is returned and cached
under the key of THIS call). -/

/-- the callees of `GetCursor`: the cache answers `cached`, the scan answers `scan` -/
def getExt (leader : String) (cached : Option Int) (scan : Int ⊕ String) : Ext := fun f args _ =>
  if f = "getCursorKey" then some (.str "key")
  else if f = "getCursorsPartitionID" then some (.tup [.int 0, .nil])
  else if f = "GetPartition" then some (.struct [("GetLeader", .tup [.str leader, .int 1])])
  else if f = "Get" then
    match cached with
    | some o => some (.tup [.int o, .bool true])
    | none => some (.tup [.nil, .bool false])
  else if f = "getLatestCursorOffset" then
    match scan with
    | .inl o => some (.tup [.int o, .nil])
    | .inr e => some (.tup [.int 0, .str e])
  else if f = "Error" then some (args.headD .nil)
  else if f = "status.New" ∨ f = "status.Newf" then some (.str "status")
  else none

def encManagerG (me : String) (sets : Int) (disableCache : Bool) : Val :=
  .struct [("sets", .int sets), ("disableCache", .bool disableCache), ("metadata", .struct []), ("cache", .struct []),
           ("config", .struct [("Clustering", .struct [("ServerID", .str me)])])]

/-- (values returned, the cache writes, the number of log scans) -/
def getView : R Out → Option (List Val × List (List Val) × Nat)
  | .ok o => some (o.rets, (o.eff.filter (fun e => e.1 = "Add")).map (·.2), (o.eff.filter (fun e => e.1 = "getLatestCursorOffset")).length)
  | _ => none

/-- `GetCursor` for every leader, cache content, cache switch and scan outcome. Two tests are on symbolic values: the
leader against this server (statement 5) and, on the miss path, `c.sets == sets`. -/
theorem go_GetCursor (me leader : String) (sets : Int) (dc : Bool) (ctx : Val) (stream id : String) (part : Int)
    (cached : Option Int) (scan : Int ⊕ String) :
    getView (runG prog (getExt leader cached scan) 40 "GetCursor" (some (encManagerG me sets dc)) [ctx, .str stream, .str id, .int part] globals) =
      some (if leader ≠ me then ([.int 0, .str "status"], [], 0) else
        match (if dc then none else cached), scan with
        | some o, _ => ([.int o, .nil], [], 0)
        | none, .inl o => ([.int o, .nil], [[.str "key", .int o]], 1)
        | none, .inr _ => ([.int 0, .str "status"], [], 1)) := by
  rw [runG_eq rfl rfl, runBlock_ite_at 5 rfl rfl rfl rfl]
  by_cases h : leader = me
  · subst h
    simp only [ne_eq, not_true_eq_false, decide_false, if_false]
    rw [andThen_block rfl]
    cases dc
    · cases cached
      · cases scan
        · rw [runBlock_ite_at 7 rfl rfl rfl rfl, decide_eq_true rfl]; rfl
        · rfl
      · rfl
    · -- the cache is switched off: it is not asked
      cases scan
      · rw [runBlock_ite_at 7 rfl rfl rfl rfl, decide_eq_true rfl]; rfl
      · rfl
  · simp [h]
    rfl

theorem go_GetCursor_not_leader (me leader : String) (h : leader ≠ me) (sets : Int) (dc : Bool) (ctx : Val) (stream id : String) (part : Int)
    (cached : Option Int) (scan : Int ⊕ String) :
    getView (runG prog (getExt leader cached scan) 40 "GetCursor" (some (encManagerG me sets dc)) [ctx, .str stream, .str id, .int part] globals) =
      some ([.int 0, .str "status"], [], 0) := by
  simp [go_GetCursor, h]

/-- a cached cursor is answered from the cache: no scan, no cache write -/
theorem go_GetCursor_hit (me : String) (sets : Int) (ctx : Val) (stream id : String) (part : Int) (o : Int) (scan : Int ⊕ String) :
    getView (runG prog (getExt me (some o) scan) 40 "GetCursor" (some (encManagerG me sets false)) [ctx, .str stream, .str id, .int part] globals) =
      some ([.int o, .nil], [], 0) := by
  simp [go_GetCursor]

/-- a miss (or the cache switched off): one scan; its offset is returned and cached under the key of this call -/
theorem go_GetCursor_miss (me : String) (sets : Int) (dc : Bool) (ctx : Val) (stream id : String) (part : Int) (cached : Option Int) (o : Int)
    (h : dc = true ∨ cached = none) :
    getView (runG prog (getExt me cached (.inl o)) 40 "GetCursor" (some (encManagerG me sets dc)) [ctx, .str stream, .str id, .int part] globals) =
      some ([.int o, .nil], [[.str "key", .int o]], 1) := by
  have : (if dc then none else cached) = none := by rcases h with rfl | rfl <;> simp
  simp [go_GetCursor, this]

/-- a scan that fails: an error status, and nothing is cached -/
theorem go_GetCursor_scan_failed (me : String) (sets : Int) (ctx : Val) (stream id : String) (part : Int) (e : String) :
    getView (runG prog (getExt me none (.inr e)) 40 "GetCursor" (some (encManagerG me sets false)) [ctx, .str stream, .str id, .int part] globals) =
      some ([.int 0, .str "status"], [], 1) := by
  simp [go_GetCursor]

end Liftbridge.Props.GoCursors
