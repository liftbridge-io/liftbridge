/-
C13 at the level of the function body: WHERE a consumer-group subscription may be set up at all - `apiServer.SubscribeInternal`
(server/api.go), translated from the code (`Gen/GoSubEntry.lean`).

The registry that keeps "at most one active subscription per group" (`partition.consumers`, Props.GoGroupSub / Props.C13) lives
in ONE partition object. A partition has one object per replica; the property is about the partition, so it holds only as long
as every group subscription goes through the SAME object - the leader's (`group_only_on_leader`).
-/
import Liftbridge.Proofs.GoCodeBase
import Liftbridge.Gen.GoSubEntry

namespace Liftbridge.Props.GoSubEntry
open Liftbridge Liftbridge.GoMini Liftbridge.GoCode
open Liftbridge.Gen.GoSubEntry

theorem translation_complete : unsupported = [] := rfl

theorem lk (f : String) :
    evalE.lookup' f prog = if f = "SubscribeInternal" then some fn_apiServer_SubscribeInternal else none := by rfl

/-- `req.Consumer`: nil, or the group and consumer ids -/
def encConsumer : Option (String × String) → Val
  | none => .nil
  | some (g, c) => .struct [("GroupId", .str g), ("ConsumerId", .str c)]

def encReq (cons : Option (String × String)) (readISR : Bool) : Val :=
  .struct [("Consumer", encConsumer cons), ("Stream", .str "s"), ("Partition", .int 0), ("ReadISRReplica", .bool readISR)]

def encApi (self : String) : Val :=
  .struct [("metadata", .struct [("id", .str "metadata")]), ("config", .struct [("Clustering", .struct [("ServerID", .str self)])])]

def partV (leader : String) : Val := .struct [("partition.GetLeader", .tup [.str leader, .int 0])]

def seExt (found : Option String) (subFails : Bool) : Ext := fun f args _ =>
  if f = "metadata.GetPartition" then some (match found with | some l => partV l | none => .nil)
  else if f = "status.Error" then (match args with | [c, _] => some (.struct [("code", c)]) | _ => none)
  else if f = "subscribe" then some (if subFails then .tup [.nil, .struct [("Err", .struct [("code", .int 13)])]] else .tup [.str "sub", .nil])
  else none

section
variable (found : Option String) (subFails : Bool) (args : List Val) (eff : List (String × List Val))
@[simp] theorem seExt_GetPartition : seExt found subFails "metadata.GetPartition" args eff =
    some (match found with | some l => partV l | none => .nil) := rfl
@[simp] theorem seExt_status_Error (c m : Val) : seExt found subFails "status.Error" [c, m] eff = some (.struct [("code", c)]) := rfl
@[simp] theorem seExt_subscribe : seExt found subFails "subscribe" args eff =
    some (if subFails then .tup [.nil, .struct [("Err", .struct [("code", .int 13)])]] else .tup [.str "sub", .nil]) := rfl
end

def globals : List (String × Val) :=
  [("codes.InvalidArgument", .int 3), ("codes.NotFound", .int 5), ("codes.FailedPrecondition", .int 9)]

inductive Entry where
  | refused (code : Int)
  | forwarded (ok : Bool)
  deriving DecidableEq, Repr

/-- the outcome, and whether `a.subscribe` was reached (the number of such calls) -/
def view : R Out → Option (Entry × Nat)
  | .ok o =>
    let n := o.eff.countP (fun e => e.1 == "subscribe")
    match o.rets with
    | [.nil, .struct [("code", .int c)]] => some (if n = 0 then .refused c else .forwarded false, n)
    | [.str _, .nil] => some (.forwarded true, n)
    | _ => none
  | _ => none

def groupOf : Option (String × String) → String
  | none => ""
  | some (g, _) => g
def consumerOf : Option (String × String) → String
  | none => ""
  | some (_, c) => c

/-- The decision of `SubscribeInternal`:
  * a group id without a consumer id is refused (InvalidArgument), an unknown partition is refused (NotFound);
  * on a server that is NOT the partition leader: refused (FailedPrecondition) unless the request asks to read from an
    in-sync replica, and a GROUP subscription is refused (InvalidArgument) even then - `a.subscribe` is never reached;
  * otherwise exactly one `a.subscribe(ctx, partition, req)`. -/
def entrySpec (cons : Option (String × String)) (found : Option String) (self : String) (readISR subFails : Bool) : Entry × Nat :=
  if groupOf cons ≠ "" ∧ consumerOf cons = "" then (.refused 3, 0)
  else match found with
    | none => (.refused 5, 0)
    | some leader =>
      if leader ≠ self then
        if readISR then
          if groupOf cons ≠ "" then (.refused 3, 0) else (.forwarded (!subFails), 1)
        else (.refused 9, 0)
      else (.forwarded (!subFails), 1)

section
variable (cons : Option (String × String)) (found : Option String) (leader self : String) (readISR subFails : Bool)

def start : St :=
  { env := envOf ([("a", encApi self), ("ctx", .str "ctx"), ("req", encReq cons readISR)] ++ globals), eff := [] }

theorem SubscribeInternal_run :
    runG prog (seExt found subFails) 30 "SubscribeInternal" (some (encApi self)) [.str "ctx", encReq cons readISR] globals =
      Out.of (some "a") (runBlock (exec prog (seExt found subFails) 30) fn_apiServer_SubscribeInternal.body (start cons self readISR)) :=
  runG_eq rfl rfl

def entered : St :=
  (start cons self readISR).setAll [("group", .str ""), ("consumer", .str ""), ("group", .str (groupOf cons)),
    ("consumer", .str (consumerOf cons))]

theorem SubscribeInternal_ids (h : ¬ (groupOf cons ≠ "" ∧ consumerOf cons = "")) :
    runBlock (exec prog (seExt found subFails) 30) (fn_apiServer_SubscribeInternal.body.take 5) (start cons self readISR) =
      .ok (.next, entered cons self readISR) := by
  obtain _ | ⟨g, c⟩ := cons
  · -- without a consumer the two ids keep their initial value ""
    show _ = R.ok (Flow.next, ((start none self readISR).setAll [("group", .str ""), ("consumer", .str "")]).setAll
      [("group", .str ""), ("consumer", .str "")])
    rw [St.Binds.setAll (bs := [("group", .str ""), ("consumer", .str "")]) ⟨rfl, rfl, trivial⟩]
    rfl
  · by_cases hg : g = ""
    · simp [fn_apiServer_SubscribeInternal, gomini, start, entered, St.setAll, encReq, encConsumer, groupOf, consumerOf, hg]
    · have hc : c ≠ "" := fun hc => h ⟨hg, hc⟩
      simp [fn_apiServer_SubscribeInternal, gomini, start, entered, St.setAll, encReq, encConsumer, groupOf, consumerOf, hg, hc]

def located : St :=
  ((entered cons self readISR).log "metadata.GetPartition" [.str "s", .int 0]).setAll
    [("partition", partV leader), ("leader", .str leader)]

theorem SubscribeInternal_locate :
    runBlock (exec prog (seExt (some leader) subFails) 30) ((fn_apiServer_SubscribeInternal.body.drop 5).take 3)
      (entered cons self readISR) = .ok (.next, located cons leader self readISR) := by
  simp [start, entered, located, St.setAll, lk, fn_apiServer_SubscribeInternal, gomini, encReq, encApi, binVal, isNil, partV]

/-- statement 8: a follower goes on only with ReadISRReplica, and then only for a request without a group -/
theorem SubscribeInternal_leader :
    runBlock (exec prog (seExt found subFails) 30) ((fn_apiServer_SubscribeInternal.body.drop 8).take 1)
        (located cons leader self readISR) =
      if leader = self ∨ (readISR = true ∧ groupOf cons = "") then .ok (.next, located cons leader self readISR)
      else if readISR then
        .ok (.ret [.nil, .struct [("code", .int 3)]],
          (located cons leader self readISR).log "status.Error" [.int 3, .str "Consumer groups not compatible with ReadISRReplica"])
      else .ok (.ret [.nil, .struct [("code", .int 9)]],
          (located cons leader self readISR).log "status.Error" [.int 9, .str "Server not partition leader"]) := by
  by_cases hl : leader = self
  · simp [start, entered, located, St.setAll, fn_apiServer_SubscribeInternal, gomini, encApi, hl]
  · cases readISR
    · simp [start, entered, located, St.setAll, lk, fn_apiServer_SubscribeInternal, gomini, encReq, encApi, globals, hl]
    · by_cases hg : groupOf cons = ""
      · simp [start, entered, located, St.setAll, fn_apiServer_SubscribeInternal, gomini, encReq, encApi, hl, hg]
      · simp [start, entered, located, St.setAll, lk, fn_apiServer_SubscribeInternal, gomini, encReq, encApi, globals, hl, hg]

theorem SubscribeInternal_subscribe :
    view (Out.of (some "a") (runBlock (exec prog (seExt found subFails) 30) (fn_apiServer_SubscribeInternal.body.drop 9)
      (located cons leader self readISR))) = some (.forwarded (!subFails), 1) := by
  cases subFails <;>
    simp [Out.of, start, entered, located, St.setAll, lk, fn_apiServer_SubscribeInternal, gomini, encApi, binVal, isNil] <;> rfl

theorem SubscribeInternal_forward :
    view (Out.of (some "a") (runBlock (exec prog (seExt found subFails) 30) (fn_apiServer_SubscribeInternal.body.drop 5)
      (entered cons self readISR))) =
      some (match found with
        | none => (.refused 5, 0)
        | some leader =>
          if leader ≠ self then
            if readISR then
              if groupOf cons ≠ "" then (.refused 3, 0) else (.forwarded (!subFails), 1)
            else (.refused 9, 0)
          else (.forwarded (!subFails), 1)) := by
  obtain _ | leader := found
  · simp [Out.of, start, entered, St.setAll, lk, fn_apiServer_SubscribeInternal, gomini, encReq, encApi, globals, binVal, isNil]
    rfl
  · rw [runBlock_take 3 (SubscribeInternal_locate cons leader self readISR subFails),
      show List.drop 3 (List.drop 5 fn_apiServer_SubscribeInternal.body) = List.drop 8 fn_apiServer_SubscribeInternal.body from rfl]
    have h8 := SubscribeInternal_leader cons (some leader) leader self readISR subFails
    by_cases hp : leader = self ∨ (readISR = true ∧ groupOf cons = "")
    · rw [if_pos hp] at h8
      rw [runBlock_take 1 h8,
        show List.drop 1 (List.drop 8 fn_apiServer_SubscribeInternal.body) = List.drop 9 fn_apiServer_SubscribeInternal.body from rfl,
        SubscribeInternal_subscribe cons (some leader) leader self readISR subFails]
      rcases hp with rfl | ⟨rfl, hg⟩ <;> simp [*]
    · rw [if_neg hp] at h8
      rw [runBlock_split 1, h8]
      have hl : leader ≠ self := fun h => hp (.inl h)
      cases readISR
      · simp [andThen, Out.of, start, entered, located, St.setAll, gomini, hl]
        rfl
      · have hg : groupOf cons ≠ "" := fun h => hp (.inr ⟨rfl, h⟩)
        simp [andThen, Out.of, start, entered, located, St.setAll, gomini, hl, hg]
        rfl

end

theorem go_SubscribeInternal (cons : Option (String × String)) (found : Option String) (self : String) (readISR subFails : Bool) :
    view (runG prog (seExt found subFails) 30 "SubscribeInternal" (some (encApi self)) [.str "ctx", encReq cons readISR] globals) =
      some (entrySpec cons found self readISR subFails) := by
  rw [SubscribeInternal_run, entrySpec.eq_def]
  by_cases h : groupOf cons ≠ "" ∧ consumerOf cons = ""
  · obtain _ | ⟨g, c⟩ := cons
    · exact absurd rfl h.1
    · obtain ⟨hg, rfl⟩ : g ≠ "" ∧ c = "" := h
      simp [fn_apiServer_SubscribeInternal, gomini, start, Out.of, lk, encReq, encConsumer, globals, groupOf, consumerOf, hg]
      rfl
  · rw [if_neg h, runBlock_take 5 (SubscribeInternal_ids cons found self readISR subFails h)]
    exact SubscribeInternal_forward cons found self readISR subFails

/-- a group subscription reaches `a.subscribe` - and with it a partition's registry of group members - only on the partition
leader: all members of a group meet in ONE registry -/
theorem group_only_on_leader (cons : Option (String × String)) (found : Option String) (self : String) (readISR subFails : Bool)
    (hreach : (entrySpec cons found self readISR subFails).2 = 1) (hgroup : groupOf cons ≠ "") : found = some self := by
  unfold entrySpec at hreach
  split at hreach
  · simp at hreach
  · cases found with
    | none => simp at hreach
    | some leader =>
      by_cases hl : leader = self
      · rw [hl]
      · -- a follower forwards only with ReadISRReplica, and then only a request without a group
        cases readISR <;> simp [hl] at hreach

/-- non-vacuity: a group member asking a follower (leader "b", this server "a") with ReadISRReplica is refused; a plain
subscriber is served there; the same group member is served on the leader -/
example : entrySpec (some ("g", "c1")) (some "b") "a" true false = (.refused 3, 0) ∧
    entrySpec none (some "b") "a" true false = (.forwarded true, 1) ∧
    entrySpec (some ("g", "c1")) (some "a") "a" true false = (.forwarded true, 1) := by decide

end Liftbridge.Props.GoSubEntry
