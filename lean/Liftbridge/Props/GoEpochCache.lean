/-
The leader-epoch cache of the hand-written model IS the translated Go code.

`Gen/GoEpochCache.lean` holds the BODIES of the functions of server/commitlog/leader_epoch_cache.go.
Each theorem below states, for every cache and every argument, that running the translated body
returns exactly what the model function (`Liftbridge.Log.Epochs.*`, the functions C02/C05/C08/C09's
theorems are about) returns, leaves the cache the model predicts, and performs the effects listed
(the checkpoint `flush`). A change to one of these functions changes the translated body, and the
proof of its theorem fails.
-/
import Liftbridge.Proofs.GoEpochCache

namespace Liftbridge.Props.GoEpochCache
open Liftbridge Liftbridge.GoMini Liftbridge.Log Liftbridge.GoCode
open Liftbridge.Gen.GoEpochCache


theorem translation_complete : unsupported = [] := rfl

theorem builtin_pkgErrors_Wrap (e : Val) (rest : List Val) : builtin "pkgErrors.Wrap" (e :: rest) = some (.ok e) := by simp [builtin]

theorem go_latestEpoch (c : Epochs) :
    run prog noExt 20 "latestEpoch" (some (encCache c)) [] =
      .ok { rets := [.int c.latestEpoch], recv := some (encCache c), eff := [] } := by
  simp [run, runG, gomini, latestEpoch_body]

theorem go_latestOffset (c : Epochs) :
    run prog noExt 20 "latestOffset" (some (encCache c)) [] =
      .ok { rets := [.int c.latestOffset], recv := some (encCache c), eff := [] } := by
  simp [run, runG, gomini, latestOffset_body]

theorem go_earliestOffset (c : Epochs) :
    run prog noExt 20 "earliestOffset" (some (encCache c)) [] =
      .ok { rets := [.int c.earliestOffset], recv := some (encCache c), eff := [] } := by
  simp [run, runG, gomini, earliestOffset_body]

theorem go_LastLeaderEpoch (c : Epochs) :
    run prog noExt 20 "LastLeaderEpoch" (some (encCache c)) [] =
      .ok { rets := [.int c.latestEpoch], recv := some (encCache c), eff := [] } := by
  obtain ⟨st, h, hl, he⟩ := LastLeaderEpoch_body 8 c []
  simp [run, runG, gomini, h, hl, he]

/-- `assign`: appends `(epoch, offset)` and flushes exactly when the model does; otherwise only warns. -/
theorem go_assign (c : Epochs) (epoch : Nat) (offset : Int) :
    run prog noExt 20 "assign" (some (encCache c)) [.int epoch, .int offset] =
      .ok { rets := [.nil], recv := some (encCache (c.assign epoch offset)),
            eff := if epoch > c.latestEpoch ∧ offset ≥ c.latestOffset then [("flush", [])]
                   else [("warn", [.int epoch, .int c.latestEpoch, .int offset, .int c.latestOffset])] } := by
  obtain ⟨st, h, hl, he⟩ := assign_body 8 c epoch offset []
  simp [run, runG, gomini, h, hl, he]

/-- `ClearLatest`: nothing when the offset lies beyond the newest entry, else the model's filter and one flush. -/
theorem go_ClearLatest (c : Epochs) (offset : Int) :
    run prog noExt 20 "ClearLatest" (some (encCache c)) [.int offset] =
      .ok { rets := [.nil], recv := some (encCache (c.clearLatest offset)),
            eff := if offset > c.latestOffset then [] else [("flush", [])] } := by
  have ho := @latestOffset_body
  simp only [encCache] at ho
  by_cases h : c.latestOffset < offset
  · simp [run, runG, fn_leaderEpochCache_ClearLatest, gomini, ho, binInt, h, Epochs.clearLatest, clearLatest_facts, Cmp.evalInt, encCache]
  · obtain ⟨st, hr, hf, he, hfr⟩ := clearLatest_loop 13 offset c [] 0
      ((({ env := envOf [("l", encCache c), ("offset", .int offset)], eff := [] } : St).set "l" (encCache c)).set "filtered" (.list []))
      rfl rfl
    have hl := hfr "l" (by decide) (by decide)
    simp only [encCache] at hr
    simp [gomini, encCache] at hl he
    simp [run, runG, fn_leaderEpochCache_ClearLatest, gomini, builtin_pkgErrors_Wrap, ho, binInt, h, encCache, hr, hf, hl, he,
      Epochs.clearLatest, clearLatest_facts, Cmp.evalInt]

/-- `findEpoch`: the first entry whose epoch is at least `epoch` (Go's binary search, literally), or nil -/
theorem go_findEpoch (c : Epochs) (epoch : Nat) :
    run prog noExt 20 "findEpoch" (some (encCache c)) [.int epoch] =
      .ok { rets := [match c.findEpoch epoch with | some e => encEpoch e | none => .nil],
            recv := some (encCache c), eff := [] } := by
  simp [run, runG, gomini, findEpoch_body]
  rfl

/-- `LastOffsetForLeaderEpoch`: start offset of the first epoch greater than `epoch`, else -1 -/
theorem go_LastOffsetForLeaderEpoch (c : Epochs) (epoch : Nat) :
    run prog noExt 24 "LastOffsetForLeaderEpoch" (some (encCache c)) [.int epoch] =
      .ok { rets := [.int (c.lastOffsetFor epoch)], recv := some (encCache c), eff := [] } := by
  have hb := findEpoch_body 11 c (epoch + 1) []
  simp only [Int.natCast_add, Int.natCast_one] at hb
  simp [run, runG, fn_leaderEpochCache_LastOffsetForLeaderEpoch, gomini, binInt, hb, Epochs.lastOffsetFor]
  cases c.findEpoch (epoch + 1) with
  | none => simp [gomini]
  | some e => simp [gomini, encEpoch]

/-- `ClearEarliest`: nothing when the cache starts at or after the offset or no entry lies below it; else the entries below
are dropped, the last of them is put back at `offset` when the remainder would start later (or be empty), one flush. -/
theorem go_ClearEarliest (c : Epochs) (offset : Int) :
    run prog noExt 24 "ClearEarliest" (some (encCache c)) [.int offset] =
      .ok { rets := [.nil], recv := some (encCache (c.clearEarliest offset)),
            eff := if c.earliestOffset ≥ offset ∨ (c.filter (fun e => e.2 < offset)) = [] then [] else [("flush", [])] } := by
  have hE := @earliestOffset_body
  simp only [encCache] at hE
  by_cases h : offset ≤ c.earliestOffset
  · simp [run, runG, fn_leaderEpochCache_ClearEarliest, gomini, hE, binInt, h, Epochs.clearEarliest, clearEarliest_facts, Cmp.evalInt, encCache]
  · obtain ⟨st, hr, hf, hk, he, hfr⟩ := clearEarliest_loop 17 offset c [] 0 0
      (((({ env := envOf [("l", encCache c), ("offset", .int offset)], eff := [] } : St).set "l" (encCache c)).set "earliest" (.list [])).set
        "removed" (.int 0)) rfl rfl rfl
    have hl := hfr "l" (by decide) (by decide) (by decide)
    have ho := hfr "offset" (by decide) (by decide) (by decide)
    simp only [encCache] at hr
    simp [gomini, encCache] at hl ho he hf hk
    rcases List.eq_nil_or_concat (c.filter fun e => e.2 < offset) with hE0 | ⟨E', lastE, hE0⟩
    · simp [run, runG, fn_leaderEpochCache_ClearEarliest, gomini, hE, binInt, h, encCache, hr, hf, hl, he, hE0,
        Epochs.clearEarliest, clearEarliest_facts, Cmp.evalInt]
    · have hlen : (E'.length + 1 : Int) ≤ c.length := by
        have := List.length_filter_le (fun e => decide (e.2 < offset)) c
        rw [hE0] at this; simp at this; omega
      have h0 : (0:Int) ≤ ↑E'.length + 1 := by omega
      have hlast : (E' ++ [lastE]).getLast? = some lastE := by simp
      have ht : (c.map encEpoch).take c.length = c.map encEpoch := List.take_of_length_le (by simp)
      have hD := earliestOffset_body_drop 15 c (E'.length + 1)
      simp [run, runG, fn_leaderEpochCache_ClearEarliest, gomini, hE, binInt, h, encCache, hr, hf, hk, hl, ho, he, hE0,
        Epochs.clearEarliest, clearEarliest_facts, Cmp.evalInt, List.concat_eq_append, h0, hlen, hlast, ht, hD]
      by_cases hc : offset < Epochs.earliestOffset (c.drop (E'.length + 1))
      · simp [hc, ho, hf, hk, gomini, builtin_pkgErrors_Wrap, binInt, spliceLast, hE0, List.concat_eq_append, encEpoch, List.map_drop]
      · by_cases hem : c.length ≤ E'.length + 1
        · have hz : c.length - (E'.length + 1) = 0 := by omega
          simp [hc, hz, hem, ho, hf, hk, gomini, builtin_pkgErrors_Wrap, binInt, spliceLast, hE0, List.concat_eq_append, encEpoch, List.map_drop]
        · have hz : ¬ c.length - (E'.length + 1) = 0 := by omega
          simp [hc, hz, hem, gomini, builtin_pkgErrors_Wrap, List.map_drop]

end Liftbridge.Props.GoEpochCache
