/-
C17 — Encrypted streams never store plaintext and always return it: the PIPELINE part.

Props/C17.lean is about the codec (`Seal` / `Read` of server/encryption). This file is about
what server/partition.go does with it: every place where a received publish becomes a stored
message, and every place where a stored message becomes a delivered one. Both are REGENERATED
tables (`Gen.SealPipe.ingestSites`, `Gen.SealPipe.deliverSites`, extract/gen_sealpipe.go); the
theorems below are stated over these tables and proved from `sites_all_seal` /
`loops_all_read`, which are decided on the generated data. A site that no longer seals, a seal
error that no longer keeps the message out of the log, a read loop that no longer decrypts, or
one that goes on after an undecryptable value, flips a fact and these theorems stop checking.

What is proved, for EVERY sequence of publishes, taken at ANY of the sites in any mixture (that
is every batching / timing of the message-processing loop), every codec and every log:
  * `no_plaintext_path` / `stored_is_frame` / `stored_differs_from_published`: what an encrypted
    partition stores is an output of `Seal` on the published value — there is no path on which
    the value reaches the log as received. (That a `Seal` output does not CONTAIN the value is
    cryptography: not proved, checked empirically.)
  * `delivered_eq_published` / `nothing_lost_on_the_way_in`: every subscriber receives exactly
    the published values, in order.
  * `undecryptable_ends_with_error` / `never_silently_missing` / `tampered_value_ends_with_error`
    / `wrong_key_value_ends_with_error`: a stored value that does not decrypt (tampered, sealed
    under another master key, never sealed) ends the subscription with an error status; the
    values before it are delivered, NOTHING after it, and there is no other way for a stored
    value to be missing from what the subscriber sees.
The sensitivity lemmas `unsealed_site_stores_plaintext` and `skipping_loop_hides_value` show
that each fact is needed.

Assumptions: one partition leader, the log keeps what `Append` is given (C01), replication
copies stored bytes verbatim (`replicaCopies` / `replicaReads` of the table); the codec is a
parameter (hypotheses `CodecSound`, `Props.C17.Sound`, `Props.C17.Authentic` are explicit).
-/
import Liftbridge.Proofs.SealPipe
import Liftbridge.Props.C17

namespace Liftbridge.Props.C17Pipe
open Liftbridge Liftbridge.SealPipe

/-- Every ingest site of the code seals under the handler test and drops the message when
`Seal` fails. DECIDED on the regenerated table: breaks when any site loses its `Seal`. -/
theorem sites_all_seal : allSeal Gen.SealPipe.ingestSites = true := by decide

/-- Every read loop of the code decrypts under the handler test, delivers the decrypted value
and ends with an error status when `Read` fails. DECIDED on the regenerated table. -/
theorem loops_all_read : allRead Gen.SealPipe.deliverSites = true := by decide

/-- The tables are not empty and nothing in package server escaped classification. -/
theorem tables_cover :
    Gen.SealPipe.ingestSites ≠ [] ∧ Gen.SealPipe.deliverSites ≠ [] ∧
      Gen.SealPipe.appendCalls ≠ [] ∧ Gen.SealPipe.unclassified = [] := by decide

/-- The three ways the message-processing loop takes a message are all in the table: the first
message of a batch, messages already queued, messages arriving while the batch fills. -/
theorem batch_sites_present :
    (Gen.SealPipe.ingestSites.map (·.ctx)).contains "first" = true ∧
    (Gen.SealPipe.ingestSites.map (·.ctx)).contains "queued" = true ∧
    (Gen.SealPipe.ingestSites.map (·.ctx)).contains "waiting" = true := by decide

/-- No plaintext path: on an encrypted partition, whatever mixture of sites the publishes are
taken at, every stored value is an output of `Seal` applied to a published value. -/
theorem no_plaintext_path (c : Codec) (ps : List Pub) (v x : Bytes)
    (h : (v, x) ∈ storePairs Gen.SealPipe.ingestSites true c 0 ps) :
    (∃ r, c.doSeal r v = some x) ∧ ∃ p ∈ ps, p.value = v :=
  storePairs_sealed _ sites_all_seal c ps 0 (v, x) h

/-- With the codec of Model/Seal.lean: every stored value is key-size byte, wrapped key, nonce,
AES-GCM output of the published value. -/
theorem stored_is_frame (k : Seal.Crypto) (dek : Bytes) (nonce : Nat → Bytes) (ps : List Pub)
    (v x : Bytes) (h : (v, x) ∈ storePairs Gen.SealPipe.ingestSites true (ofCrypto k dek nonce) 0 ps) :
    ∃ r w, k.wrap dek = some w ∧ x = Seal.frame w (nonce r ++ k.aeadSeal dek (nonce r) v) := by
  obtain ⟨⟨r, hr⟩, _⟩ := no_plaintext_path _ ps v x h
  exact ⟨r, Props.C17.seal_shape k dek (nonce r) v x (resToOption_eq_some.1 hr)⟩

/-- The stored value is never the published value: it is strictly longer (framing, wrapped key
and nonce around an AEAD output that is at least as long as the value — 16 bytes longer for
AES-GCM). Holds for every value, the empty one included. -/
theorem stored_differs_from_published (k : Seal.Crypto) (dek : Bytes) (nonce : Nat → Bytes)
    (hlen : ∀ key n p, p.length ≤ (k.aeadSeal key n p).length) (ps : List Pub) (v x : Bytes)
    (h : (v, x) ∈ storePairs Gen.SealPipe.ingestSites true (ofCrypto k dek nonce) 0 ps) :
    v.length < x.length ∧ x ≠ v := by
  obtain ⟨r, w, _, hx⟩ := stored_is_frame k dek nonce ps v x h
  have hl : v.length < x.length := by
    subst hx
    have := hlen dek (nonce r) v
    simp only [Seal.frame, List.length_cons, List.length_append]
    omega
  refine ⟨hl, ?_⟩
  intro he
  rw [he] at hl
  exact Nat.lt_irrefl _ hl

/-- Functional correctness of a codec: reading an honest sealing returns the value. -/
def CodecSound (c : Codec) : Prop := ∀ r v x, c.doSeal r v = some x → c.doRead x = some v

/-- The codec of Model/Seal.lean is sound under the hypotheses of `Props.C17.read_seal`. -/
theorem ofCrypto_sound (k : Seal.Crypto) (hs : Props.C17.Sound k) (dek : Bytes) (nonce : Nat → Bytes)
    (hn : ∀ r, (nonce r).length = k.nonceSize) : CodecSound (ofCrypto k dek nonce) := by
  intro r v x h
  exact resToOption_eq_some.2
    (Props.C17.read_seal k hs dek (nonce r) v x (hn r) (resToOption_eq_some.1 h))

/-- Every subscriber receives exactly the values that were stored for the publishes, decrypted,
in order, and the subscription stays open — for every read loop of the code, every sequence of
publishes and every mixture of sites. -/
theorem delivered_eq_published (c : Codec) (hc : CodecSound c) (ps : List Pub)
    (d : DeliverSite) (hd : d ∈ Gen.SealPipe.deliverSites) :
    subscribe d true c (store Gen.SealPipe.ingestSites true c ps) =
      ⟨(storePairs Gen.SealPipe.ingestSites true c 0 ps).map Prod.fst, .waiting⟩ := by
  unfold store
  refine subscribe_readable (allRead_mem loops_all_read hd) c _ fun vx hvx => ?_
  obtain ⟨⟨r, hr⟩, _⟩ := storePairs_sealed _ sites_all_seal c ps 0 vx hvx
  exact hc r _ _ hr

/-- … and when `Seal` does not fail, these are ALL published values: nothing is lost on the way
into the log, whichever site takes the message. -/
theorem nothing_lost_on_the_way_in (c : Codec) (hc : CodecSound c)
    (htotal : ∀ r v, (c.doSeal r v).isSome = true) (ps : List Pub)
    (hsite : ∀ p ∈ ps, p.site < Gen.SealPipe.ingestSites.length)
    (d : DeliverSite) (hd : d ∈ Gen.SealPipe.deliverSites) :
    subscribe d true c (store Gen.SealPipe.ingestSites true c ps) = ⟨ps.map Pub.value, .waiting⟩ := by
  rw [delivered_eq_published c hc ps d hd,
    storePairs_complete _ sites_all_seal c htotal ps 0 hsite]

/-- End to end with the codec of Model/Seal.lean and the hypotheses of Props/C17.lean. -/
theorem pipeline_round_trip (k : Seal.Crypto) (hs : Props.C17.Sound k) (dek : Bytes)
    (nonce : Nat → Bytes) (hn : ∀ r, (nonce r).length = k.nonceSize) (ps : List Pub)
    (d : DeliverSite) (hd : d ∈ Gen.SealPipe.deliverSites) :
    (subscribe d true (ofCrypto k dek nonce)
      (store Gen.SealPipe.ingestSites true (ofCrypto k dek nonce) ps)).ending = .waiting ∧
    ∀ v ∈ (subscribe d true (ofCrypto k dek nonce)
      (store Gen.SealPipe.ingestSites true (ofCrypto k dek nonce) ps)).delivered,
      ∃ p ∈ ps, p.value = v := by
  rw [delivered_eq_published _ (ofCrypto_sound k hs dek nonce hn) ps d hd]
  refine ⟨rfl, ?_⟩
  intro v hv
  obtain ⟨⟨v', x⟩, hvx, rfl⟩ := List.mem_map.1 hv
  exact (no_plaintext_path _ ps v' x hvx).2

/-- A stored value that does not decrypt ends the subscription with an ERROR status: the
readable values before it are delivered, nothing after it — whatever follows it in the log. -/
theorem undecryptable_ends_with_error (c : Codec) (pre : List (Bytes × Bytes)) (bad : Bytes)
    (post : List Bytes) (hpre : ∀ vx ∈ pre, c.doRead vx.2 = some vx.1) (hbad : c.doRead bad = none)
    (d : DeliverSite) (hd : d ∈ Gen.SealPipe.deliverSites) :
    subscribe d true c (pre.map Prod.snd ++ bad :: post) = ⟨pre.map Prod.fst, .error⟩ :=
  subscribe_bad (allRead_mem loops_all_read hd) c bad post hbad pre hpre

/-- For ANY log (honest, tampered, mixed): the subscriber sees the decryptions of a prefix of
the log, one delivered value per stored value, in order; either the prefix is the whole log, or
the next stored value does not decrypt and the subscription has ended with an error. A stored
value is never missing silently, never replaced, and the loop never ends silently. -/
theorem never_silently_missing (c : Codec) (log : List Bytes)
    (d : DeliverSite) (hd : d ∈ Gen.SealPipe.deliverSites) :
    ∃ k, k ≤ log.length ∧
      (subscribe d true c log).delivered.map some = (log.take k).map c.doRead ∧
      (((subscribe d true c log).ending = .waiting ∧ k = log.length) ∨
       ((subscribe d true c log).ending = .error ∧ ∃ hk : k < log.length, c.doRead log[k] = none)) :=
  subscribe_prefix (allRead_mem loops_all_read hd) c log

/-- Tampering, relative to the idealised authenticity of the primitives (`Props.C17.Authentic`):
a stored value that is not the frame of something produced under the keys ends the
subscription with an error, after the values before it and before anything behind it. -/
theorem tampered_value_ends_with_error (k : Seal.Crypto) (w dek : Bytes)
    (Produced : Bytes → Bytes → Prop) (ha : Props.C17.Authentic k w dek Produced)
    (nonce : Nat → Bytes) (pre : List (Bytes × Bytes)) (bad : Bytes) (post : List Bytes)
    (hpre : ∀ vx ∈ pre, (ofCrypto k dek nonce).doRead vx.2 = some vx.1)
    (hbad : ∀ n x, Produced n x → bad ≠ Seal.frame w (n ++ x))
    (d : DeliverSite) (hd : d ∈ Gen.SealPipe.deliverSites) :
    subscribe d true (ofCrypto k dek nonce) (pre.map Prod.snd ++ bad :: post) =
      ⟨pre.map Prod.fst, .error⟩ :=
  undecryptable_ends_with_error _ pre bad post hpre
    (ofCrypto_doRead_err (Props.C17.tamper_err k w dek Produced ha bad hbad)) d hd

/-- A value sealed under another master key (`k₁`) in the log of a partition that reads with
`k₂` ends the subscription with an error (hypotheses of `Props.C17.wrong_key_err`). -/
theorem wrong_key_value_ends_with_error (k₁ k₂ : Seal.Crypto) (hs : Props.C17.Sound k₁)
    (dek n p stored : Bytes) (h : Seal.sealData k₁ dek n p = .ok stored)
    (w₂ dek₂ : Bytes) (P₂ : Bytes → Bytes → Prop) (ha : Props.C17.Authentic k₂ w₂ dek₂ P₂)
    (hne : k₁.wrap dek ≠ some w₂)
    (nonce : Nat → Bytes) (pre : List (Bytes × Bytes)) (post : List Bytes)
    (hpre : ∀ vx ∈ pre, (ofCrypto k₂ dek₂ nonce).doRead vx.2 = some vx.1)
    (d : DeliverSite) (hd : d ∈ Gen.SealPipe.deliverSites) :
    subscribe d true (ofCrypto k₂ dek₂ nonce) (pre.map Prod.snd ++ stored :: post) =
      ⟨pre.map Prod.fst, .error⟩ :=
  undecryptable_ends_with_error _ pre stored post hpre
    (ofCrypto_doRead_err (Props.C17.wrong_key_err k₁ k₂ hs dek n p stored h w₂ dek₂ P₂ ha hne)) d hd

/-! ### Sensitivity: each fact is needed -/

/-- A site without the handler test or without the replacement of `m.Value` stores the value AS
RECEIVED, on an encrypted partition too. -/
theorem unsealed_site_stores_plaintext (s : IngestSite) (h : (s.guarded && s.seals) = false)
    (c : Codec) (r : Nat) (v : Bytes) : ingest s true c r v = some v :=
  ingest_unsealed s h true c r v

/-- A read loop that goes on after a `Read` error hides the value: the subscriber sees the log
as if the value had never been stored, and no error. -/
theorem skipping_loop_hides_value (d : DeliverSite) (hg : d.guarded = true) (he : d.errEnds = false)
    (c : Codec) (bad : Bytes) (post : List Bytes) (hbad : c.doRead bad = none) :
    subscribe d true c (bad :: post) = subscribe d true c post := by
  simp [subscribe, deliverStep, hg, he, hbad]

/-- A toy codec: `Seal` prepends a marker (and fails on the value `[0xFF]`), `Read` strips it. -/
def toyCodec : Codec where
  doSeal := fun _ v => if v = [0xFF] then none else some (0xA6 :: v)
  doRead := fun b => match b with
    | 0xA6 :: v => some v
    | _ => none

example : CodecSound toyCodec := by
  intro r v x h
  simp only [toyCodec] at h ⊢
  split at h
  · simp at h
  · injection h with h
    subst h
    rfl

/-- The code's tables: three publishes at the three sites are stored sealed and delivered. -/
example : store Gen.SealPipe.ingestSites true toyCodec [⟨0, [1]⟩, ⟨1, [2]⟩, ⟨2, [3]⟩] =
    [[0xA6, 1], [0xA6, 2], [0xA6, 3]] := by decide

example : ∀ d ∈ Gen.SealPipe.deliverSites,
    subscribe d true toyCodec [[0xA6, 1], [0xA6, 2], [0xA6, 3]] = ⟨[[1], [2], [3]], .waiting⟩ := by decide

/-- A value that does not decrypt in the middle: error after the first value, the third is not
delivered. -/
example : ∀ d ∈ Gen.SealPipe.deliverSites,
    subscribe d true toyCodec [[0xA6, 1], [2], [0xA6, 3]] = ⟨[[1]], .error⟩ := by decide

/-- A `Seal` failure keeps the message out of the log. -/
example : store Gen.SealPipe.ingestSites true toyCodec [⟨0, [1]⟩, ⟨2, [0xFF]⟩, ⟨1, [3]⟩] =
    [[0xA6, 1], [0xA6, 3]] := by decide

def goodSite : IngestSite := ⟨"f", "first", true, true, true⟩
/-- A site as it looks when its `Seal` block is removed. -/
def bareSite : IngestSite := ⟨"f", "waiting", false, false, false⟩

/-- One site of three without `Seal`: the value taken there is in the log in clear. -/
example : store [goodSite, goodSite, bareSite] true toyCodec [⟨0, [1]⟩, ⟨2, [2]⟩] = [[0xA6, 1], [2]] := by
  decide
example : allSeal [goodSite, goodSite, bareSite] = false := by decide

def goodLoop : DeliverSite := ⟨"l", true, true, true, true, true⟩
/-- A read loop that logs the error and goes on. -/
def skippingLoop : DeliverSite := ⟨"l", true, true, false, false, true⟩

/-- The skipping loop hands over the third value as if the second did not exist. -/
example : subscribe skippingLoop true toyCodec [[0xA6, 1], [2], [0xA6, 3]] = ⟨[[1], [3]], .waiting⟩ := by
  decide
example : subscribe goodLoop true toyCodec [[0xA6, 1], [2], [0xA6, 3]] = ⟨[[1]], .error⟩ := by decide
example : allRead [skippingLoop] = false := by decide

end Liftbridge.Props.C17Pipe
