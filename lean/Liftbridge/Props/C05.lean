/-
C05 — "The partition log recovers from a crash at any instant."

Model: `Liftbridge/Model/Recover.lean` (file system as data, every commit-log operation as a
program of atomic file-system effects and crash marks, `recover` = `commitlog.New`). The code
shape that matters for crash behaviour (`Shape`: order of log/index write, order of the two
renames of a segment replacement, leader-epoch assignment before/after the write, what is done
with left-over `.cleaned`/`.truncated` files, whether opening a segment reconciles log and
index) is regenerated from the source on every run (`Shape.current`).

The property for ONE crash is the executable predicate `crashOK cfg ops k` (workload `ops` on a
fresh directory, process killed after `k` primitive steps, then `New`, the redo of an
interrupted truncate/clean and one more append): reopening succeeds, no completed message is
lost or changed, a sequential byte reader sees no duplicate offset / phantom / garbage, readers
start where asked, the HW is not above the one before the crash, the leader epochs match.

Status of the statement:
* `C05_asStated Shape.unfixed` (the code before fixes/C05-*.diff) is FALSE: five independent
  crash windows, each with a concrete witness evaluated by the kernel and replayed on the real
  code through the crash hooks (harness tags in the doc comments).
* The HW clause (c) is proved for EVERY workload, crash step and code shape (`C05_partial_hw`).
* `InitializePosition` is proved exact on every well-formed index file (`initializePosition_exact`),
  and the model's search is Go's `sort.Search` (`search_is_sort_search`).
* The three repairs are proved at the level of the segment, for ALL contents: opening a segment
  cuts off whatever follows the indexed records — unindexed message sets or torn bytes —
  (`open_reconciles_log_and_index`); hence `WriteMessageSet` is crash-atomic: killed at any step,
  the reopened segment holds the old records or the old ones plus the whole new set
  (`writeMessageSet_crash_atomic`); an index that does not belong to its log (crash between the two
  renames of `Replace`) is rebuilt (`open_rebuilds_stale_index`); `Cleaned()`/`Truncated()` start
  from empty files whatever a crashed clean/truncate left behind (`suffixed_segment_starts_empty`).
* NOT proved for all workloads: the composition of these segment-level facts over whole
  operation sequences (clauses (a), (b), (d) of `crashOK` for arbitrary `ops`), and that every
  rename-gap state is detected by the last-entry check. They are evaluated by the kernel on every
  crash step of the workloads in the `example`s below (bounded, not theorems) and by the
  correspondence harness on the real code.
* `shape_is_fixed` ties the theorems about `Shape.fixed` to the code: it only checks on a tree
  that contains the three repairs.
-/
import Liftbridge.Model.Recover
import Liftbridge.Proofs.Recover
import Liftbridge.Proofs.RecoverHW
import Liftbridge.Proofs.RecoverOpen
import Liftbridge.Proofs.RecoverBudget

namespace Liftbridge.Props.C05
open Liftbridge Liftbridge.Log Liftbridge.Recover

def cfgOf (sh : Shape) (maxSegBytes : Int) : Cfg := { shape := sh, maxSegBytes := maxSegBytes }
def b1 (a : Nat) : Option Bytes := some [UInt8.ofNat a]

/-- C05 as stated, for the code shape `sh`: every crash step of every workload under every
configuration is fine. -/
def C05_asStated (sh : Shape) : Prop :=
  ∀ cfg : Cfg, cfg.shape = sh → ∀ (ops : List Op) (k : Nat), crashOK cfg ops k = true

/-! ## Witnesses on the unrepaired code -/

/-- One append of one message. -/
def wAppend : List Op := [.append 1 10 [⟨b1 0x61, b1 0x62⟩]]
/-- What the resumed process does in the witnesses: one append. -/
def onceMore : List Op := [.append 9 900 [postMsg]]
/-- Three messages in one segment, then `Truncate(2)`. -/
def wTruncate : List Op := [.append 1 10 [⟨b1 0x61, b1 1⟩, ⟨b1 0x62, b1 2⟩, ⟨b1 0x63, b1 3⟩], .truncate 2]

/-- F-C05-a, tag `crash-log-index-gap`: killed between the log write and the index write of the
first append (step 8 = hook `segment.write.log`). After reopen the position is the file size but
the next offset comes from the (empty) index: the next append reuses offset 0 and a sequential
reader gets offset 0 twice. -/
theorem crash_log_index_gap :
    viewOffsets (resumeView (cfgOf .unfixed 100) wAppend 8 0 onceMore) = some ([0, 0], false) ∧
    crashOK (cfgOf .unfixed 100) wAppend 8 = false := by
  decide +kernel

/-- Same window with a roll pending (`MaxSegmentBytes` reached by the unindexed bytes while the
index is empty): `checkAndPerformSplit` wants to create the segment that already exists and
retries for ever — tag `crash-split-livelock` (the model reports the livelock as an error). -/
theorem crash_split_livelock :
    (match resumeView (cfgOf .unfixed 1) wAppend 8 0 onceMore with
     | some (.err e) => e
     | _ => "") = "split-livelock" := by
  decide +kernel

/-- F-C05-b, tag `crash-stale-suffix-file`: killed while `Truncate(2)` copies the kept messages
into `…​.log.truncated` (step 29 = after the second copy). The left-over files are ignored by
`New`, then reopened `O_APPEND` by the next `Truncate(2)` and appended to: the segment that
replaces the original holds 0 1 0 1. -/
theorem crash_stale_suffix_file :
    viewOffsets (resumeView (cfgOf .unfixed 1000) wTruncate 29 0 (.truncate 2 :: onceMore)) = some ([0, 1, 0, 1, 2], false) ∧
    crashOK (cfgOf .unfixed 1000) wTruncate 29 = false := by
  decide +kernel

/-- Tag `crash-replace-rename-gap`: killed between the two renames of `Replace` (step 40 = hook
`segment.replace.log-renamed`): the truncated log is in place under the OLD index. Reopening
succeeds, the log ends at offset 1, but `NewestOffset()` is 2 and a reader created at offset 2
gets nothing. -/
theorem crash_replace_rename_gap :
    (match resumeView (cfgOf .unfixed 1000) wTruncate 40 0 [] with
     | some (.ok (rs, g, m)) => (rs.map (·.offset), g, m.newest)
     | _ => ([], true, 0)) = ([0, 1], false, 2) ∧
    crashOK (cfgOf .unfixed 1000) wTruncate 40 = false := by
  decide +kernel

/-- Tag `crash-epoch-mismatch`: killed after the message set is written and indexed but before
the leader-epoch cache is assigned and flushed (step 11): the message of epoch 1 is in the log,
the recovered epoch cache is empty (says epoch 0 for its offset). -/
theorem crash_epoch_mismatch :
    (match resumeView (cfgOf .unfixed 100) wAppend 11 0 [] with
     | some (.ok (rs, _, m)) => (rs.map (fun r => (r.offset, r.epoch)), m.epochs)
     | _ => ([], [(7, 7)])) = ([(0, 1)], []) ∧
    crashOK (cfgOf .unfixed 100) wAppend 11 = false := by
  decide +kernel

/-- Tag `crash-torn-write` (OUTSIDE the property's quantifier, which only has crash points between
two file-system effects): the kill additionally cuts the `write(2)` of the message set 3 bytes
short. The incomplete message stays in front of whatever is appended next: a sequential reader
runs into bytes that are not a message. -/
theorem crash_torn_write :
    viewOffsets (resumeView (cfgOf .unfixed 100) wAppend 8 3 onceMore) = some ([], true) := by
  decide +kernel

theorem C05_asStated_unfixed_false : ¬ C05_asStated Shape.unfixed := by
  intro h
  have := h (cfgOf .unfixed 100) rfl wAppend 8
  rw [crash_log_index_gap.2] at this
  exact absurd this (by decide)

/-! ## The repairs (fixes/C05-*.diff) close these windows -/

/-- The same crashes on the repaired code: every clause holds, and the reader sees what it should
(the interrupted append is gone or complete, never half there; the redone truncate yields 0 1). -/
theorem repairs_close_the_windows :
    crashOK (cfgOf .fixed 100) wAppend 8 = true ∧
    viewOffsets (resumeView (cfgOf .fixed 100) wAppend 8 0 onceMore) = some ([0], false) ∧
    viewOffsets (resumeView (cfgOf .fixed 100) wAppend 8 3 onceMore) = some ([0], false) ∧
    viewOffsets (resumeView (cfgOf .fixed 1) wAppend 8 0 onceMore) = some ([0], false) ∧
    crashOK (cfgOf .fixed 1000) wTruncate 29 = true ∧
    viewOffsets (resumeView (cfgOf .fixed 1000) wTruncate 29 0 (.truncate 2 :: onceMore)) = some ([0, 1, 2], false) ∧
    crashOK (cfgOf .fixed 1000) wTruncate 40 = true ∧
    crashOK (cfgOf .fixed 100) wAppend 11 = true := by
  decide +kernel

/-- The tie of the `Shape.fixed` statements to the code: the shape regenerated from the source
(log written before the index, log renamed before the index, leader epoch assigned BEFORE the
write, left-over suffix files removed, log and index reconciled on open) is the repaired one.
Does not check on a tree without fixes/C05-*.diff. -/
theorem shape_is_fixed : Shape.current = Shape.fixed := by decide

/-! ## What holds for every workload -/

/-- Clause (c), for EVERY workload (appends, HW updates and checkpoints, truncations, cleans with
retention and compaction, rolls, clean reopens), EVERY crash step `k` and EVERY code shape: the
high watermark recovered by `New` from the directory left by the crash is not above the
in-memory high watermark at the moment of the crash (`hwBefore`). -/
theorem C05_partial_hw (cfg : Cfg) (ops : List Op) (k : Nat) (fs : FS) (n : Nat) (hwBefore : Int)
    (hc : crashAt cfg ops k = some (fs, n, hwBefore))
    (m : Mem) (fs' : FS) (hr : recover cfg fs = .ok (m, fs')) : m.hw ≤ hwBefore := by
  unfold crashAt at hc
  have hl := Proofs.Recover.life_safe cfg ops (s := { fs := {}, budget := k }) (Int.le_refl (-1))
  split at hc
  · rename_i s h
    rw [h] at hl
    cases hc
    rw [Proofs.Recover.recover_hw cfg _ m fs' hr]
    exact hl
  · cases hc

/-- `New` never invents a high watermark: it is what the checkpoint file says (−1 without one). -/
theorem recovered_hw_is_checkpoint (cfg : Cfg) (fs : FS) (m : Mem) (fs' : FS)
    (hr : recover cfg fs = .ok (m, fs')) : m.hw = fs.hw.getD (-1) :=
  Proofs.Recover.recover_hw cfg fs m fs' hr

/-- `InitializePosition` on ANY well-formed index file — pre-allocated, shrunk to its contents by
a seal/close, or expanded; any number of written slots: the binary search for the first empty
slot returns exactly the number of written slots and the last written entry (or `corrupt` when
that entry lies below the base offset). So every crash state gets the index position right. -/
theorem initializePosition_exact (ix : IdxFile) (base : Int) (wf : Proofs.Recover.IdxWF ix) :
    initPosition ix base =
      match ix.slots.getLast? with
      | none => .ok 0 none
      | some e => if Gen.Recover.corruptCmp.evalInt e.offset base then .corrupt ix.slots.length
                  else .ok ix.slots.length (some e) :=
  Proofs.Recover.initPosition_spec ix base wf

/-- The kernel-evaluable binary search used by the recovery model is the literal mirror of Go's
`sort.Search` (for every predicate, monotone or not). -/
theorem search_is_sort_search (n : Nat) (f : Nat → Bool) : goSearchS n f = goSearch n f :=
  Proofs.Recover.goSearchS_eq n f

/-! ## The repairs, for all segment contents -/

/-- Opening a segment on the repaired code reconciles log and index (fixes/C05-reconcile-log-and-
index-on-open.diff). The log file holds the records `rs` followed by ANY tail `t` — whole message
sets whose index entries were never written (the process died between `write(log)` and
`writeEntries(index)`) and/or the incomplete bytes of a torn write; the index holds the entries of
`rs` (pre-allocated, shrunk or expanded: `rs.length ≤ ix.size`). After `setupIndex` the tail is
gone and log file, index file, position, index position and first/last offset agree on `rs`. -/
theorem open_reconciles_log_and_index (sh : Shape) (hv : sh.validateOnOpen = true) (base : Int) (sfx : Sfx)
    (rs : List Rec) (t : List Chunk) (ix : IdxFile) (s s' : St) (seg : MSeg)
    (hlog : s.fs.log? ⟨base, sfx⟩ = some (rs.map Chunk.msg ++ t))
    (hidx : s.fs.idx? ⟨base, sfx⟩ = some ix) (hslots : ix.slots = Seg.entriesFrom 0 rs) (hfit : rs.length ≤ ix.size)
    (hbase : ∀ r ∈ rs, base ≤ r.offset) (ht : ∀ c ∈ t, 0 < c.size)
    (hrun : setupIndexM sh { base := base, sfx := sfx, position := chunksSize (rs.map Chunk.msg ++ t) } s = .ok seg s') :
    Proofs.Recover.AlignedSeg s'.fs seg rs ∧ seg.fname = ⟨base, sfx⟩ :=
  (Proofs.Recover.run_open_reconciles hv ⟨hlog, ix, hidx, hslots, hfit⟩ hbase ht).ok hrun

/-- `WriteMessageSet` is crash-atomic on the repaired code. A segment whose log, index and counters
agree on `rs` receives the message set `recs` (entries as `Append` computes them); the process is
killed at ANY step of `WriteMessageSet` (before the log write, between log and index write — the
window of finding `crash-log-index-gap` —, after both); a new process opens the segment. Then
everything agrees on `rs` (the append never happened) or on `rs ++ recs` (it happened entirely):
never a half-present message set, never a reused offset. -/
theorem writeMessageSet_crash_atomic (sh : Shape) (hw : sh.writeLogFirst = true) (hv : sh.validateOnOpen = true)
    (fs0 : FS) (seg : MSeg) (rs recs : List Rec) (hal : Proofs.Recover.AlignedSeg fs0 seg rs)
    (hbase : ∀ r ∈ rs ++ recs, seg.base ≤ r.offset)
    (s s' : St) (hs : s.fs = fs0)
    (hcrash : writeM sh seg recs (Seg.entriesFrom seg.position recs) s = .crashed s')
    (s2 s3 : St) (hsame : s2.fs = s'.fs) (seg' : MSeg)
    (hopen : setupIndexM sh { base := seg.base, sfx := seg.sfx, position := s2.fs.logSize seg.fname } s2 = .ok seg' s3) :
    Proofs.Recover.AlignedSeg s3.fs seg' rs ∨ Proofs.Recover.AlignedSeg s3.fs seg' (rs ++ recs) :=
  Proofs.Recover.write_crash_atomic hw hv (hs ▸ hal) hbase hcrash hsame hopen

/-- An index that does not belong to its log is rebuilt on the repaired code: when the last index
entry does not describe the record at its position in the log (the state a crash between the two
renames of `Replace` leaves: the new log under the old index — finding `crash-replace-rename-gap`),
`setupIndex` rebuilds the index from the log and everything agrees on the records of the log. -/
theorem open_rebuilds_stale_index (sh : Shape) (hv : sh.validateOnOpen = true) (base : Int) (sfx : Sfx)
    (rs : List Rec) (ix : IdxFile) (s s' : St) (seg : MSeg)
    (hlog : s.fs.log? ⟨base, sfx⟩ = some (rs.map Chunk.msg))
    (hidx : s.fs.idx? ⟨base, sfx⟩ = some ix) (hwf : Proofs.Recover.IdxWF ix)
    (hstale : lastMatches s.fs { base := base, sfx := sfx, position := chunksSize (rs.map Chunk.msg) } ix.slots.getLast? = false)
    (hbase : ∀ r ∈ rs, base ≤ r.offset)
    (hrun : setupIndexM sh { base := base, sfx := sfx, position := chunksSize (rs.map Chunk.msg) } s = .ok seg s') :
    Proofs.Recover.AlignedSeg s'.fs seg rs ∧ seg.fname = ⟨base, sfx⟩ :=
  Proofs.Recover.open_rebuilds_stale_index sh hv base sfx rs ix s s' seg hlog hidx hwf hstale hbase hrun

/-- `Cleaned()` / `Truncated()` start from scratch on the repaired code (fixes/C05-stale-suffix-
files.diff): whatever `.cleaned` / `.truncated` files of that base a crashed clean or truncate
left in the directory (`s.fs` is arbitrary), the suffixed segment that is created is empty — log
file, index file and counters (finding `crash-stale-suffix-file`: the unrepaired code reopens the
left-over file in append mode). -/
theorem suffixed_segment_starts_empty (sh : Shape) (hr : sh.removeStaleSuffix = true) (hv : sh.validateOnOpen = true)
    (base : Int) (sfx : Sfx) (s s' : St) (seg : MSeg)
    (hrun : suffixedM sh base sfx s = .ok seg s') :
    Proofs.Recover.AlignedSeg s'.fs seg [] ∧ seg.fname = ⟨base, sfx⟩ :=
  (Proofs.Recover.run_suffixedM hr hv).ok hrun

/-! ## Non-vacuity and bounded evidence (examples, not theorems) -/

/-- Non-vacuity of `open_reconciles_log_and_index` / `writeMessageSet_crash_atomic`: a log file with
one indexed record followed by one unindexed record and 5 torn bytes; after `setupIndex` on the
repaired shape the file holds the indexed record only and the position is its size (46). -/
example :
    let r0 : Rec := { offset := 0, ts := 10, epoch := 1, body := ⟨b1 0x61, b1 0x62, []⟩ }
    let r1 : Rec := { offset := 1, ts := 11, epoch := 1, body := ⟨b1 0x61, b1 0x63, []⟩ }
    let fs : FS := { logs := [(⟨0, .plain⟩, [.msg r0, .msg r1, .junk 5])],
                     idxs := [(⟨0, .plain⟩, { slots := Seg.entriesFrom 0 [r0], size := 1 })] }
    (match setupIndexM Shape.fixed { base := 0, position := chunksSize [.msg r0, .msg r1, .junk 5] } { fs := fs, budget := 100 } with
     | .ok seg s' => (seg.position, seg.lastOffset, seg.idxPos, s'.fs.log? ⟨0, .plain⟩ == some [.msg r0])
     | _ => (0, 0, 0, false)) = (46, 0, 1, true) := by
  decide +kernel

/-- The same directory on the unrepaired shape: the position is the file size (97) while the last
offset comes from the index — the next append would reuse offset 1 behind the unindexed record. -/
example :
    let r0 : Rec := { offset := 0, ts := 10, epoch := 1, body := ⟨b1 0x61, b1 0x62, []⟩ }
    let r1 : Rec := { offset := 1, ts := 11, epoch := 1, body := ⟨b1 0x61, b1 0x63, []⟩ }
    let fs : FS := { logs := [(⟨0, .plain⟩, [.msg r0, .msg r1, .junk 5])],
                     idxs := [(⟨0, .plain⟩, { slots := Seg.entriesFrom 0 [r0], size := 1 })] }
    (match setupIndexM Shape.unfixed { base := 0, position := chunksSize [.msg r0, .msg r1, .junk 5] } { fs := fs, budget := 100 } with
     | .ok seg _ => (seg.position, seg.nextOffset)
     | _ => (0, 0)) = (97, 1) := by
  decide +kernel

/-- Non-vacuity of `open_rebuilds_stale_index`: a one-record log under a two-entry index of an
older, longer version of the segment; the index is rebuilt. -/
example :
    let r0 : Rec := { offset := 0, ts := 10, epoch := 1, body := ⟨b1 0x61, b1 0x62, []⟩ }
    let r1 : Rec := { offset := 1, ts := 11, epoch := 1, body := ⟨b1 0x61, b1 0x63, []⟩ }
    let fs : FS := { logs := [(⟨0, .plain⟩, [.msg r0])],
                     idxs := [(⟨0, .plain⟩, { slots := Seg.entriesFrom 0 [r0, r1], size := 2 })] }
    (match setupIndexM Shape.fixed { base := 0, position := chunksSize [.msg r0] } { fs := fs, budget := 100 } with
     | .ok seg s' => (seg.lastOffset, seg.idxPos, ((s'.fs.idx? ⟨0, .plain⟩).map (·.slots.length)))
     | _ => (9, 9, none)) = (0, 1, some 1) := by
  decide +kernel

/-- Non-vacuity of `C05_partial_hw`: a HW of 1 is set and checkpointed, raised to 2 in memory, and
the process is killed in the next append: the recovered HW is 1, the HW before the crash 2. -/
example :
    let ops : List Op := [.append 1 10 [⟨b1 0x61, b1 1⟩, ⟨b1 0x62, b1 2⟩, ⟨b1 0x63, b1 3⟩], .setHW 1, .checkpointHW, .setHW 2, .append 1 20 [⟨b1 0x61, b1 4⟩]]
    (match crashAt (cfgOf .fixed 1000) ops 22 with
     | some (fs, n, hwB) => (n, hwB, (match recover (cfgOf .fixed 1000) fs with | .ok (m, _) => m.hw | _ => (99 : Int)))
     | none => (0, (0 : Int), (0 : Int))) = (4, 2, 1) := by
  decide +kernel

/-- Non-vacuity of `initializePosition_exact`: a shrunk index with two entries. -/
example : initPosition { slots := [⟨5, 10, 0, 47⟩, ⟨6, 11, 47, 45⟩], size := 2 } 5 = .ok 2 (some ⟨6, 11, 47, 45⟩) := by
  decide +kernel

/-- Bounded: every crash step of an append / roll / HW-checkpoint / reopen workload on the repaired
shape (three segments of ~100 bytes). -/
example : ∀ k < 110, crashOK (cfgOf .fixed 100)
    [.append 1 10 [⟨b1 0x61, b1 1⟩, ⟨none, b1 2⟩], .append 1 20 [⟨b1 0x61, b1 3⟩], .setHW 1, .checkpointHW,
     .append 2 30 [⟨b1 0x62, b1 4⟩], .reopen, .append 3 40 [⟨b1 0x61, b1 5⟩]] k = true :=
  -- the workload finishes within 74 steps (no program reads its budget: nothing can crash later)
  fun k _ => Proofs.Recover.crashOK_of_finished 74 (by decide +kernel) (by decide +kernel) k

/-- Bounded: every crash step of a truncate workload (inside a segment, with a later segment to
delete) on the repaired shape. -/
example : ∀ k < 140, crashOK (cfgOf .fixed 90)
    [.append 1 10 [⟨b1 0x61, b1 1⟩, ⟨b1 0x62, b1 2⟩], .append 1 20 [⟨b1 0x61, b1 3⟩],
     .append 2 30 [⟨b1 0x62, b1 4⟩, ⟨b1 0x63, b1 5⟩], .truncate 3, .append 3 50 [⟨b1 0x61, b1 6⟩]] k = true :=
  fun k _ => Proofs.Recover.crashOK_of_finished 80 (by decide +kernel) (by decide +kernel) k

/-- Bounded: every crash step of a compaction workload (keys overwritten across segments, HW in
the middle) on the repaired shape. -/
example : ∀ k < 150, crashOK { shape := .fixed, maxSegBytes := 60, compact := true }
    [.append 1 10 [⟨b1 0x61, b1 1⟩], .append 1 20 [⟨b1 0x61, b1 2⟩], .append 1 30 [⟨b1 0x62, b1 3⟩],
     .append 2 40 [⟨b1 0x61, b1 4⟩], .setHW 3, .clean 0] k = true :=
  fun k _ => Proofs.Recover.crashOK_of_finished 75 (by decide +kernel) (by decide +kernel) k

end Liftbridge.Props.C05
