/-
Cleans that race with the writer (C08 "appends that roll new segments while a compaction is
running", C09 "cleans that run while new segments are appended"): `Compact.cleanLogDuring`
models `commitLog.Clean()` whose snapshot holds the first `n` segments of the log `l1` that
exists when it swaps the segment list (the appends in between extended segment `n-1` and may
have rolled further segments, which are rebased onto the cleaned ones).
-/
import Liftbridge.Model.Compact
import Liftbridge.Proofs.Compact
import Liftbridge.Proofs.CleanRace

namespace Liftbridge.Props.CleanRace
open Liftbridge Liftbridge.Log Liftbridge.Log.CLog Liftbridge.Compact Liftbridge.Proofs.Compact
open Liftbridge.Proofs.CleanRace

/-- Records of the segments rolled while the clean ran. -/
def rolledDuring (n : Nat) (l1 : CLog) : List Rec := (l1.segs.drop n).flatMap Seg.recs

/-- Nothing appended into a segment rolled during the clean is lost, with or without compaction,
however many segments were rolled. -/
theorem rolled_segments_survive (lim : Retention.Limits) (ttl : Int) (c : Bool) (n : Nat) (l1 : CLog)
    (hn : 0 < n) (hle : n ≤ l1.segs.length) :
    ∀ r ∈ rolledDuring n l1, r ∈ (cleanLogDuring lim ttl c n l1).abs := fun r hr => by
  rw [race_abs lim ttl c n l1 (take_ne_nil hn hle)]
  exact List.mem_append_right _ hr

/-- The segment that was active when the clean started (and everything appended to it
meanwhile) survives. -/
theorem active_segment_survives (lim : Retention.Limits) (ttl : Int) (c : Bool) (n : Nat) (l1 : CLog)
    (hn : 0 < n) (hle : n ≤ l1.segs.length) (s : Seg) (hs : l1.segs[n - 1]? = some s) :
    ∀ r ∈ s.recs, r ∈ (cleanLogDuring lim ttl c n l1).abs := fun r hr => by
  have hold := take_ne_nil hn hle
  -- the last cleaned segment is the last segment of the snapshot, untouched
  have hl : (cleanedSegs lim ttl c l1.hw (l1.segs.take n)).getLast? = some s := by
    rw [cleanedSegs_getLast? lim ttl c l1.hw hold, List.getLast?_take, if_neg (by omega), hs]
    rfl
  rw [race_abs lim ttl c n l1 hold]
  exact List.mem_append_left _ (List.mem_flatMap.mpr ⟨s, List.mem_of_getLast? hl, hr⟩)

/-- Retention racing with appends still leaves a contiguous suffix of the log (C09): only whole
oldest segments are gone, nothing in the middle. -/
theorem retention_race_suffix (lim : Retention.Limits) (ttl : Int) (n : Nat) (l1 : CLog)
    (hn : 0 < n) (hle : n ≤ l1.segs.length) :
    (cleanLogDuring lim ttl false n l1).abs <:+ l1.abs := by
  have hold := take_ne_nil hn hle
  rw [race_abs lim ttl false n l1 hold, abs_take_drop n l1]
  obtain ⟨P, init, last, ho, hc⟩ := cleanedSegs_shape lim ttl false l1.hw hold
  exact ⟨P.flatMap Seg.recs, by rw [hc, ho]; simp⟩

/-- Compaction racing with appends: every surviving message is an unchanged message of the log,
in the original order (C08), and no segment appears twice. -/
theorem compaction_race_sublist (lim : Retention.Limits) (ttl : Int) (n : Nat) (l1 : CLog)
    (hn : 0 < n) (hle : n ≤ l1.segs.length) :
    (cleanLogDuring lim ttl true n l1).abs.Sublist l1.abs := by
  have hold := take_ne_nil hn hle
  rw [race_abs lim ttl true n l1 hold, abs_take_drop n l1]
  exact List.Sublist.append (cleanedSegs_flatMap_sublist _ _ _ _ hold) (List.Sublist.refl _)

/-- The invariant of possibly-compacted logs survives a clean that raced with appends, so the
reader theorems (C08 `readUncommitted_sparse`, `readCommitted_sparse`) apply to its result. -/
theorem race_keeps_invariant (lim : Retention.Limits) (ttl : Int) (c : Bool) (n : Nat) (l1 : CLog)
    (h : InvC l1) (hn : 0 < n) (hle : n ≤ l1.segs.length) :
    InvC (cleanLogDuring lim ttl c n l1) :=
  invC_cleanLogDuring lim ttl c n l1 h (take_ne_nil hn hle)

set_option linter.unusedVariables false in -- the whole states agree, also on an empty segment list
/-- Without a race (`n` = all segments) it is the plain clean. -/
theorem no_race_is_cleanLog (lim : Retention.Limits) (ttl : Int) (c : Bool) (l : CLog) (hne : l.segs ≠ []) :
    (cleanLogDuring lim ttl c l.segs.length l).segs = (cleanLog lim ttl c l).segs := by
  rw [cleanLog_eq_during]

/-- The end of the log and the HW are not moved by a racing clean. -/
theorem race_keeps_ends (lim : Retention.Limits) (ttl : Int) (c : Bool) (n : Nat) (l1 : CLog)
    (hn : 0 < n) (hle : n ≤ l1.segs.length) :
    (cleanLogDuring lim ttl c n l1).nextOffset = l1.nextOffset ∧ (cleanLogDuring lim ttl c n l1).hw = l1.hw := by
  have hold := take_ne_nil hn hle
  have hlast : (cleanLogDuring lim ttl c n l1).segs.getLast? = l1.segs.getLast? := by
    rw [cleanLogDuring_segs lim ttl c n l1 hold, List.getLast?_append,
      cleanedSegs_getLast? lim ttl c l1.hw hold, ← List.getLast?_append, List.take_append_drop]
  exact ⟨by unfold CLog.nextOffset active; rw [hlast], cleanLogDuring_hw lim ttl c n l1⟩

end Liftbridge.Props.CleanRace
