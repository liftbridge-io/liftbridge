/-
C10 — A subscription delivers exactly the requested range.
Theorems about `Liftbridge.Subscribe` (start/stop resolution incl. timestamp lookups, the
forward committed reader observed by draining, the reverse reader, stop tests, endings) on
EVERY log satisfying `InvC` — dense, compacted-sparse or retention-trimmed, any number of
segments, any HW position — and every start × stop × direction combination.
`TsMono`: message timestamps do not decrease along the log (they are assigned by the leader's
clock at append time); the timestamp lookups are binary searches and mean nothing otherwise.
-/
import Liftbridge.Model.Subscribe
import Liftbridge.Proofs.Compact
import Liftbridge.Proofs.Subscribe

namespace Liftbridge.Props.C10
open Liftbridge Liftbridge.Log Liftbridge.Log.CLog Liftbridge.Subscribe
open Liftbridge.Proofs.Compact Liftbridge.Proofs.Subscribe

-- Some hypotheses of the statements below are not needed by the proofs (`hfwd` for the drain
-- theorems: `drain` never looks at the direction; `hcase` for `create_forward`; `hhw` for
-- `create_reverse`).
set_option linter.unusedVariables false

/-- Timestamps are non-decreasing along the log. -/
def TsMono (l : CLog) : Prop := l.abs.Pairwise (fun a b => a.ts ≤ b.ts)

/-- The high watermark names a retained record (true whenever anything is committed: the HW
message survives compaction, `C08.hw_record_survives`) or nothing is committed. -/
def HwOk (l : CLog) : Prop := l.hw = -1 ∨ ∃ r ∈ l.abs, r.offset = l.hw

/-- Start timestamp: the resolved offset splits the log exactly at the timestamp — the retained
messages at or after it are those with `ts ≥ t` — and the lookup never fails. -/
theorem start_timestamp_range (l : CLog) (t : Int) (h : InvC l) (hm : TsMono l) :
    ∃ s, earliestAfterTs l t = .ok s ∧ ∀ r ∈ l.abs, (s ≤ r.offset ↔ t ≤ r.ts) :=
  ⟨_, earliestAfterTs_eq l t h hm, fun r hr => by
    simpa using find_splits h.sorted (tsOrd_mono_ge hm t) (lastNextOffset_eq h.nonempty ▸ invC_lt_next h) r hr⟩

/-- Fixed finding (`start-timestamp-tie-across-segments`): the lookup as it was before the fix —
segment search for the first base timestamp `> t` instead of `>= t` — skipped a message stamped
exactly `t` at the end of a segment when the next segment starts with the same timestamp
(two segments `[(0, ts 5)]`, `[(1, ts 5)]`, `t = 5`: resolved to offset 1). -/
theorem old_lookup_misses_tie : ∃ l t, InvC l ∧ TsMono l ∧
    ∃ s, earliestAfterTsExclusive l t = .ok s ∧ ∃ r ∈ l.abs, t ≤ r.ts ∧ r.offset < s :=
  ⟨Witness.tieLog, 5, Witness.tieLog_inv, Witness.tieLog_ts, 1, Witness.tieLog_eval, Witness.rec 0 5,
    by decide, by decide, by decide⟩

/-- Stop timestamp: when some retained message has `ts ≤ t`, the resolved offset is the offset
of a retained message with `ts ≤ t` and the messages at or before it are exactly those. -/
theorem stop_timestamp_range (l : CLog) (t : Int) (h : InvC l) (hm : TsMono l)
    (hex : ∃ r ∈ l.abs, r.ts ≤ t) :
    ∃ s, latestBeforeTs l t = .ok s ∧ (∃ r ∈ l.abs, r.offset = s) ∧
      ∀ r ∈ l.abs, (r.offset ≤ s ↔ r.ts ≤ t) := by
  rcases latestBeforeTs_cases l t h hm with ⟨hall, -⟩ | ⟨r, hr, he, hsplit⟩
  · obtain ⟨r, hr, hrt⟩ := hex
    have := hall r hr
    omega
  · exact ⟨r.offset, he, ⟨r, hr, rfl⟩, hsplit⟩

/-- … and when every retained message is later than `t` (or the log is empty) the stop
position is refused. -/
theorem stop_timestamp_before_start (l : CLog) (t : Int) (h : InvC l) (hm : TsMono l)
    (hnone : ∀ r ∈ l.abs, t < r.ts) : ∃ e, latestBeforeTs l t = .err e := by
  rcases latestBeforeTs_cases l t h hm with ⟨-, he⟩ | ⟨r, hr, -, hsplit⟩
  · exact ⟨_, he⟩
  · have := hnone r hr
    have := (hsplit r hr).mp (Int.le_refl _)
    omega

/-- Earliest / latest / new-only / explicit offsets resolve as documented (negative → 0). -/
theorem start_positions (l : CLog) :
    startOffset l .earliest = .ok (if l.oldest < 0 then 0 else l.oldest) ∧
    startOffset l .latest = .ok (if l.newest < 0 then 0 else l.newest) ∧
    startOffset l .newOnly = .ok (if l.newest + 1 < 0 then 0 else l.newest + 1) ∧
    ∀ o, startOffset l (.offset o) = .ok (if o < 0 then 0 else o) :=
  ⟨rfl, rfl, rfl, fun _ => rfl⟩

/-- What a forward subscription positioned at `next` with stop offset `stop` must deliver from
log `l`: the retained committed records from `next` up to the stop offset. -/
def fwdRange (l : CLog) (next stop : Int) : List Rec :=
  l.abs.filter (fun r => next ≤ r.offset ∧ r.offset ≤ l.hw ∧ (stop = waitForNew ∨ r.offset ≤ stop))

/-- A drain of a live forward subscription delivers exactly the requested range — every
retained committed message in it, once, in offset order — and nothing else. -/
theorem drain_delivers_range (l : CLog) (s : Sub) (h : InvC l) (hhw : HwOk l)
    (hlive : s.ended = false) (hfwd : s.reverse = false) (hnext : 0 ≤ s.nextOff) :
    (drain l s).1 = fwdRange l s.nextOff s.stop :=
  (drain_spec l s h hhw hlive hnext).1

/-- The ending of a drain: the stop status exactly when a committed message at or beyond the
stop offset exists; otherwise the end of a read-only partition; otherwise it keeps waiting. -/
theorem drain_ending (l : CLog) (s : Sub) (h : InvC l) (hhw : HwOk l)
    (hlive : s.ended = false) (hfwd : s.reverse = false) (hnext : 0 ≤ s.nextOff) :
    (drain l s).2.1 =
      (if s.stop ≠ waitForNew ∧ ∃ r ∈ l.abs, s.nextOff ≤ r.offset ∧ r.offset ≤ l.hw ∧ s.stop ≤ r.offset
       then Ending.status "ResourceExhausted:stop"
       else if l.readonly = true ∧ l.hw = l.newest then Ending.status "ResourceExhausted:readonly"
       else Ending.waiting) :=
  (drain_spec l s h hhw hlive hnext).2.1

/-- After a drain that keeps waiting the subscription stands right behind what it delivered, so
successive drains (after appends / HW advances) deliver each message exactly once, in order. -/
theorem drain_advances (l : CLog) (s : Sub) (h : InvC l) (hhw : HwOk l)
    (hlive : s.ended = false) (hfwd : s.reverse = false) (hnext : 0 ≤ s.nextOff)
    (hw : (drain l s).2.1 = Ending.waiting) :
    (drain l s).2.2.ended = false ∧ (drain l s).2.2.stop = s.stop ∧ s.nextOff ≤ (drain l s).2.2.nextOff ∧
    (∀ r ∈ (drain l s).1, r.offset < (drain l s).2.2.nextOff) ∧
    (∀ r ∈ l.abs, (drain l s).2.2.nextOff ≤ r.offset → r.offset ≤ l.hw →
        (s.stop = waitForNew ∨ r.offset ≤ s.stop) → False) := by
  obtain ⟨h1, -, h3⟩ := drain_spec l s h hhw hlive hnext
  rw [h3, h1, hw]
  dsimp only
  have hlt := lt_nextAfter (fwdR_sorted h s.nextOff s.stop) s.nextOff
  have hge : s.nextOff ≤ nextAfter (fwdR l s.nextOff s.stop) s.nextOff :=
    nextAfter_ge fun r hr => (mem_fwdR.mp hr).2.1
  refine ⟨by simp, rfl, hge, hlt, fun r hr h1 h2 h3 => ?_⟩
  have := hlt r (mem_fwdR.mpr ⟨hr, by omega, h2, h3⟩)
  omega

/-- Creation of a forward subscription whose start is committed (`start ≤ hw`) or beyond the end
of the log (`start > newest`: documented — it waits for the next new message) positions it at
the requested start, resp. behind the HW. -/
theorem create_forward (l : CLog) (req : Req) (start stop : Int) (h : InvC l) (hhw : HwOk l)
    (hfwd : req.reverse = false) (hs : startOffset l req.start = .ok start)
    (hp : stopOffset l false req.stop = .ok (some stop))
    (hvalid : stop = waitForNew ∨ start ≤ stop)
    (hcase : start ≤ l.hw ∨ l.newest < start) :
    ∃ d e sub, create l req = .live d e sub ∧
      d = fwdRange l (if start ≤ l.hw ∧ l.oldest ≠ -1 then start else l.hw + 1) stop :=
  ⟨_, _, _, create_fwd_eq l req start stop hfwd hs hp hvalid,
    (drain_spec l (fwdSub l start stop) h hhw rfl (fwdSub_nonneg h hhw (startOffset_nonneg hs) stop)).1⟩

/-- A stop position before the start position is refused (forward); after it (reverse). -/
theorem create_refuses_inverted (l : CLog) (req : Req) (start stop : Int)
    (hs : startOffset l req.start = .ok start)
    (hp : stopOffset l req.reverse req.stop = .ok (some stop)) (hne : stop ≠ waitForNew)
    (hinv : if req.reverse then start < stop else stop < start) :
    create l req = .refused "InvalidArgument:stop-start" := by
  unfold create
  cases hr : req.reverse <;> simp only [hr, Bool.false_eq_true, if_false, if_true] at hinv hp <;>
    simp [hs, hp, hne, hinv, Gen.Subscribe.reverseStopRule]

/-- Known finding (`start-in-uncommitted-delivers-below-start`): as stated for every start the
subscription would never deliver below the requested start offset. -/
def never_below_start_asStated : Prop :=
  ∀ (l l' : CLog) (req : Req) (start : Int) d e sub, InvC l → InvC l' → req.reverse = false →
    startOffset l req.start = .ok start → create l req = .live d e sub →
    ∀ r ∈ (drain l' sub).1, start ≤ r.offset

/-- It is false: a start in the uncommitted region (above the HW, at or below the newest offset)
resumes at the old HW + 1 once the HW advances. -/
theorem never_below_start_asStated_false : ¬ never_below_start_asStated := by
  open Witness in
  intro hA
  exact absurd (hA (lowLog 0) (lowLog 2) lowReq 2 [] .waiting lowSub (lowLog_inv 0) (lowLog_inv 2) rfl
    (by decide) lowLog_create (rec 1 1) (by decide +kernel)) (by decide)

/-- It holds whenever the start is committed (on a non-empty log). -/
theorem never_below_start_partial (l l' : CLog) (req : Req) (start : Int) (d : List Rec) (e : Ending)
    (sub : Sub) (h : InvC l) (h' : InvC l') (hhw : HwOk l) (hhw' : HwOk l') (hfwd : req.reverse = false)
    (hs : startOffset l req.start = .ok start) (hc : create l req = .live d e sub)
    (hcase : start ≤ l.hw ∧ l.oldest ≠ -1) :
    ∀ r ∈ (drain l' sub).1, start ≤ r.offset := by
  obtain ⟨stop, -, -, rfl⟩ := create_fwd_inv hfwd hs hc
  have hstart := startOffset_nonneg hs
  have h0 : (fwdSub l start stop).nextOff = start := by simp [fwdSub, hcase]
  have hge := (drain_ge l (fwdSub l start stop) h hhw (by rw [h0]; exact hstart)).2
  rw [h0] at hge
  intro r hr
  have := (drain_ge l' _ h' hhw' (by omega)).1 r hr
  omega

/-- A reverse subscription delivers exactly the retained committed messages from the start
(clamped to the HW) down to the stop offset, newest first, then ends. -/
theorem create_reverse (l : CLog) (req : Req) (start stop : Int) (h : InvC l) (hhw : HwOk l)
    (hne : l.hw ≠ -1) (hle : l.hw ≤ l.newest)
    (hrev : req.reverse = true) (hs : startOffset l req.start = .ok start)
    (hp : stopOffset l true req.stop = .ok (some stop))
    (hvalid : stop = waitForNew ∨ stop ≤ start) :
    ∃ e sub, create l req =
      .live ((l.abs.filter (fun r => r.offset ≤ (if start > l.hw then l.hw else start) ∧
                                      (stop = waitForNew ∨ stop ≤ r.offset))).reverse) (.status e) sub ∧
      (e = "ResourceExhausted:stop" ∨ e = "ResourceExhausted:begin") :=
  ⟨_, _, create_reverse_eq l req start stop h hne hle hrev hs hp hvalid, 
    (Classical.em _).elim (fun c => .inl (if_pos c)) (fun c => .inr (if_neg c))⟩

end Liftbridge.Props.C10
