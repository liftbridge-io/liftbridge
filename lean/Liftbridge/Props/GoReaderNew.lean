/-
C01 / C03 / C10 at the level of the function body: how a reader is CREATED (server/commitlog/reader.go) - translated from
the code: `commitLog.newReaderCommitted`, `commitLog.newReaderUncommitted` and `commitLog.NewReader`.

`go_newReaderCommitted` / `go_newReaderUncommitted`: for every start offset, high watermark, oldest offset, segment list,
answer of `getHWPos` (its own decision is `Props.GoHWPos`), answer of `findSegmentContains` (`Props.GoSegments`) and answer of
the entry search. `NewReader` (which dispatches on `uncommitted` and remembers the requested offset) is run in two instances:
`go_NewReader_uncommitted_noseg`, `go_NewReader_committed_parked`.
-/
import Liftbridge.Proofs.GoCodeBase
import Liftbridge.Gen.GoReaderNew

namespace Liftbridge.Props.GoReaderNew
open Liftbridge Liftbridge.GoMini Liftbridge.GoCode
open Liftbridge.Gen.GoReaderNew


theorem translation_complete : unsupported = [] := rfl

theorem lk_c : evalE.lookup' "newReaderCommitted" prog = some fn_commitLog_newReaderCommitted := by simp [prog, gomini]
theorem lk_u : evalE.lookup' "newReaderUncommitted" prog = some fn_commitLog_newReaderUncommitted := by simp [prog, gomini]
theorem lk_n : evalE.lookup' "NewReader" prog = some fn_commitLog_NewReader := by simp [prog, gomini]
/-- the accessors of the log and the three look-ups are not translated: the record or `rdExt` answers them -/
theorem lk_none (f : String) (h : f ∈ ["HighWatermark", "Segments", "OldestOffset", "getHWPos", "findSegmentContains", "findEntry"]) :
    evalE.lookup' f prog = none := by
  simp only [List.mem_cons, List.not_mem_nil, or_false] at h
  rcases h with rfl | rfl | rfl | rfl | rfl | rfl <;> simp [prog, gomini]

/-- answer of `seg.findEntry(offset)`: the entry's position, or an error -/
inductive EntryAns where
  | entry (position : Int)
  | failed
  deriving DecidableEq, Repr

def encEntryAns : EntryAns → Val
  | .entry p => .tup [.struct [("Position", .int p)], .nil]
  | .failed => .tup [.nil, .str "ErrEntryNotFound"]

/-- answer of `getHWPos(segments, hw)`: (segment index, byte position), or an error -/
def encHWAns : Option (Int × Int) → Val
  | some (i, p) => .tup [.int i, .int p, .nil]
  | none => .tup [.int 0, .int 0, .str "ErrSegmentNotFound"]

/-- the environment of a creation: what the three look-ups answer. `fe seg offset` is the entry search of segment `seg`
(a function of the segment and the offset, so that the theorem says WHICH segment is searched for WHICH offset) -/
def rdExt (hwAns : Option (Int × Int)) (seg : Val) (contains : Bool) (fe : Val → Int → EntryAns) : Ext := fun f args _ =>
  if f = "getHWPos" then some (encHWAns hwAns)
  else if f = "findSegmentContains" then some (.tup [seg, .bool contains])
  else if f = "findEntry" then
    match args with
    | [s, .int o] => some (encEntryAns (fe s o))
    | _ => none
  else none

/-- `*commitLog`: the accessors the creation reads -/
def encLog (hw oldest : Int) (segs : List Val) : Val :=
  .struct [("HighWatermark", .int hw), ("OldestOffset", .int oldest), ("Segments", .list segs)]

/-- a created committed reader -/
structure CReader where
  seg : Val
  pos : Int
  hwSeg : Val
  hwPos : Int
  hw : Int

inductive Made (α : Type) where
  | reader (r : α)
  | error (e : String)

def viewC : R Out → Option (Made CReader)
  | .ok o => match o.rets with
    | [.struct [("cl", _), ("seg", s), ("pos", .int p), ("hwSeg", hs), ("hwPos", .int hp), ("hw", .int hw)], .nil] =>
      some (.reader ⟨s, p, hs, hp, hw⟩)
    | [.nil, .str e] => some (.error e)
    | _ => none
  | _ => none

/-- The decision of `newReaderCommitted`:
  * a start offset beyond the HW, or an empty log -> a PARKED reader (no segment, position -1) that remembers the HW it saw:
    it resumes at that HW + 1, whatever offset was asked for (the known finding `start-in-uncommitted-delivers-below-start`
    and C10's model `Subscribe.create` are exactly this branch);
  * otherwise the read limit is the position `getHWPos` answers IN THE SEGMENT `getHWPos` names (an error is returned, no
    reader), and the start position is the `Position` of the entry found by searching the START offset in the segment that
    CONTAINS the start offset (seeded C01-committed-start-looked-up-in-hw-segment searches the HW segment instead);
    a start offset in no segment's range (a gap left by retention / compaction, `contains = false`) starts at position 0 of
    the segment `findSegmentContains` answers. -/
def committedSpec (offset hw oldest : Int) (hwSegOf : Int → Val) (hwAns : Option (Int × Int)) (seg : Val) (contains : Bool)
    (fe : Val → Int → EntryAns) : Made CReader :=
  if offset > hw ∨ oldest = -1 then .reader ⟨.nil, -1, .nil, -1, hw⟩
  else
    match (if hw ≠ -1 then hwAns.map (fun ip => (hwSegOf ip.1, ip.2)) else some (.nil, -1)) with
    | none => .error "ErrSegmentNotFound"
    | some (hwSeg, hwPos) =>
      if contains then
        match fe seg offset with
        | .failed => .error "ErrEntryNotFound"
        | .entry p => .reader ⟨seg, p, hwSeg, hwPos, hw⟩
      else .reader ⟨seg, 0, hwSeg, hwPos, hw⟩

theorem made_reader_inj {α} (a b : α) (h : a = b) : Made.reader a = Made.reader b := by rw [h]

theorem builtin_findSegmentContains (segs : List Val) (o : Int) : builtin "findSegmentContains" [.list segs, .int o] = none := by simp [builtin]
theorem builtin_getHWPos (segs : List Val) (hw : Int) : builtin "getHWPos" [.list segs, .int hw] = none := by simp [builtin]

theorem start_run {hwAns : Option (Int × Int)} {seg : Val} {contains : Bool} {fe : Val → Int → EntryAns}
    (hseg : contains = true → ∃ fs, seg = .struct fs) {st : St} {l hwSeg : Val} {segs : List Val} {offset hwPos hw : Int}
    (hb : st.Binds [("l", l), ("segments", .list segs), ("offset", .int offset), ("hwSeg", hwSeg), ("hwPos", .int hwPos),
      ("hw", .int hw)]) :
    viewC (Out.of (some "l")
        (runBlock (exec prog (rdExt hwAns seg contains fe) 30) (fn_commitLog_newReaderCommitted.body.drop 6) st)) =
      some (if contains then
          match fe seg offset with
          | .failed => .error "ErrEntryNotFound"
          | .entry p => .reader ⟨seg, p, hwSeg, hwPos, hw⟩
        else .reader ⟨seg, 0, hwSeg, hwPos, hw⟩) := by
  rw [← hb.setAll]
  cases contains with
  | false => rfl
  | true =>
    obtain ⟨fs, rfl⟩ := hseg rfl
    cases hfe : fe (.struct fs) offset <;>
      simp [fn_commitLog_newReaderCommitted, St.setAll, lk_none, gomini, viewC, Out.of, rdExt, hfe, encEntryAns, builtin_findSegmentContains]

/-- every case of `newReaderCommitted`. `hidx`: the index `getHWPos` answers names a segment of the list (it is the index
`findSegment` found, `Props.GoHWPos`); `hseg`: a segment that contains the offset is a segment, not nil. -/
theorem go_newReaderCommitted (offset hw oldest : Int) (segs : List Val) (hwAns : Option (Int × Int)) (seg : Val)
    (contains : Bool) (fe : Val → Int → EntryAns) (hwSegOf : Int → Val)
    (hidx : ∀ i p, hwAns = some (i, p) → 0 ≤ i ∧ segs[i.toNat]? = some (hwSegOf i))
    (hseg : contains = true → ∃ fs, seg = .struct fs) :
    viewC (runG prog (rdExt hwAns seg contains fe) 30 "newReaderCommitted" (some (encLog hw oldest segs)) [.int offset]
        [("ErrSegmentNotFound", .str "ErrSegmentNotFound")]) =
      some (committedSpec offset hw oldest hwSegOf hwAns seg contains fe) := by
  -- the body is cut at its two symbolic tests; what lies between them is a closed computation
  rw [runG_eq rfl rfl, runBlock_ite_at 4 rfl rfl rfl (evalE_or_known rfl rfl)]
  unfold committedSpec
  by_cases h1 : offset > hw ∨ oldest = -1
  · rw [if_pos h1, if_pos (by simpa using h1)]; rfl
  rw [if_neg h1, if_neg (by simpa using h1), andThen_block rfl, runBlock_ite_at 0 rfl rfl rfl rfl]
  by_cases hhw : hw = -1
  · subst hhw
    simp only [ne_eq, not_true_eq_false, decide_false, Bool.false_eq_true, ↓reduceIte]
    rw [andThen_block rfl]
    exact start_run hseg ⟨rfl, rfl, rfl, rfl, rfl, rfl, trivial⟩
  simp only [ne_eq, hhw, not_false_eq_true, decide_true, ↓reduceIte]
  rcases hwAns with _ | ⟨i, p⟩
  · rfl
  -- `getHWPos` answers `(i, p)`: the limit is `p` in `segments[i]`
  obtain ⟨hi0, hi⟩ := hidx i p rfl
  generalize hS : St.set _ "hwSeg" Val.nil = S
  rw [andThen_block (st' := St.setAll (S.log "getHWPos" [.list segs, .int hw])
      [("hwIdx", .int i), ("hwPosition", .int p), ("err", .nil), ("hwPos", .int p), ("hwSeg", hwSegOf i)])
    (by subst hS; simp [St.setAll, lk_none, gomini, rdExt, encHWAns, builtin_getHWPos, hi, Int.not_lt.2 hi0])]
  subst hS
  exact start_run hseg ⟨rfl, rfl, rfl, rfl, rfl, rfl, trivial⟩

/-- a reader created beyond the HW is parked and remembers the HW -/
theorem committed_parked (offset hw oldest : Int) (hwSegOf : Int → Val) (hwAns : Option (Int × Int)) (seg : Val) (contains : Bool)
    (fe : Val → Int → EntryAns) (h : offset > hw) :
    committedSpec offset hw oldest hwSegOf hwAns seg contains fe = .reader ⟨.nil, -1, .nil, -1, hw⟩ := by
  simp [committedSpec, h]

structure UReader where
  seg : Val
  pos : Int

def viewU : R Out → Option (Made UReader)
  | .ok o => match o.rets with
    | [.struct [("cl", _), ("seg", s), ("pos", .int p)], .nil] => some (.reader ⟨s, p⟩)
    | [.nil, .str e] => some (.error e)
    | _ => none
  | _ => none

/-- the decision of `newReaderUncommitted`: no segment (`none`) -> `ErrSegmentNotFound`; else the position of the entry of the
start offset in its segment, 0 when the offset is not contained -/
def uncommittedSpec (offset : Int) (seg : Option (List (String × Val))) (contains : Bool) (fe : Val → Int → EntryAns) : Made UReader :=
  match seg with
  | none => .error "ErrSegmentNotFound"
  | some fs =>
    if contains then
      match fe (.struct fs) offset with
      | .failed => .error "ErrEntryNotFound"
      | .entry p => .reader ⟨.struct fs, p⟩
    else .reader ⟨.struct fs, 0⟩

def encSegOpt : Option (List (String × Val)) → Val
  | none => .nil
  | some fs => .struct fs

theorem go_newReaderUncommitted (offset hw oldest : Int) (segs : List Val) (seg : Option (List (String × Val)))
    (contains : Bool) (fe : Val → Int → EntryAns) :
    viewU (runG prog (rdExt none (encSegOpt seg) contains fe) 30 "newReaderUncommitted" (some (encLog hw oldest segs)) [.int offset]
        [("ErrSegmentNotFound", .str "ErrSegmentNotFound")]) =
      some (uncommittedSpec offset seg contains fe) := by
  cases seg with
  | none => rfl
  | some fs =>
    cases contains with
    | false => rfl
    | true =>
      cases hfe : fe (.struct fs) offset <;>
      simp [runG, lk_u, lk_none, fn_commitLog_newReaderUncommitted, gomini, viewU, uncommittedSpec, encLog, builtin_findSegmentContains,
        rdExt, encSegOpt, hfe, encEntryAns]

/-- (requested offset remembered by the Reader, uncommitted flag, is there an error) -/
def viewN : R Out → Option (Int × Bool × Bool)
  | .ok o => match o.rets with
    | [.struct [("ctxReader", _), ("offset", .int off), ("log", _), ("uncommitted", .bool u)], e] => some (off, u, !isNil e)
    | _ => none
  | _ => none

/-- `NewReader` remembers the requested offset and the kind, and reports the error of the creation it dispatched to
(here: an uncommitted reader on a log without segments fails, a committed reader beyond the HW never fails) -/
theorem go_NewReader_uncommitted_noseg (offset hw oldest : Int) (segs : List Val) (fe : Val → Int → EntryAns) :
    viewN (runG prog (rdExt none .nil false fe) 30 "NewReader" (some (encLog hw oldest segs)) [.int offset, .bool true]
        [("ErrSegmentNotFound", .str "ErrSegmentNotFound")]) = some (offset, true, true) := by
  rfl

theorem go_NewReader_committed_parked (offset hw oldest : Int) (segs : List Val) (fe : Val → Int → EntryAns) (h : offset > hw) :
    viewN (runG prog (rdExt none .nil false fe) 30 "NewReader" (some (encLog hw oldest segs)) [.int offset, .bool false]
        [("ErrSegmentNotFound", .str "ErrSegmentNotFound")]) = some (offset, false, false) := by
  simp [runG, lk_n, lk_c, lk_none, fn_commitLog_NewReader, fn_commitLog_newReaderCommitted, gomini, viewN, encLog, binInt, isNil, h]

/-- non-vacuity: start 5 at or below HW 9 in a segment that contains it: the position of ITS entry, the limit in the segment
`getHWPos` names -/
example :
    committedSpec 5 9 0 (fun _ => .struct [("id", .int 2)]) (some (1, 400)) (.struct [("id", .int 1)]) true
      (fun _ o => .entry (o * 24)) =
      .reader ⟨.struct [("id", .int 1)], 120, .struct [("id", .int 2)], 400, 9⟩ := by
  simp [committedSpec]

end Liftbridge.Props.GoReaderNew
