/-
C14 at the level of the function body: `natsToProtoMessage` (with `getMessage`) in server/partition.go - what the leader
makes of ANY payload that arrives on a stream's NATS subject - translated from the code; un-marshalling
(`proto.UnmarshalPublish`, whose own totality is `Props.GoEnvelope` + `Props.C14`) is a parameter.
-/
import Liftbridge.Proofs.GoCodeBase
import Liftbridge.Gen.GoNatsMsg

namespace Liftbridge.Props.GoNatsMsg
open Liftbridge Liftbridge.GoMini Liftbridge.GoCode
open Liftbridge.Gen.GoNatsMsg

theorem builtin_getMessage (s : String) : builtin "getMessage" [.str s] = none := by simp [builtin]
theorem builtin_proto_UnmarshalPublish (s : String) : builtin "proto.UnmarshalPublish" [.str s] = none := by simp [builtin]

theorem translation_complete : unsupported = [] := rfl

@[simp] theorem lk_n2p : evalE.lookup' "natsToProtoMessage" prog = some fn_natsToProtoMessage := by simp [prog, gomini]
@[simp] theorem lk_getMessage : evalE.lookup' "getMessage" prog = some fn_getMessage := by simp [prog, gomini]
@[simp] theorem lk_computeTick : evalE.lookup' "computeTick" prog = some fn_computeTick := by simp [prog, gomini]
@[simp] theorem lk_other (f : String) (h1 : f ≠ "natsToProtoMessage") (h2 : f ≠ "getMessage") (h3 : f ≠ "computeTick") :
    evalE.lookup' f prog = none := by simp [prog, gomini, h1, h2, h3]

/-- copying a header list into a map, one entry after the other -/
def copyAll (hs : List (String × Val)) (cur : List (String × Val)) : List (String × Val) :=
  hs.foldl (fun acc kv => update kv.1 kv.2 acc) cur

def hdrBody : List Stmt := [(.assign [(.idx (.sel (.var "m") "Headers") (.var "key"))] [(.var "value")])]

/-- `for key, value := range message.Headers { m.Headers[key] = value }` for every header list and whatever `m` holds besides -/
theorem hdr_loop (n : Nat) (x : Ext) (mf : List (String × Val)) (hs : List (String × Val)) :
    ∀ (cur : List (String × Val)) (st : St), st.env "m" = some (.struct (update "Headers" (.struct cur) mf)) →
    ∃ st', runRangeMap (runBlock (exec prog x (n + 6)) hdrBody) (some "key") (some "value") hs st = .ok (.next, st') ∧
      st'.env "m" = some (.struct (update "Headers" (.struct (copyAll hs cur)) mf)) ∧ st'.eff = st.eff ∧
      (∀ y, y ≠ "m" → y ≠ "key" → y ≠ "value" → st'.env y = st.env y) := by
  induction hs with
  | nil => intro cur st h; exact ⟨st, rfl, h, rfl, fun _ _ _ _ => rfl⟩
  | cons e rest ih =>
    intro cur st hm
    obtain ⟨k, v⟩ := e
    obtain ⟨st', h1, h2, h3, h4⟩ := ih (update k v cur)
      (((st.set "key" (.str k)).set "value" v).set "m" (.struct (update "Headers" (.struct (update k v cur)) mf))) rfl
    refine ⟨st', ?_, h2, h3, fun y hy1 hy2 hy3 => by rw [h4 y hy1 hy2 hy3]; simp [gomini, hy1, hy2, hy3]⟩
    rw [← h1]
    simp [gomini, hdrBody, hm, update_update]

/-- un-marshalling answers an envelope or an error; the clock -/
def natsExt (envelope : Option Val) : Ext := fun f _ _ =>
  if f = "proto.UnmarshalPublish" then
    match envelope with
    | some m => some (.tup [m, .nil])
    | none => some (.tup [.nil, .str "not an envelope"])
  else if f = "timestamp" then some (.int 1234)
  else none

def encNats (data subject reply : String) : Val := .struct [("Data", .str data), ("Subject", .str subject), ("Reply", .str reply)]

def encEnvelope (key value : Val) (hs : List (String × Val)) (inbox cid : String) (policy offset : Int) : Val :=
  .struct [("Key", key), ("Value", value), ("Headers", .struct hs), ("AckInbox", .str inbox), ("CorrelationId", .str cid),
           ("AckPolicy", .int policy), ("Offset", .int offset)]

def msgOf : R Out → Option Val
  | .ok o => match o.rets with
    | [m] => some m
    | _ => none
  | _ => none

/-- a payload that is not a publish envelope is stored AS IT IS - the whole payload is the value, no key, no ack inbox - with
the headers `subject` and `reply` of the NATS message -/
theorem go_natsToProtoMessage_plain (data subject reply : String) (epoch : Int) :
    msgOf (runG prog (natsExt none) 30 "natsToProtoMessage" none [encNats data subject reply, .int epoch] []) =
      some (.struct [("MagicByte", .int 1), ("Timestamp", .int 1234), ("LeaderEpoch", .int epoch),
                     ("Headers", .struct [("subject", .str subject), ("reply", .str reply)]), ("Value", .str data)]) := by
  rfl

/-- For an envelope with EVERY header list (loop lemma `hdr_loop`) key, value, ack inbox, correlation id, ack policy and expected
offset are the envelope's, the headers are the envelope's headers - and `subject` / `reply` are written LAST, from the NATS
message: a publisher cannot forge them through its own headers. Never a panic. -/
theorem go_natsToProtoMessage_envelope (data subject reply : String) (epoch : Int) (key value : Val) (hs : List (String × Val))
    (inbox cid : String) (policy offset : Int) :
    msgOf (runG prog (natsExt (some (encEnvelope key value hs inbox cid policy offset))) 30 "natsToProtoMessage" none
        [encNats data subject reply, .int epoch] []) =
      some (.struct [("MagicByte", .int 1), ("Timestamp", .int 1234), ("LeaderEpoch", .int epoch),
                     ("Headers", .struct (update "reply" (.str reply) (update "subject" (.str subject) (copyAll hs [])))),
                     ("Key", key), ("Value", value), ("AckInbox", .str inbox), ("CorrelationID", .str cid), ("AckPolicy", .int policy),
                     ("Offset", .int offset)]) := by
  let mf : List (String × Val) := [("MagicByte", .int 1), ("Timestamp", .int 1234), ("LeaderEpoch", .int epoch), ("Headers", .struct []), ("Key", key), ("Value", value)]
  -- the state in which the loop over the headers starts
  obtain ⟨st', l1, l2, l3, l4⟩ := hdr_loop 22 (natsExt (some (encEnvelope key value hs inbox cid policy offset))) mf hs []
    (((⟨envOf [("msg", encNats data subject reply), ("leaderEpoch", .int epoch)], [("proto.UnmarshalPublish", [.str data])]⟩ : St).setAll
      [("message", encEnvelope key value hs inbox cid policy offset)]).log "timestamp" [] |>.setAll
      [("m", .struct [("MagicByte", .int 1), ("Timestamp", .int 1234), ("LeaderEpoch", .int epoch), ("Headers", .struct [])]),
       ("m", .struct [("MagicByte", .int 1), ("Timestamp", .int 1234), ("LeaderEpoch", .int epoch), ("Headers", .struct []), ("Key", key)]),
       ("m", .struct mf)])
    rfl
  have e1 := l4 "message" (by decide) (by decide) (by decide)
  have e2 := l4 "msg" (by decide) (by decide) (by decide)
  simp [hdrBody, mf, gomini, St.setAll, encEnvelope, encNats] at l1 l2 l3 e1 e2
  simp [runG, fn_natsToProtoMessage, fn_getMessage, gomini, msgOf, natsExt, encNats, encEnvelope, builtin_getMessage,
    builtin_proto_UnmarshalPublish, l1, l2, l3, e1, e2]

/-- whatever headers the envelope carries, `subject` and `reply` of the stored message are the NATS message's -/
theorem subject_not_forgeable (subject reply : String) (hs : List (String × Val)) :
    lookup "subject" (update "reply" (.str reply) (update "subject" (.str subject) (copyAll hs []))) = some (.str subject) ∧
    lookup "reply" (update "reply" (.str reply) (update "subject" (.str subject) (copyAll hs []))) = some (.str reply) := by
  rw [lookup_update_ne _ _ _ (by decide), lookup_update_same, lookup_update_same]
  exact ⟨rfl, rfl⟩

/-- the replication loop's sleep is `maxSleep - elapsed`, or `maxSleep` when that is negative -/
theorem go_computeTick (elapsed maxSleep : Int) :
    msgOf (runG prog noExt 30 "computeTick" none [.int elapsed, .int maxSleep] []) =
      some (.int (if maxSleep - elapsed < 0 then maxSleep else maxSleep - elapsed)) := by
  by_cases h : maxSleep - elapsed < 0 <;>
    simp [runG, fn_computeTick, gomini, msgOf, binInt, h]

end Liftbridge.Props.GoNatsMsg
