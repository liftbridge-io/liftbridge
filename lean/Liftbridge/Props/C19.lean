/-
C19 — Telemetry can be switched off and never carries user data.

Property theorems only. Two kinds:
  * statements for EVERY shape of the code (`∀ F : Facts`) with the shape conditions they
    need as hypotheses, and
  * the same statements about the code in /repo (`genFacts`, regenerated on every run),
    where the shape conditions are discharged by `decide` — these are the obligations that
    stop checking when the code stops having the property.
Routes: config file, environment variable `LIFTBRIDGE_TELEMETRY_ENABLED` (documented in
/repo/CHANGELOG.md:79-94), programmatic assignment to `Config.Telemetry.Enabled`.
-/
import Liftbridge.Model.TelemetryCfg
import Liftbridge.Proofs.Telemetry

namespace Liftbridge.Props.C19
open Liftbridge Liftbridge.TelemetryTypes Liftbridge.TelemetryCfg Liftbridge.Proofs.Telemetry

/-! ### Switching off

`requests F c iv dir fs ticks`: configuration `c` (the three routes), `iv` =
`Telemetry.IntervalSeconds` as `Server.Start` sees it (ANY integer: zero and negative
included), `dir` = the data directory, `fs` = what the file system holds under each
directory (id file readable / writable / …), `ticks` = expiries of the interval timer. -/

/-- `telemetry.New` never turns a disabled non-nil config into an enabled one, for every
shape of `New` all of whose blocks pass `rewriteKeepsOff` — whatever they do to the
interval and the data directory. -/
theorem new_keeps_off (F : Facts) (h : newKeepsOff F = true) (a : TCfg) (ha : a.enabled = false) :
    ∃ c, newCfg F (some a) = some c ∧ c.enabled = false :=
  foldl_applyRewrite (P := fun c => c.enabled = false)
    (fun r hr c hc => applyRewrite_keepsOff F r c (List.all_eq_true.1 h r hr) hc) a ha

/-- Collector level (direct users of package telemetry, "programmatic config"): a collector
built from a config with `Enabled: false` never makes a request — for every interval, data
directory and file-system state — provided `New` keeps the switch and `Start` checks it. -/
theorem collector_off_means_silent_of_shape (F : Facts) (hg : collectorGates F) (a : TCfg)
    (fs : String → IdEnv) (ticks : Nat) (ha : a.enabled = false) :
    collectorRequests F (some a) fs ticks = 0 := by
  obtain ⟨hn, hst⟩ := hg
  unfold collectorRequests
  cases hk : newCollector F (some a) fs with
  | none => rfl
  | some k =>
    obtain ⟨c, hc, hoff⟩ := new_keeps_off F hn a ha
    rw [(newCollector_some hk).1] at hc
    cases hc
    simp [collectorRuns, hst, hoff]

/-- … and `genFacts` has that shape. -/
theorem collector_off_means_silent (a : TCfg) (fs : String → IdEnv) (ticks : Nat)
    (ha : a.enabled = false) : collectorRequests genFacts (some a) fs ticks = 0 :=
  collector_off_means_silent_of_shape genFacts (by decide) a fs ticks ha

/-- For every shape of the code with the server-side gate: a configuration that is not
enabled never starts the reporting goroutine — no request, however many ticks pass, for
EVERY interval (zero and negative included), data directory and file-system state. -/
theorem disabled_means_no_request (F : Facts) (hs : serverGates F) (c : Cfg) (iv : Int)
    (dir : String) (fs : String → IdEnv) (ticks : Nat)
    (h : enabled F c = false) : requests F c iv dir fs ticks = 0 := by
  rw [requests, serverRequests_eq]
  cases hg : F.createGuarded with
  | true => simp [startArg, hg, h]
  | false =>
    -- the collector is created all the same, and handed a switch that is off
    obtain ⟨ha, hcg⟩ := hs.resolve_left (by simp [hg])
    simp only [startArg, hg, Bool.false_and, Bool.false_eq_true, if_false, h]
    exact collector_off_means_silent_of_shape F hcg _ fs ticks (srcEval_keepsOff _ _ ha)

/-- Non-triviality of the model: when `New` leaves a non-nil config alone and `Server.Start`
hands an enabled switch on, an enabled configuration with a positive interval whose
instance id can be loaded or created does report (one beacon plus one request per tick). -/
theorem enabled_means_requests (F : Facts) (hid : onlyNilSteps F = true)
    (harg : srcEval F.argEnabled true F.dfltEnabled true = true)
    (c : Cfg) (iv : Int) (dir : String) (fs : String → IdEnv) (ticks : Nat)
    (h : enabled F c = true) (hiv : 0 < iv) (hfs : idIsErr (loadOrCreate F (fs dir)) = false) :
    requests F c iv dir fs ticks = 1 + ticks := by
  have hpos : (0 : Int) < iv * 1000000000 := Int.mul_pos hiv (by decide)
  unfold requests serverRequests serverCollector startArg newCollector
  simp only [h, Bool.not_true, Bool.and_false, Bool.false_eq_true, if_false,
    newCfg_id F hid, harg, hfs]
  simp [collectorRuns, runRequests, hpos]

/-- When the code honours the environment route on both paths of `NewConfig`, the switch is
exactly "programmatic, else environment, else config file, else default". -/
theorem enabled_spec (F : Facts) (he : envHonoured F) (c : Cfg) :
    enabled F c =
      ((c.prog.orElse fun _ => c.env.orElse fun _ => if c.hasConfigFile then c.file else none).getD
        F.defaultEnabled) := by
  obtain ⟨hb, hfp, hfe, hnp, hne⟩ := he
  simp [enabled_eq, hb, hfp, hfe, hnp, hne]

/-- FULL STRENGTH, any shape: with the server-side gate and the environment route honoured,
switching telemetry off by ANY route (the highest-precedence route that speaks says "off")
means no request is ever made — for every interval, data directory and file-system state. -/
theorem off_means_silent_of_shape (F : Facts) (hs : serverGates F) (he : envHonoured F)
    (c : Cfg) (iv : Int) (dir : String) (fs : String → IdEnv) (ticks : Nat) (h : effectiveOff c) :
    requests F c iv dir fs ticks = 0 :=
  disabled_means_no_request F hs c iv dir fs ticks (enabled_off h he.2.1 (.inr he))

/-- The documented variable name is the one viper looks up for `telemetry.enabled` on the
current tree. -/
theorem documented_env_var_binds : envVarFor genFacts = documentedEnvVar :=
  envVarFor_eq rfl rfl rfl

theorem envHonoured_now : envHonoured genFacts :=
  ⟨(envBinds_iff _).2 ⟨rfl, documented_env_var_binds⟩, rfl, rfl, rfl, rfl⟩

theorem serverGates_now : serverGates genFacts := by decide

/-- FULL STRENGTH, for `genFacts`: every documented way of switching telemetry off —
config file, `LIFTBRIDGE_TELEMETRY_ENABLED`, programmatic — with or without a config file,
yields no request at all, for EVERY value of `telemetry.interval.seconds` (however it was
set: file, environment, program; positive, zero or negative), every data directory and
every state of the instance-id file. (Does not check on a tree where the environment
variable is ignored — see `env_route_prefix_defect` — nor on one where `Server.Start` /
`telemetry.New` / `Collector.Start` together lose the switch.) -/
-- (On the current tree both disjuncts of `serverGates` hold — the collector is not created
-- for a disabled server, and a collector handed `Enabled: false` would not report either;
-- only the disjunction is an obligation, so that dropping ONE of the two gates is not flagged.)
theorem off_means_silent (c : Cfg) (iv : Int) (dir : String) (fs : String → IdEnv) (ticks : Nat)
    (h : effectiveOff c) : requests genFacts c iv dir fs ticks = 0 :=
  off_means_silent_of_shape genFacts serverGates_now envHonoured_now c iv dir fs ticks h

/-- The strongest variant that holds for EVERY shape with the server-side gate, i.e. also
on the tree before the repair: the excluded case is "the environment variable says
anything" (`c.env = none` is the excluding hypothesis). -/
theorem off_means_silent_partial (F : Facts) (hs : serverGates F) (hfp : F.fileParses = true)
    (c : Cfg) (iv : Int) (dir : String) (fs : String → IdEnv) (ticks : Nat) (henv : c.env = none)
    (h : effectiveOff c) : requests F c iv dir fs ticks = 0 :=
  disabled_means_no_request F hs c iv dir fs ticks (enabled_off h hfp (.inl henv))

/-- The old behaviour's witness (tree before `fixes/C19-telemetry-env-ignored.diff`):
`LIFTBRIDGE_TELEMETRY_ENABLED=false` and nothing else said — telemetry still reports, with
and without a config file. Replayed on the implementation by the harness
(corpus/C19/env-false-ignored.ops). -/
theorem env_route_prefix_defect (hasFile : Bool) (iv : Int) (hiv : 0 < iv) (dir : String) (ticks : Nat) :
    requests unfixedFacts ⟨none, some false, none, hasFile⟩ iv dir fsOk ticks = 1 + ticks := by
  -- without the replacer viper looks up `LIFTBRIDGE_TELEMETRY.ENABLED`
  have hb : envBinds unfixedFacts = false := by
    have : envVarFor unfixedFacts ≠ documentedEnvVar := by decide +kernel
    simp [envBinds, this]
  refine enabled_means_requests unfixedFacts (by decide) (by decide) _ iv dir fsOk ticks ?_ hiv
    (by show idIsErr (loadOrCreate unfixedFacts ⟨true, none, true, true, false⟩) = false; decide)
  rw [enabled_eq, hb]
  cases hasFile <;> rfl

/-- The formula of DESIGN.md §4 read literally: "ANY route says off ⇒ silent". It is stronger
than the property: it ignores that routes can contradict each other. -/
def off_means_silent_anyRoute_asStated : Prop :=
  ∀ (c : Cfg) (ticks : Nat), (c.file = some false ∨ c.env = some false ∨ c.prog = some false) →
    requests genFacts c 1 "" fsOk ticks = 0

/-- … and it is false: the environment overrides the file as documented
(documentation/configuration.md:106-110; witness: file says off, environment says on). This
is not a defect: telemetry is then not "disabled". (On a tree that ignores the environment
variable, `env = false` alone is a witness.) -/
theorem off_means_silent_anyRoute_asStated_false : ¬ off_means_silent_anyRoute_asStated := by
  intro h
  have h2 := h ⟨some false, some true, none, true⟩ 0 (by decide)
  rw [requests, enabled_spec genFacts envHonoured_now] at h2
  revert h2
  decide

/-- For every shape of `loadOrCreateInstanceID` all of whose paths are `pathClean`, and
every state of the data directory: the function returns an error, or the content of the
id file (which was readable and non-empty), or the freshly generated random UUID
(`crypto/rand` succeeded). It never returns anything else (host name, address, …). -/
theorem instance_id_origin_of_shape (F : Facts) (h : idPathsClean F = true) (e : IdEnv) :
    match loadOrCreate F e with
    | .err => True
    | .file => fileUsable F e = true
    | .fresh => e.randOk = true
    | .other _ => False := by
  rcases loadOrCreate_cases F e with he | ⟨p, hmem, hall, hp⟩
  · rw [he]; trivial
  · have hclean : pathClean p = true := List.all_eq_true.1 h p hmem
    unfold pathClean at hclean
    rw [hp]
    cases ho : p.out <;> rw [ho] at hclean <;> simp only
    · exact any_isFileUsable F e p.conds hall hclean
    · exact any_isOpOk F e .rand p.conds hall hclean
    · cases hclean

/-- … and `genFacts` has that shape. -/
theorem instance_id_origin (e : IdEnv) :
    match loadOrCreate genFacts e with
    | .err => True
    | .file => fileUsable genFacts e = true
    | .fresh => e.randOk = true
    | .other _ => False :=
  instance_id_origin_of_shape genFacts (by decide) e

/-- For every shape whose paths are `pathClean`: a collector that exists carries the content of
the id file of ITS data directory or a fresh random UUID. -/
theorem collector_id_origin_of_shape (F : Facts) (h : idPathsClean F = true) {arg : Option TCfg}
    {fs : String → IdEnv} {k : Collector} (hk : newCollector F arg fs = some k) :
    (k.id = .file ∧ fileUsable F (fs k.cfg.dataDir) = true) ∨
    (k.id = .fresh ∧ (fs k.cfg.dataDir).randOk = true) := by
  obtain ⟨_, hid, hne⟩ := newCollector_some hk
  have ho := instance_id_origin_of_shape F h (fs k.cfg.dataDir)
  rw [← hid] at ho
  cases hki : k.id <;> rw [hki] at ho hne
  · cases hne
  · exact .inl ⟨rfl, ho⟩
  · exact .inr ⟨rfl, ho⟩
  · exact ho.elim

/-- Every collector that exists carries an instance id that is the content of the id file
of ITS data directory or a fresh random UUID — whatever `New` was given and whatever the
file system holds. -/
theorem collector_id_origin (arg : Option TCfg) (fs : String → IdEnv) (k : Collector)
    (hk : newCollector genFacts arg fs = some k) :
    (k.id = .file ∧ fileUsable genFacts (fs k.cfg.dataDir) = true) ∨
    (k.id = .fresh ∧ (fs k.cfg.dataDir).randOk = true) :=
  collector_id_origin_of_shape genFacts (by decide) hk

/-- Stronger than C19 asks, true of the code as it is ("persistent per installation"): for
every shape all of whose paths are `pathPersists`, a fresh UUID is only returned after it
was written to the id file. -/
theorem fresh_id_is_persisted_of_shape (F : Facts) (h : idPathsPersist F = true) (e : IdEnv) :
    (match loadOrCreate F e with | .fresh => e.writeOk = true | _ => True) ∧ idPathsClean F = true := by
  have hper : ∀ p ∈ F.idPaths, pathClean p = true ∧ _ := fun p hp => by
    simpa only [pathPersists, Bool.and_eq_true] using List.all_eq_true.1 h p hp
  refine ⟨?_, List.all_eq_true.2 fun p hp => (hper p hp).1⟩
  rcases loadOrCreate_cases F e with he | ⟨p, hmem, hall, hp⟩
  · rw [he]; trivial
  · have h2 := (hper p hmem).2
    rw [hp]
    cases ho : p.out <;> rw [ho] at h2 <;> simp only
    exact any_isOpOk F e .write p.conds hall h2

/-- When the instance id can neither be read nor persisted (in any directory), no collector
exists and the server makes no request — enabled or not, for every interval: nothing is
ever reported under an id that is not the persisted one. -/
theorem unpersistable_means_silent_of_shape (F : Facts) (h : idPathsPersist F = true) (r : Run)
    (fs : String → IdEnv) (ticks : Nat)
    (hu : ∀ d, fileUsable F (fs d) = false ∧ (fs d).writeOk = false) :
    serverCollector F r fs = none ∧ serverRequests F r fs ticks = 0 := by
  have hnone : ∀ arg, newCollector F arg fs = none := by
    intro arg
    cases hk : newCollector F arg fs with
    | none => rfl
    | some k =>
      obtain ⟨hw, hcl⟩ := fresh_id_is_persisted_of_shape F h (fs k.cfg.dataDir)
      obtain ⟨h1, h2⟩ := hu k.cfg.dataDir
      -- the id would be the file's content, which is not usable, or fresh, which cannot be written
      rcases collector_id_origin_of_shape F hcl hk with ⟨_, hf⟩ | ⟨hki, _⟩
      · rw [h1] at hf; cases hf
      · rw [← (newCollector_some hk).2.1, hki, h2] at hw; cases hw
  have hsc : serverCollector F r fs = none := by
    unfold serverCollector
    cases startArg F r with
    | none => rfl
    | some a => exact hnone (some a)
  exact ⟨hsc, by unfold serverRequests; rw [hsc]⟩

theorem unpersistable_means_silent (r : Run) (fs : String → IdEnv) (ticks : Nat)
    (hu : ∀ d, fileUsable genFacts (fs d) = false ∧ (fs d).writeOk = false) :
    serverCollector genFacts r fs = none ∧ serverRequests genFacts r fs ticks = 0 :=
  unpersistable_means_silent_of_shape genFacts (by decide) r fs ticks hu

/-- The collector's config is the `*Config` `New` was given and nothing else ever writes
to it: `New` stores its parameter, no function of package telemetry assigns to / through a
`config` field, `telemetry.Config` has exactly the three modelled fields, and
`Server.Start` fills interval and data dir from the server configuration. -/
theorem collector_config_shape :
    Gen.Telemetry.newStoresParam = true ∧ Gen.Telemetry.configWriteSites = [] ∧
    Gen.Telemetry.configFields = ["Enabled", "Interval", "DataDir"] ∧
    Gen.Telemetry.startArgIntervalFromConfig = true ∧ Gen.Telemetry.startArgDataDirFromConfig = true := by
  decide

/-- Telemetry is opt-out: when no route says anything the switch has its default value,
whatever the shape of the code; and on the current tree that default is "on". -/
theorem enabled_default (F : Facts) (hasFile : Bool) :
    enabled F ⟨none, none, none, hasFile⟩ = F.defaultEnabled := by
  simp [enabled_eq]

/-- The programmatic assignment is final, for every shape of the code. -/
theorem prog_is_final (F : Facts) (c : Cfg) (b : Bool) (h : c.prog = some b) : enabled F c = b := by
  simp [enabled_eq, h]

/-- Every non-empty value of the environment variable that `strconv.ParseBool` does not
read as true switches telemetry OFF (`0`, `false`, `no`, `off`, garbage …): an unreadable
value never enables reporting. -/
theorem env_value_not_true_is_off (s : List Char) (hne : s ≠ [])
    (ht : s ∉ ["1", "t", "T", "TRUE", "true", "True"].map String.toList) : castBool s = some false := by
  unfold castBool
  cases s with
  | nil => exact absurd rfl hne
  | cons a t => simp only [List.isEmpty_cons, Bool.false_eq_true, if_false, ht]

/-! ### What the report may contain (finite regenerated tables, evaluated by the kernel) -/

/-- Every JSON key the payload can contain (recursively) is on the whitelist. Fails to check
as soon as a field is added to `TelemetryPayload` or a nested struct. -/
theorem keys_whitelisted : ∀ k ∈ Gen.Telemetry.payloadKeys, k ∈ whitelist := by decide +kernel

/-- The strict reading: only keys NAMED in the documented list … -/
def keys_documented_asStated : Prop := ∀ k ∈ Gen.Telemetry.payloadKeys, k ∈ documented

/-- … and false: `timestamp` (also `os.platform`, `cpu.frequency_mhz`) is sent but not listed. -/
theorem keys_documented_asStated_false : ¬ keys_documented_asStated := by
  intro h
  exact absurd (h "timestamp" (by decide)) (by decide)

/-- Every key other than the three derived/constant ones is named in the documentation. -/
theorem keys_documented_partial :
    ∀ k ∈ Gen.Telemetry.payloadKeys, k ∉ derivedOrConstant → k ∈ documented := by decide +kernel

/-- `collectPayload` (and the same-file helpers it calls) reads nothing but the instance id,
the version, the Go runtime's machine description and the clock: no server state, no
configuration, no stream or NATS object is syntactically reachable from it. -/
theorem sources_allowed : ∀ s ∈ Gen.Telemetry.sources, s ∈ allowedSources := by decide +kernel

/-- The request around the payload (URL, headers) is built from the fixed endpoint
constant, the version and the collector's own client/context only. -/
theorem request_sources_allowed : ∀ s ∈ Gen.Telemetry.requestSources, s ∈ allowedRequestSources := by
  decide +kernel

/-- The instance id is the content of the id file or comes from `crypto/rand`. -/
theorem id_sources_allowed : ∀ s ∈ Gen.Telemetry.idSources, s ∈ allowedIdSources := by decide +kernel

/-- Origin of the two collector fields the payload reads: the instance id is
`loadOrCreateInstanceID(cfg.DataDir)`, the version is `New`'s second parameter, and the
server passes its build `Version` there. -/
theorem field_origins :
    Gen.Telemetry.instanceIdExpr = "loadOrCreateInstanceID(cfg.DataDir)" ∧
    Gen.Telemetry.versionExpr = "param:1" ∧ Gen.Telemetry.versionArg = "Version" := by decide

/-- The only exported entry point of package `telemetry` from which an HTTP request is
reachable is `Collector.Start`, and the module creates, assigns and starts a collector in
exactly one place (the guarded block of `Server.Start`). -/
theorem single_entry_point :
    Gen.Telemetry.httpEntryPoints = ["Collector.Start"] ∧
    Gen.Telemetry.collectorCreationSites = 1 ∧ Gen.Telemetry.collectorAssignSites = 1 ∧
    Gen.Telemetry.collectorStartSites = 1 ∧ Gen.Telemetry.startNilGuard = true := by decide

/-- The shape of the code with the environment route repaired, written out (independent of `Gen`). -/
def shapeNow : Facts :=
  { unfixedFacts with envReplacer := [('.', '_')], noFileParses := true, noFileEnv := true }
-- harmless variations pass the gates: only the creation guard dropped (switch copied); an
-- interval normalisation in `New` that leaves `Enabled` alone
example : serverGates { shapeNow with createGuarded := false, argEnabled := .keep } := by decide
example :
    let F := { shapeNow with createGuarded := false, argEnabled := .keep,
                             newSteps := shapeNow.newSteps ++ [⟨.interval .le 0, .keep, .lit 86400000000000, .keep⟩] }
    serverGates F := by decide

-- every disjunct of `effectiveOff` is inhabited
example : effectiveOff ⟨none, none, some false, false⟩ := by decide
example : effectiveOff ⟨none, some false, none, false⟩ := by decide
example : effectiveOff ⟨some false, none, none, true⟩ := by decide
-- the shape hypotheses hold for the current tree and fail for the tree before the repair
example : serverGates genFacts ∧ envHonoured genFacts := ⟨serverGates_now, envHonoured_now⟩
example : serverGates unfixedFacts ∧ ¬ envHonoured unfixedFacts :=
  ⟨by decide, fun h => absurd h.2.2.2.1 (by decide)⟩
-- the model is not constantly silent
example : requests genFacts ⟨none, none, none, false⟩ 1 "d" fsOk 3 = 4 := by
  rw [requests, enabled_default]; decide
example : requests genFacts ⟨some false, some true, none, true⟩ 86400 "d" fsOk 0 = 1 := by
  rw [requests, enabled_spec genFacts envHonoured_now]; decide
-- (the following examples are about the model's semantics and use `shapeNow`, so that a
-- harmless change of the code does not touch them)
-- an enabled server with a non-positive interval sends the initial beacon (then the ticker panics)
example : requests shapeNow ⟨none, none, none, false⟩ 0 "d" fsOk 7 = 1 := by
  rw [requests, enabled_default]; decide
-- a disabled one with the same interval sends nothing
example : requests genFacts ⟨none, some false, none, false⟩ 0 "d" fsOk 7 = 0 :=
  off_means_silent _ _ _ _ _ (by decide)
-- a shape like "always create the collector; New replaces a config with a non-positive interval by
-- DefaultConfig()" fails the gate, and the model then reports for a disabled configuration
example :
    let F := { shapeNow with createGuarded := false, argEnabled := .keep,
                             newSteps := shapeNow.newSteps ++ [⟨.interval .le 0, .dflt, .dflt, .keep⟩] }
    ¬ serverGates F ∧ requests F ⟨none, some false, none, false⟩ 0 "d" fsOk 2 = 3 ∧
      requests F ⟨none, some false, none, false⟩ 5 "d" fsOk 2 = 0 := by
  intro F
  have he : envHonoured F := ⟨(envBinds_iff F).2 ⟨rfl, envVarFor_eq rfl rfl rfl⟩, rfl, rfl, rfl, rfl⟩
  simp only [requests, enabled_spec F he]
  decide
-- the id: fresh on an empty directory, the file when it has content, error when the id can
-- neither be read nor written, and the hypotheses of `unpersistable_means_silent` are satisfiable
example : idIsErr (loadOrCreate genFacts ⟨true, none, true, false, true⟩) = true := by decide
example : (match loadOrCreate genFacts ⟨true, none, true, true, false⟩ with | .fresh => true | _ => false) = true := by decide
example : (match loadOrCreate genFacts ⟨true, some ['a'], true, false, false⟩ with | .file => true | _ => false) = true := by decide
example : (match loadOrCreate genFacts ⟨true, some [], true, true, false⟩ with | .fresh => true | _ => false) = true := by decide
example : ∀ d : String, fileUsable genFacts ((fun _ => (⟨true, none, true, false, false⟩ : IdEnv)) d) = false ∧
    ((fun _ => (⟨true, none, true, false, false⟩ : IdEnv)) d).writeOk = false := by
  intro d
  show fileUsable genFacts ⟨true, none, true, false, false⟩ = false ∧ (⟨true, none, true, false, false⟩ : IdEnv).writeOk = false
  decide
-- a path that returns something else is not clean
example : pathClean ⟨[.op .write false, .other "herr == nil" true], .other "host"⟩ = false := by decide
example : castBool "0".toList = some false ∧ castBool "1".toList = some true ∧ castBool [] = none ∧
    castBool "off".toList = some false := by decide

end Liftbridge.Props.C19
