/-
C04 and C16 at the level of the function bodies: when an acknowledgement is sent and what a publish is refused for -
`partition.processPendingMessage`, `partition.sendAck` (server/partition.go) and `apiServer.ensurePublishPreconditions`
(server/api.go) - translated from the code. The ack-policy and error-code constants are read from the liftbridge-api
version of /repo's go.mod (LEADER = 0, ALL = 1, NONE = 2).
-/
import Liftbridge.Proofs.GoCodeBase
import Liftbridge.Gen.GoAck

namespace Liftbridge.Props.GoAck
open Liftbridge Liftbridge.GoMini Liftbridge.GoCode
open Liftbridge.Gen.GoAck

theorem translation_complete : unsupported = [] := rfl

theorem builtin_protoString (s : String) : builtin "protoString" [.str s] = none := by simp [builtin]
theorem builtin_proto_MarshalAck (fs : List (String × Val)) : builtin "proto.MarshalAck" [.struct fs] = none := by simp [builtin]

@[simp] theorem lk_sendAck : evalE.lookup' "sendAck" prog = some fn_partition_sendAck := by simp [prog, gomini]
@[simp] theorem lk_other (f : String) (h1 : f ≠ "processPendingMessage") (h2 : f ≠ "sendAck") (h3 : f ≠ "ensurePublishPreconditions")
    (h4 : f ≠ "sendTooLargeNack") (h5 : f ≠ "SetLeader") :
    evalE.lookup' f prog = none := by simp [prog, gomini, h1, h2, h3, h4, h5]

inductive Policy where | leader | all | none
  deriving DecidableEq, Repr

def Policy.code : Policy → Int
  | .leader => 0
  | .all => 1
  | .none => 2

def encPartA (rf : Int) : Val :=
  .struct [("Stream", .str "s"), ("Subject", .str "subj"), ("ReplicationFactor", .int rf), ("commitQueue", .struct [("kind", .str "queue")]),
           ("srv", .struct [("ncAcks", .struct [("kind", .str "nats")])])]

def encMsg (policy : Policy) (inbox cid : String) : Val :=
  .struct [("Headers", .struct [("subject", .str "msg.subject")]), ("AckInbox", .str inbox), ("CorrelationID", .str cid),
           ("AckPolicy", .int policy.code), ("Timestamp", .int 77)]

/-- the world of an ack: the clock, the UTF-8 repair of the subject (identity here), marshalling (ok or not), the NATS publish -/
def ackExt (marshalOk : Bool) : Ext := fun f args _ =>
  if f = "timestamp" then some (.int 99)
  else if f = "protoString" then args.head?
  else if f = "proto.MarshalAck" then (if marshalOk then some (.tup [.str "ack-bytes", .nil]) else some (.tup [.nil, .str "marshal error"]))
  else if f = "Publish" then some .nil
  else if f = "Put" then some .nil
  else none

/-- (acks published: the inbox each went to; commit-queue entries: the offset and inbox queued) -/
def ackView : R Out → Option (List Val × List (Option Val × Option Val))
  | .ok o => some ((o.eff.filter fun e => e.1 = "Publish").map (fun e => e.2.headD .nil),
      (o.eff.filter fun e => e.1 = "Put").map (fun e => match e.2 with
        | [.struct fs] => (lookup "Offset" fs, lookup "AckInbox" fs)
        | _ => (none, none)))
  | _ => none

/-- The LEADER policy is acknowledged at once (the message is in the leader's log) and never queued on an unreplicated
partition; the ALL policy is NEVER acknowledged here - its ack waits in the commit queue for the in-sync replicas, also with
replication factor 1 -; the NONE policy is never acknowledged and is queued only when there are followers to wait for. The ack
carries the offset the message was stored at, its correlation id and its ack inbox. -/
theorem go_processPendingMessage (rf offset : Int) (policy : Policy) (inbox cid : String) (hin : inbox ≠ "") :
    ackView (runG prog (ackExt true) 30 "processPendingMessage" (some (encPartA rf)) [.int offset, encMsg policy inbox cid] []) =
      some (if policy = .leader then [.str inbox] else [],
            if rf = 1 ∧ policy ≠ .all then [] else [(some (.int offset), some (.str inbox))]) := by
  rw [runG_eq rfl rfl]
  cases policy
  · -- LEADER: statement 1 sends the ack; behind it the run is cut at the test of the replication factor
    rw [runBlock_at 1 rfl rfl]
    simp [fn_partition_sendAck, gomini, andThen_ok, encPartA, encMsg, Policy.code, binInt, ackExt, builtin_protoString, builtin_proto_MarshalAck, hin]
    rw [runRest, runBlock_ite_at 0 rfl rfl rfl (evalE_and_known rfl rfl)]
    by_cases h1 : rf = 1
    · subst h1; rfl
    · simp only [h1, decide_false, Bool.false_and, ↓reduceIte]; rfl
  · rw [runBlock_ite_at 2 rfl rfl rfl (evalE_and_known rfl rfl)]
    simp only [Policy.code, not_true_eq_false, decide_false, Bool.and_false, Bool.false_eq_true, ne_eq, and_false, ↓reduceIte]; rfl
  · rw [runBlock_ite_at 2 rfl rfl rfl (evalE_and_known rfl rfl)]
    by_cases h1 : rf = 1
    · subst h1; rfl
    · simp only [h1, decide_false, Bool.false_and, false_and, ↓reduceIte]; rfl

/-- no inbox, no ack; an ack that cannot be marshalled is dropped (no panic); otherwise exactly one publish to the ack inbox -/
theorem go_sendAck (inbox : String) (marshalOk : Bool) :
    ackView (runG prog (ackExt marshalOk) 30 "sendAck" (some (encPartA 3)) [.struct [("AckInbox", .str inbox), ("MsgSubject", .str "m")]] []) =
      some (if inbox = "" ∨ marshalOk = false then [] else [.str inbox], []) := by
  by_cases h : inbox = ""
  · subst h; cases marshalOk <;> rfl
  · rw [runG_eq rfl rfl, runBlock_ite_at 0 rfl rfl rfl rfl]
    simp only [h, decide_false, false_or]
    cases marshalOk <;> rfl

/-! ### what a publish is refused for -/

def encReqP (policy : Policy) : Val := .struct [("Stream", .str "s"), ("Partition", .int 0), ("AckPolicy", .int policy.code)]

/-- the metadata: is the stream there, is the partition there, is it read-only, has it concurrency control -/
def preExt (stream partition readonly occ : Bool) : Ext := fun f _ _ =>
  if f = "GetStream" then (if stream then some (.struct [("kind", .str "stream")]) else some .nil)
  else if f = "GetPartition" then
    (if partition then some (.struct [("IsReadonly", .bool readonly), ("log", .struct [("IsConcurrencyControlEnabled", .bool occ)])]) else some .nil)
  else none

def codeOf : R Out → Option (Option Val)
  | .ok o => match o.rets with
    | [.nil] => some none
    | [.struct fs] => some (lookup "Code" fs)
    | _ => none
  | _ => none

/-- unknown stream / unknown partition -> NOT_FOUND; read-only partition -> READONLY; a concurrency-control stream with ack
policy NONE -> BAD_REQUEST (a conditional publish whose outcome nobody would hear of); otherwise accepted - in that order -/
theorem go_ensurePublishPreconditions (stream partition readonly occ : Bool) (policy : Policy) :
    codeOf (runG prog (preExt stream partition readonly occ) 30 "ensurePublishPreconditions" (some (.struct [("metadata", .struct [])])) [encReqP policy] []) =
      some (if !stream then some (.int 2) else if !partition then some (.int 2) else if readonly then some (.int 4)
            else if occ ∧ policy = .none then some (.int 1) else none) := by
  -- the checks in the order of the code; a later input is split only once the earlier checks are passed
  cases stream
  · rfl
  cases partition
  · rfl
  cases readonly
  · cases occ
    · rfl
    · cases policy <;> rfl
  · rfl

/-! ### the TOO_LARGE nack, and the leader-epoch fence of `SetLeader` -/

/-- (inbox and error code of every ack published) -/
def nackView : R Out → Option (List (Val × Option Val × Option Val))
  | .ok o => some ((o.eff.filter fun e => e.1 = "proto.MarshalAck").map fun e => match e.2 with
      | [.struct fs] => ((lookup "AckInbox" fs).getD .nil, lookup "AckError" fs, lookup "CorrelationId" fs)
      | _ => (.nil, none, none))
  | _ => none

/-- a message beyond the replication limit is answered - when it asked for an answer - by exactly one ack that carries the error
TOO_LARGE (3), the message's correlation id and goes to its ack inbox; without an inbox nothing is sent -/
theorem go_sendTooLargeNack (policy : Policy) (inbox cid : String) :
    nackView (runG prog (ackExt true) 30 "sendTooLargeNack" (some (encPartA 3)) [encMsg policy inbox cid] []) =
      some (if inbox = "" then [] else [(.str inbox, some (.int 3), some (.str cid))]) := by
  by_cases h : inbox = ""
  · subst h; rfl
  · rw [runG_eq rfl rfl, runBlock_ite_at 1 rfl rfl rfl rfl]
    simp only [h, decide_false]
    rfl

def encPartL (leader : String) (epoch : Int) (recovered paused : Bool) : Val :=
  .struct [("Leader", .str leader), ("LeaderEpoch", .int epoch), ("recovered", .bool recovered), ("paused", .bool paused)]

/-- (refused?, leader and epoch afterwards, was the leader / follower loop started) -/
def leaderView : R Out → Option (Bool × Option Val × Option Val × Bool)
  | .ok o => some (match o.rets with | [.str _] => true | _ => false,
      match o.recv with | some (.struct fs) => lookup "Leader" fs | _ => none,
      match o.recv with | some (.struct fs) => lookup "LeaderEpoch" fs | _ => none,
      o.eff.any fun e => e.1 = "startLeadingOrFollowing")
  | _ => none

/-- `SetLeader`: a leader epoch below the partition's is refused and changes nothing (leader epochs never decrease); otherwise
leader and epoch are taken over, and the leader / follower loops are started unless the partition is being recovered or is paused -/
theorem go_SetLeader (cur : String) (curEpoch : Int) (recovered paused : Bool) (leader : String) (epoch : Int) :
    leaderView (runG prog noExt 30 "SetLeader" (some (encPartL cur curEpoch recovered paused)) [.str leader, .int epoch] []) =
      some (if epoch < curEpoch then (true, some (.str cur), some (.int curEpoch), false)
            else (false, some (.str leader), some (.int epoch), !(recovered || paused))) := by
  rw [runG_eq rfl rfl, runBlock_ite_at 2 rfl rfl rfl rfl]
  by_cases h : epoch < curEpoch
  · simp only [h, decide_true]
    rfl
  · simp only [h, decide_false]
    cases recovered <;> cases paused <;> rfl

end Liftbridge.Props.GoAck
