/-
C14 — No NATS payload can crash or confuse the server.
Every theorem quantifies over *all* byte strings / message types / CRC functions / protobuf codecs.
`check_spec` says what `checkEnvelope` answers; that it never panics and what it accepts are its two halves.
-/
import Liftbridge.Model.Envelope
import Liftbridge.Proofs.Res

namespace Liftbridge.Props.C14
open Liftbridge Liftbridge.Envelope

theorem index_of_getElem? {α} {d : List α} {i : Nat} {x : α} (h : d[i]? = some x) : index d i = .ok x := by
  simp [index, h]

/-- What `check` answers: an error, or the payload of the envelope the bytes encode - magic, version and type match, the
header length is within the data, the payload is the rest; with the CRC flag set the header is 12 bytes and the stored
checksum is the checksum of the payload. -/
theorem check_spec (crc : Bytes → Nat) (data : Bytes) (ty : UInt8) :
    (∃ e, check crc data ty = .err e) ∨
    ∃ hl fl, 8 ≤ data.length ∧ data.take 4 = magic ∧ data[4]? = some protoV0 ∧ data[5]? = some hl ∧ data[6]? = some fl ∧
      data[7]? = some ty ∧ hl.toNat ≤ data.length ∧ check crc data ty = .ok (data.drop hl.toNat) ∧
      (fl.toNat % 2 = 1 → hl.toNat = 12 ∧ crc (data.drop hl.toNat) = beNat ((data.take 12).drop 8)) := by
  unfold check
  simp only [Gen.Envelope.guardShort, Gen.Envelope.guardHeaderBeyond, Gen.Envelope.guardCrcHeader,
    Cmp.evalNat, minHeaderLen, Gen.Envelope.minHeaderLen, decide_eq_true_eq]
  -- the guards in the order of the code: each one either answers its error or is passed
  by_cases hlen : data.length < 8
  · exact .inl ⟨_, if_pos hlen⟩
  rw [if_neg hlen]
  by_cases hm : List.take magic.length data ≠ magic
  · exact .inl ⟨_, if_pos hm⟩
  rw [if_neg hm]
  -- past the length guard the header bytes exist: no index panics
  obtain ⟨v, hv⟩ : ∃ v, data[4]? = some v := ⟨data[4], List.getElem?_eq_getElem (by omega)⟩
  obtain ⟨hl, hhl⟩ : ∃ v, data[5]? = some v := ⟨data[5], List.getElem?_eq_getElem (by omega)⟩
  obtain ⟨fl, hfl⟩ : ∃ v, data[6]? = some v := ⟨data[6], List.getElem?_eq_getElem (by omega)⟩
  obtain ⟨t, ht⟩ : ∃ v, data[7]? = some v := ⟨data[7], List.getElem?_eq_getElem (by omega)⟩
  simp only [index_of_getElem? hv, index_of_getElem? hhl, index_of_getElem? hfl, index_of_getElem? ht, Res.bind_ok]
  by_cases hver : v ≠ protoV0
  · exact .inl ⟨_, if_pos hver⟩
  rw [if_neg hver]
  by_cases hb : hl.toNat > data.length
  · exact .inl ⟨_, if_pos hb⟩
  rw [if_neg hb]
  have hle : hl.toNat ≤ data.length := by omega
  simp only [sliceFrom, if_pos hle, Res.bind_ok]
  by_cases hty : t ≠ ty
  · exact .inl ⟨_, if_pos hty⟩
  rw [if_neg hty]
  obtain rfl : v = protoV0 := Decidable.not_not.mp hver
  obtain rfl : t = ty := Decidable.not_not.mp hty
  have hmag : data.take 4 = magic := Decidable.not_not.mp hm
  by_cases hodd : fl.toNat % 2 = 1
  · rw [if_pos hodd]
    by_cases h12 : hl.toNat ≠ 8 + 4
    · exact .inl ⟨_, if_pos h12⟩
    rw [if_neg h12]
    have e12 : hl.toNat = 12 := by omega
    have hs : slice data 8 hl.toNat = .ok ((data.take 12).drop 8) := by rw [e12]; exact if_pos ⟨by omega, by omega⟩
    simp only [hs, Res.bind_ok]
    by_cases hcrc : crc (data.drop hl.toNat) ≠ beNat ((data.take 12).drop 8)
    · exact .inl ⟨_, if_pos hcrc⟩
    rw [if_neg hcrc]
    exact .inr ⟨hl, fl, by omega, hmag, hv, hhl, hfl, ht, hle, rfl, fun _ => ⟨e12, Decidable.not_not.mp hcrc⟩⟩
  · rw [if_neg hodd]
    exact .inr ⟨hl, fl, by omega, hmag, hv, hhl, hfl, ht, hle, rfl, fun h => absurd h hodd⟩

/-- Decoding any byte string as any envelope type never panics. -/
theorem check_total (crc : Bytes → Nat) (data : Bytes) (ty : UInt8) :
    check crc data ty ≠ .panic := by
  rcases check_spec crc data ty with ⟨e, h⟩ | ⟨hl, fl, -, -, -, -, -, -, -, h, -⟩ <;> rw [h] <;> exact nofun

/-- No envelope decoder panics, whatever the protobuf decoder does. -/
theorem unmarshal_total {μ} (crc : Bytes → Nat) (pbDec : Bytes → Option μ) (data : Bytes) (ty : UInt8) :
    unmarshal crc pbDec data ty ≠ .panic := by
  unfold unmarshal
  rw [Ne, Res.bind_eq_panic]
  rintro (h | ⟨p, -, h⟩)
  · exact check_total crc data ty h
  · split at h <;> cases h

/-- The replication-response decoder (which slices the payload itself) never panics. -/
theorem replResp_total (crc : Bytes → Nat) (data : Bytes) : unmarshalReplResp crc data ≠ .panic := by
  unfold unmarshalReplResp
  rw [Ne, Res.bind_eq_panic]
  rintro (h | ⟨p, -, h⟩)
  · exact check_total crc data 3 h
  · simp only [Gen.Envelope.guardReplShort, Gen.Envelope.replMinLen, Cmp.evalNat, decide_eq_true_eq] at h
    split at h
    · cases h
    · -- past the length guard the three slices are within the payload
      have h1 : 0 ≤ 8 ∧ 8 ≤ p.length := by omega
      have h3 : 16 ≤ p.length := by omega
      simp [slice, sliceFrom, h1, h3] at h

/-- The publish path's envelope-or-raw decision never panics. -/
theorem classify_total {μ} (crc : Bytes → Nat) (pbDec : Bytes → Option μ) (data : Bytes) :
    classify crc pbDec data ≠ .panic := by
  unfold classify
  have := unmarshal_total crc pbDec data 0
  split <;> simp_all

/-- Envelope round-trip on the framing: what `marshalEnvelope` produces is accepted and yields
exactly the payload, for every payload and type. -/
theorem check_marshal (crc : Bytes → Nat) (p : Bytes) (ty : UInt8) :
    check crc (marshal p ty) ty = .ok p := by
  unfold check marshal
  simp [magic, Gen.Envelope.magic, minHeaderLen, Gen.Envelope.minHeaderLen, protoV0,
    Gen.Envelope.protoV0, Gen.Envelope.guardShort, Gen.Envelope.guardHeaderBeyond, Cmp.evalNat,
    index, sliceFrom]
  have h : ¬ (List.length p + 1 + 1 + 1 + 1 + 1 + 1 + 1 + 1 < 8) := by omega
  simp [h]

/-- What `unmarshal` accepts: an accepted envelope whose payload the protobuf decoder accepts. -/
theorem unmarshal_eq_ok {μ} {crc : Bytes → Nat} {pbDec : Bytes → Option μ} {data : Bytes} {ty : UInt8}
    {m : μ} : unmarshal crc pbDec data ty = .ok m ↔ ∃ p, check crc data ty = .ok p ∧ pbDec p = some m := by
  simp only [unmarshal, Res.bind_eq_ok]
  refine exists_congr fun p => and_congr_right fun _ => ?_
  cases pbDec p <;> simp

/-- Encoding then decoding any protocol message returns the same message (relative to the
protobuf codec being a right-inverse pair — recorded hypothesis, not an axiom). -/
theorem unmarshal_marshal {μ} (crc : Bytes → Nat) (pbDec : Bytes → Option μ) (pbEnc : μ → Bytes)
    (hpb : ∀ m, pbDec (pbEnc m) = some m) (m : μ) (ty : UInt8) :
    unmarshal crc pbDec (marshal (pbEnc m) ty) ty = .ok m :=
  unmarshal_eq_ok.2 ⟨_, check_marshal crc _ ty, hpb m⟩

/-- The `.ok` half of `check_spec`; in particular a payload whose optional checksum does not match is rejected. -/
theorem check_ok_exact (crc : Bytes → Nat) (data p : Bytes) (ty : UInt8)
    (h : check crc data ty = .ok p) :
    8 ≤ data.length ∧ data.take 4 = magic ∧ data[4]? = some protoV0 ∧ data[7]? = some ty ∧
    ∃ hl fl, data[5]? = some hl ∧ data[6]? = some fl ∧ hl.toNat ≤ data.length ∧
      p = data.drop hl.toNat ∧
      (fl.toNat % 2 = 1 → hl.toNat = 12 ∧ crc p = beNat ((data.take 12).drop 8)) := by
  rcases check_spec crc data ty with ⟨e, he⟩ | ⟨hl, fl, h8, hmag, hv, hhl, hfl, ht, hle, hok, hcrc⟩
  · rw [he] at h; cases h
  · obtain rfl : data.drop hl.toNat = p := Res.ok.inj (hok.symm.trans h)
    exact ⟨h8, hmag, hv, ht, hl, fl, hhl, hfl, hle, rfl, hcrc⟩

/-- A payload that is not a valid publish envelope is stored verbatim. -/
theorem raw_verbatim {μ} (crc : Bytes → Nat) (pbDec : Bytes → Option μ) (data v : Bytes)
    (h : classify crc pbDec data = .ok (.raw v)) : v = data := by
  unfold classify at h
  split at h <;> simp_all

/-- A payload classified as an envelope is exactly the message its payload bytes encode. -/
theorem envelope_exact {μ} (crc : Bytes → Nat) (pbDec : Bytes → Option μ) (data : Bytes) (m : μ)
    (h : classify crc pbDec data = .ok (.envelope m)) :
    ∃ p, check crc data 0 = .ok p ∧ pbDec p = some m := by
  unfold classify at h
  split at h
  · rename_i m' hm
    cases h
    exact unmarshal_eq_ok.1 hm
  · simp at h
  · simp at h

/-! Non-vacuity: concrete inputs meeting the hypotheses above. -/
example : check (fun _ => 0) (marshal [1, 2, 3] 0) 0 = .ok [1, 2, 3] := by decide
example : check (fun _ => 7) ([0xB9, 0x0E, 0x43, 0xB4, 0, 12, 1, 0, 0, 0, 0, 7, 42]) 0 = .ok [42] := by decide
example : check (fun _ => 7) ([0xB9, 0x0E, 0x43, 0xB4, 0, 12, 1, 0, 0, 0, 0, 8, 42]) 0 = .err "crc" := by decide
/-- The former crash input (header length beyond the data) is now an error. -/
example : check (fun _ => 0) ([0xB9, 0x0E, 0x43, 0xB4, 0, 200, 0, 0]) 0 = .err "hdrlen" := by decide

end Liftbridge.Props.C14
