/-
C04 (and C02) at the level of the function bodies: what the leader's commit loop computes the high watermark FROM -
`min` (the minimum over the in-sync replicas' latest offsets), `replica.updateLatestOffset` / `resetLatestOffset` /
`getLatestOffset`, `partition.updateISRLatestOffset`, `minInt64` (server/partition.go) - translated from the code.

`go_min`: for EVERY slice (loop lemma `min_loop`, induction over the elements still to visit; the fuel is `len + 9`
because a three-clause `for` consumes fuel per iteration) the translated body returns the model's `Protocol.goMin`;
`goMin_le` / `goMin_mem`: that value is below the offset of every in-sync replica and is the offset of one of them - an
ALL acknowledgement, which the commit loop sends for queue entries at or below it, is therefore only sent for messages
every in-sync replica has stored. `go_updateLatestOffset`: a replica's recorded offset only moves upwards and the answer
tells whether it moved; `go_resetLatestOffset`: unconditional (start of a leadership term);
`go_updateISRLatestOffset_*`: the commit loop is signalled exactly when the replica is in the in-sync map and the offset
is above the recorded one. `model_updateOffset` ties the model's `updateOffset` to the same shape. `commitLoop` itself
(a `select` loop) stays tied by regenerated facts and the correspondence runs.

Translator: named results are declared with their zero value when the function starts and a bare `return` returns them.
-/
import Liftbridge.Proofs.GoCodeBase
import Liftbridge.Gen.GoCommit
import Liftbridge.Model.Protocol
import Liftbridge.Proofs.Protocol

namespace Liftbridge.Props.GoCommit
open Liftbridge Liftbridge.GoMini Liftbridge.GoCode
open Liftbridge.Gen.GoCommit


theorem translation_complete : unsupported = [] := rfl

theorem binVal_int (op : String) (a b : Int) : binVal op (Val.int a) (Val.int b) = binInt op a b := GoMini.binVal_int op a b

def condE : Expr := (.bin "<" (.var "i") (.len (.var "v")))
def loopBody : List Stmt :=
  [(.ite [] (.bin "<" (.idx (.var "v") (.var "i")) (.var "m")) [(.assign [(.var "m")] [(.idx (.var "v") (.var "i"))])] [])]
def postB : List Stmt := [(.opAssign "+" (.var "i") (.int 1))]

def step (m y : Int) : Int := if y < m then y else m

/-- the loop of `min` with `pre` visited and `suf` to go: `m` ends as the fold of `step` over `suf` -/
theorem min_loop (m0 : Nat) (xs : List Int) :
    ∀ (suf pre : List Int) (iters : Nat) (st : St) (cur : Int), xs = pre ++ suf → suf.length + 1 ≤ iters →
      st.env "i" = some (.int pre.length) → st.env "v" = some (.list (xs.map .int)) → st.env "m" = some (.int cur) →
      ∃ st', runFor (forCond prog noExt (m0 + 8) condE) (runBlock (exec prog noExt (m0 + 8)) loopBody)
          (runBlock (exec prog noExt (m0 + 8)) postB) iters st = .ok (.next, st') ∧
        st'.env "m" = some (.int (suf.foldl step cur)) ∧ st'.eff = st.eff := by
  intro suf
  induction suf with
  | nil =>
    intro pre iters st cur hx hit hi hv hm
    obtain ⟨k, rfl⟩ : ∃ k, iters = k + 1 := ⟨iters - 1, by omega⟩
    subst hx
    refine ⟨st, ?_, hm, rfl⟩
    simp [runFor_succ, forCond, condE, gomini, hi, hv, binInt]
  | cons y rest ih =>
    intro pre iters st cur hx hit hi hv hm
    obtain ⟨k, rfl⟩ : ∃ k, iters = k + 1 := ⟨iters - 1, by simp at hit; omega⟩
    subst hx
    have hlen : (pre.length : Int) < ↑pre.length + (↑rest.length + 1) := by omega
    -- after one iteration: `m` is `step cur y`, `i` is one further
    obtain ⟨st', h1, h2, h3⟩ := ih (pre ++ [y]) k ((st.set "m" (.int (step cur y))).set "i" (.int (pre.length + 1))) (step cur y)
      (by simp) (by simp at hit; omega) (by simp [gomini]) (by simp [gomini, hv]) (by simp [gomini])
    refine ⟨st', ?_, h2, h3⟩
    rw [runFor_succ, ← h1]
    by_cases hlt : y < cur <;>
      simp [forCond, condE, loopBody, postB, gomini, hi, hv, hm, binInt, hlen, hlt, step, St.set_known hm]

def rets : R Out → Option (List Val)
  | .ok o => some o.rets
  | _ => none

theorem lk_min : evalE.lookup' "min" prog = some fn_min := by simp [prog, gomini]

theorem goMin_eq (x : Int) (rest : List Int) : Protocol.goMin (x :: rest) = rest.foldl step x := rfl

/-- `min(v []int64)` = the model's `Protocol.goMin`, for every slice (0 for the empty one) -/
theorem go_min (xs : List Int) :
    rets (runG prog noExt (xs.length + 9) "min" none [.list (xs.map .int)] []) = some [.int (Protocol.goMin xs)] := by
  cases xs with
  | nil => rfl
  | cons x rest =>
    obtain ⟨st', h1, h2, -⟩ := min_loop (rest.length + 1) (x :: rest) rest [x] (rest.length + 9)
      ((⟨envOf [("v", .list ((x :: rest).map .int))], []⟩ : St).setAll [("m", .int 0), ("m", .int x), ("i", .int 1)]) x
      rfl (by omega) rfl rfl rfl
    simp [condE, loopBody, postB, St.setAll] at h1
    simp [runG, fn_min, lk_min, gomini, rets, goMin_eq, binInt, exec_forC_some, h1, h2]

theorem foldl_step_mem (xs : List Int) : ∀ cur : Int, xs.foldl step cur = cur ∨ xs.foldl step cur ∈ xs := by
  induction xs with
  | nil => intro cur; simp
  | cons a tl ih =>
    intro cur
    simp only [List.foldl_cons, List.mem_cons]
    rcases ih (step cur a) with h | h
    · rw [h]; unfold step; split <;> simp
    · exact Or.inr (Or.inr h)

/-- the high watermark the commit loop sets never exceeds what any in-sync replica has stored -/
theorem goMin_le (xs : List Int) (y : Int) (hy : y ∈ xs) : Protocol.goMin xs ≤ y :=
  Proofs.Protocol.goMin_le hy

/-- and it is the offset of one of them (nothing smaller than needed) -/
theorem goMin_mem (xs : List Int) (hne : xs ≠ []) : Protocol.goMin xs ∈ xs := by
  cases xs with
  | nil => exact absurd rfl hne
  | cons x rest =>
    rw [goMin_eq]
    rcases foldl_step_mem rest x with h | h
    · rw [h]; simp
    · exact List.mem_cons_of_mem _ h

/-! ### the per-replica offset the minimum is taken over -/

def encReplica (offset : Int) : Val := .struct [("offset", .int offset)]

def replicaView : R Out → Option (List Val × Option Val)
  | .ok o => some (o.rets, o.recv)
  | _ => none

/-- `replica.updateLatestOffset`: only upwards, and the answer says whether it moved -/
theorem go_updateLatestOffset (cur offset : Int) :
    replicaView (runG prog noExt 30 "updateLatestOffset" (some (encReplica cur)) [.int offset] []) =
      some ([.bool (decide (offset > cur))], some (encReplica (if offset > cur then offset else cur))) := by
  by_cases h : offset > cur <;> simp [runG, fn_replica_updateLatestOffset, prog, gomini, replicaView, encReplica, binInt, h]

/-- `replica.resetLatestOffset`: unconditionally (the start of a leadership term) -/
theorem go_resetLatestOffset (cur offset : Int) :
    replicaView (runG prog noExt 30 "resetLatestOffset" (some (encReplica cur)) [.int offset] []) =
      some ([], some (encReplica offset)) := by
  rfl

theorem go_getLatestOffset (cur : Int) :
    replicaView (runG prog noExt 30 "getLatestOffset" (some (encReplica cur)) [] []) = some ([.int cur], some (encReplica cur)) := by
  rfl

theorem go_minInt64 (a b : Int) :
    rets (runG prog noExt 30 "minInt64" none [.int a, .int b] []) = some [.int (if a < b then a else b)] := by
  by_cases h : a < b <;> simp [runG, fn_minInt64, prog, gomini, rets, binInt, h]

def signalView : R Out → Option (List (String × List Val))
  | .ok o => some o.eff
  | _ => none

theorem go_updateISRLatestOffset_absent (isr : List (String × Val)) (rest : List (String × Val)) (r : String) (offset : Int)
    (hl : lookup r isr = none) :
    signalView (runG prog noExt 30 "updateISRLatestOffset" (some (.struct (("isr", .struct isr) :: rest))) [.str r, .int offset] []) = some [] := by
  simp [runG, fn_partition_updateISRLatestOffset, prog, gomini, signalView, hl]

/-- `partition.updateISRLatestOffset`: the commit loop is signalled exactly when the replica is in the in-sync map AND the
offset is above the one recorded for it; a replica outside the map is ignored. (The embedding has no aliasing: the write
into the shared `*replica` is `go_updateLatestOffset`; here the observable is the signal.) -/
theorem go_updateISRLatestOffset_member (isr : List (String × Val)) (rest : List (String × Val)) (r : String) (offset cur : Int)
    (hl : lookup r isr = some (encReplica cur)) :
    signalView (runG prog noExt 30 "updateISRLatestOffset" (some (.struct (("isr", .struct isr) :: rest))) [.str r, .int offset] []) =
      some (if offset > cur then [("chan.trySend", [.str "p.commitCheck"])] else []) := by
  by_cases h : offset > cur <;>
    simp [runG, fn_partition_updateISRLatestOffset, fn_replica_updateLatestOffset, prog, gomini, signalView, hl, binInt, h, encReplica]

/-- the model's `updateOffset` has the same shape: members only, upwards only, and it reports whether the offset moved -/
theorem model_updateOffset (m : List (Protocol.Sid × Int)) (k : Protocol.Sid) (v : Int) :
    Protocol.updateOffset m k v =
      (match Protocol.lookup m k with
       | none => (m, false)
       | some cur => if v > cur then (Protocol.mSet m k v, true) else (m, false)) := by
  unfold Protocol.updateOffset
  cases Protocol.lookup m k <;> simp [Gen.Protocol.updateOffsetCmp, Cmp.evalInt]

/-- non-vacuity: the minimum over three in-sync offsets; the empty slice answers 0 -/
example : Protocol.goMin [7, 3, 9] = 3 ∧ Protocol.goMin [] = 0 := by decide

end Liftbridge.Props.GoCommit
