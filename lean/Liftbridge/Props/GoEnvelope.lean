/-
The envelope check of the model IS the translated Go code.

`Gen/GoEnvelope.lean` holds `checkEnvelope` and `hasBit` of server/protocol/envelope.go.
`go_checkEnvelope`: for EVERY byte string and expected type, running the translated body gives the
outcome of `Envelope.check` — the function C14's theorems are about: the same payload, a refusal, or
a panic (none on the current tree: `check_total` of Props/C14). CRC-32C, `binary.BigEndian.Uint32`
and `bytes.Equal` are external calls answered by their specifications (`crc` stays a parameter).
-/
import Liftbridge.Proofs.GoCodeBase
import Liftbridge.Gen.GoEnvelope
import Liftbridge.Model.Envelope

namespace Liftbridge.Props.GoEnvelope
open Liftbridge Liftbridge.GoMini Liftbridge.GoCode
open Liftbridge.Gen.GoEnvelope

theorem translation_complete : unsupported = [] := rfl

theorem builtin_bytes_Equal (a b : Val) : builtin "bytes.Equal" [a, b] = none := by cases a <;> simp [builtin]
theorem builtin_crc32_Checksum (a b : Val) : builtin "crc32.Checksum" [a, b] = none := by cases a <;> simp [builtin]

def encByte (b : UInt8) : Val := .int b.toNat
def encBytes (b : Bytes) : Val := .list (b.map encByte)

def decByte : Val → Option UInt8
  | .int i => if 0 ≤ i ∧ i < 256 then some (UInt8.ofNat i.toNat) else none
  | _ => none
def decList : List Val → Option Bytes
  | [] => some []
  | v :: rest => match decByte v, decList rest with
    | some b, some bs => some (b :: bs)
    | _, _ => none
def decBytes : Val → Option Bytes
  | .list xs => decList xs
  | .nil => some []
  | _ => none

@[simp] theorem decByte_enc (b : UInt8) : decByte (encByte b) = some b := by
  have := b.toNat_lt
  simp [decByte, encByte]; omega
@[simp] theorem decList_enc (b : Bytes) : decList (b.map encByte) = some b := by
  induction b with
  | nil => rfl
  | cons x xs ih => simp [decList, ih]
@[simp] theorem decList_cons_enc (b : UInt8) (vs : List Val) :
    decList (encByte b :: vs) = (decList vs).map (fun bs => b :: bs) := by
  simp only [decList, decByte_enc]; cases decList vs <;> rfl
@[simp] theorem decList_nil : decList [] = some [] := rfl
@[simp] theorem decBytes_list (vs : List Val) : decBytes (.list vs) = decList vs := rfl
@[simp] theorem decBytes_enc (b : Bytes) : decBytes (encBytes b) = some b := by simp [decBytes, encBytes]

/-- external calls of `checkEnvelope`, by their specifications -/
def envExt (crc : Bytes → Nat) : Ext := fun f args _ =>
  if f = "bytes.Equal" then
    match args with
    | [a, b] => match decBytes a, decBytes b with
      | some x, some y => some (.bool (x == y))
      | _, _ => none
    | _ => none
  else if f = "Uint32" then
    match args with
    | [_, a] => (decBytes a).map fun x => .int (beNat x)
    | _ => none
  else if f = "crc32.Checksum" then
    match args with
    | [a, _] => (decBytes a).map fun x => .int (crc x)
    | _ => none
  else none

def globals : List (String × Val) :=
  [("envelopeMagicNumber", encBytes Envelope.magic), ("envelopeMagicNumberLen", .int 4),
   ("Encoding", .struct []), ("crc32cTable", .nil)]

inductive Outcome where
  | payload (p : Bytes)
  | refused
  | panic
  | other
  deriving Repr, DecidableEq

def ofModel : Res Bytes → Outcome
  | .ok p => .payload p
  | .err _ => .refused
  | .panic => .panic

def ofGo : R Out → Outcome
  | .ok o => match o.rets with
    | [v, e] => if isNil e then (match decBytes v with | some p => .payload p | none => .other)
                else (if isNil v then .refused else .other)
    | _ => .other
  | .panic => .panic
  | .stuck _ => .other

@[simp] theorem sig_a : fn_checkEnvelope.recv = none ∧ fn_checkEnvelope.params = ["data", "expectedType"] := ⟨rfl, rfl⟩
@[simp] theorem sig_b : fn_hasBit.recv = none ∧ fn_hasBit.params = ["n", "pos"] := ⟨rfl, rfl⟩

theorem facts : Gen.Envelope.guardShort = .lt ∧ Gen.Envelope.guardHeaderBeyond = .gt ∧ Gen.Envelope.guardCrcHeader = .ne ∧
    Gen.Envelope.minHeaderLen = 8 ∧ Gen.Envelope.protoV0 = 0 ∧ Gen.Envelope.magic = [185, 14, 67, 180] := by decide

@[simp] theorem binVal_encByte_int (op : String) (b : UInt8) (k : Int) : binVal op (encByte b) (.int k) = binInt op b.toNat k := rfl
@[simp] theorem binVal_encByte_encByte (op : String) (a b : UInt8) : binVal op (encByte a) (encByte b) = binInt op a.toNat b.toNat := rfl

theorem byte_cast_lt (b : UInt8) : ((b.toNat : Int) < 256) := by have := b.toNat_lt; omega

theorem builtin_hasBit (a b : Val) : builtin "hasBit" [a, b] = none := by cases a <;> simp [builtin]
/-- `int(b)` of a byte does not wrap -/
@[simp high] theorem builtin_int_encByte (b : UInt8) : builtin "int" [encByte b] = some (.ok (.int b.toNat)) := by
  have h : wrapS 64 b.toNat = b.toNat := by have := byte_cast_lt b; simp [wrapS]; omega
  rw [encByte, builtin_int, h]
@[simp high] theorem builtin_byte_encByte (b : UInt8) : builtin "byte" [encByte b] = some (.ok (encByte b)) := by
  have h : wrapU 8 b.toNat = b.toNat := by have := byte_cast_lt b; simp [wrapU]; omega
  rw [encByte, builtin_byte, h]

theorem toNat_eq_zero_nat (b : UInt8) : (b.toNat = 0) = (b = 0) := propext (UInt8.toNat_inj (b := 0))

theorem toNat_eq_zero_iff (b : UInt8) : ((b.toNat : Int) = 0) = (b = 0) := by
  rw [Int.natCast_eq_zero, toNat_eq_zero_nat]

@[simp] theorem decList_take (n : Nat) (b : Bytes) : decList (List.take n (b.map encByte)) = some (b.take n) := by
  rw [← List.map_take]; exact decList_enc _
@[simp] theorem decList_drop (n : Nat) (b : Bytes) : decList (List.drop n (b.map encByte)) = some (b.drop n) := by
  rw [← List.map_drop]; exact decList_enc _
@[simp] theorem decList_drop_take (n m : Nat) (b : Bytes) : decList (List.drop n (List.take m (b.map encByte))) = some ((b.take m).drop n) := by
  rw [← List.map_take, ← List.map_drop]; exact decList_enc _

/-- **`checkEnvelope` = the model's `Envelope.check`** for every byte string, expected type and checksum function:
the same payload, a refusal, or a panic. -/
theorem go_checkEnvelope (crc : Bytes → Nat) (data : Bytes) (expected : UInt8) :
    ofGo (runG prog (envExt crc) 30 "checkEnvelope" none [encBytes data, encByte expected] globals) =
      ofModel (Envelope.check crc data expected) := by
  -- The Go side tests in `Int`, the model in `Nat`: `e8` … `e12` turn the former into the latter. Then the decisions of
  -- the code in its order, the case that goes on in front; in each case both sides compute.
  have e8 : ((data.length : Int) < 8) = ¬ 8 ≤ data.length := by apply propext; omega
  have e8' : (data.length < 8) = ¬ 8 ≤ data.length := by simp
  by_cases h8 : 8 ≤ data.length
  have h4 : (4 : Int) ≤ data.length := by omega
  have g4 : data[4]? = some data[4] := by simp
  have g5 : data[5]? = some data[5] := by simp
  have g6 : data[6]? = some data[6] := by simp
  have g7 : data[7]? = some data[7] := by simp
  have e5 : (data.length < (data[5]).toNat) = ¬ (data[5]).toNat ≤ data.length := by simp
  have e6 : ((0 : Int) < ((data[6]).toNat : Int) % 2) = ((data[6]).toNat % 2 = 1) := by apply propext; omega
  have e12 : (((data[5]).toNat : Int) = 12) = ((data[5]).toNat = 12) := by apply propext; omega
  have hand : (data[6]).toNat &&& 1 = (data[6]).toNat % 2 := Nat.and_one_is_mod _
  by_cases hm : data.take 4 = [185, 14, 67, 180]
  by_cases hv : data[4] = 0
  by_cases hh : (data[5]).toNat ≤ data.length
  by_cases ht : data[7] = expected
  by_cases hf : (data[6]).toNat % 2 = 1
  by_cases hc : (data[5]).toNat = 12
  have h12 : 12 ≤ data.length ∧ ¬ data.length < 12 ∧ (12 : Int) ≤ data.length ∧ ¬ (data.length : Int) < 12 := by omega
  by_cases he : crc (data.drop 12) = beNat ((data.take 12).drop 8)
  all_goals
    simp [runG, prog, fn_checkEnvelope, fn_hasBit, gomini, Res.bind, encBytes, binInt, ofGo, isNil, Envelope.check, facts, Cmp.evalNat,
      Envelope.minHeaderLen, ofModel, globals, envExt, Envelope.magic, Envelope.protoV0, index, sliceFrom, slice, toNat_eq_zero_nat,
      Int.natCast_inj, UInt8.toNat_inj, builtin_bytes_Equal, builtin_crc32_Checksum, builtin_hasBit, *]

/-- `hasBit(n, pos)` for a byte and a position below 8 -/
theorem go_hasBit (n : UInt8) (pos : Nat) (hp : pos < 8) :
    run prog noExt 10 "hasBit" none [encByte n, .int pos] =
      .ok { rets := [.bool (decide (n.toNat &&& (2 ^ pos) > 0))], recv := none, eff := [] } := by
  have h1 : ((pos : Int) < 0) = False := by apply eq_false; omega
  have h2 : (0 : Int) ≤ 2 ^ pos := Int.pow_nonneg (by decide)
  have h3 : ((2 : Int) ^ pos).toNat = 2 ^ pos := by
    have : (2 : Int) ^ pos = ((2 ^ pos : Nat) : Int) := by simp
    rw [this]; exact Int.toNat_natCast _
  simp [run, runG, prog, fn_hasBit, gomini, binInt, h1, encByte, h2, h3]

/-! ### non-vacuity: an accepted envelope, a refused type, a header length beyond the data -/
example (crc : Bytes → Nat) : ofModel (Envelope.check crc [185, 14, 67, 180, 0, 8, 0, 3, 1, 2] 3) = .payload [1, 2] := by
  rfl
example (crc : Bytes → Nat) : ofModel (Envelope.check crc [185, 14, 67, 180, 0, 8, 0, 3, 1, 2] 4) = .refused := by
  rfl
example (crc : Bytes → Nat) : ofModel (Envelope.check crc [185, 14, 67, 180, 0, 9, 0, 0] 0) = .refused := by
  rfl

end Liftbridge.Props.GoEnvelope
