/-
C05 (and C01) at the level of the function bodies: the file-system steps of a segment - `segment.Replace` (how a compacted or
truncated copy takes the place of the segment it was made from), `segment.WriteMessageSet` / `segment.write` (log before
index) and `segment.newSuffixed` (stale files of an interrupted clean or truncate are removed before their names are reused)
- translated from server/commitlog/segment.go. The operating system is a parameter: the k-th file-system call of a run
fails, for any k, or none does.

`go_write_closed`, `go_WriteMessageSet_log_fails`, `go_WriteMessageSet_ok`: log first, then index.
`go_newSuffixed_ok`: the two removals succeed or find no file; a removal that fails otherwise is not a theorem here.
-/
import Liftbridge.Proofs.GoCodeBase
import Liftbridge.Gen.GoSegFiles

namespace Liftbridge.Props.GoSegFiles
open Liftbridge Liftbridge.GoMini Liftbridge.GoCode
open Liftbridge.Gen.GoSegFiles


theorem translation_complete : unsupported = [] := rfl

def strField (k : String) (fs : List (String × Val)) : String :=
  match lookup k fs with
  | some (.str s) => s
  | _ => ""

/-- the file-system calls -/
def isFs (f : String) : Bool := f = "close" || f = "os.Rename" || f = "os.OpenFile" || f = "setupIndex" || f = "os.Remove" || f = "newSegment" ||
  f = "Write" || f = "writeEntries"

def fsCalls (eff : List (String × List Val)) : List (String × List Val) := eff.filter fun e => isFs e.1

/-- the operating system: paths are a function of a segment's name and suffix; the `failStep`-th file-system call fails -/
def osExt (failStep : Nat) (notExist : Bool) : Ext := fun f args eff =>
  let err : Val := if (fsCalls eff).length = failStep then .str "io error" else .nil
  if f = "logPath" then
    match args with
    | [.struct fs] => some (.str ("log:" ++ strField "name" fs ++ strField "suffix" fs))
    | _ => none
  else if f = "indexPath" then
    match args with
    | [.struct fs] => some (.str ("idx:" ++ strField "name" fs ++ strField "suffix" fs))
    | _ => none
  else if f = "os.OpenFile" then some (.tup [.str "file", err])
  else if f = "newSegment" then some (.tup [.str "segment", err])
  else if f = "Write" then some (.tup [.int 100, err])
  else if f = "os.IsNotExist" then some (.bool notExist)
  else if isFs f then some err
  else none

def encSegF (name suffix : String) : Val :=
  .struct [("name", .str name), ("suffix", .str suffix), ("log", .nil), ("writer", .nil), ("reader", .nil), ("closed", .bool true), ("replaced", .bool false)]

def osGlobals : List (String × Val) := [("os.O_RDWR", .int 2), ("os.O_CREATE", .int 64), ("os.O_APPEND", .int 1024)]

/-- (returned error is nil?, the file-system calls in order) -/
def fsView : R Out → Option (Bool × List (String × List Val))
  | .ok o => some (match o.rets with | [v] => isNil v | _ => false, fsCalls o.eff)
  | _ => none

/-- the complete sequence of `new.Replace(old)` -/
def replaceSeq (name suffix : String) : List (String × List Val) :=
  [("close", []), ("close", []),
   ("os.Rename", [.str ("log:" ++ name ++ suffix), .str ("log:" ++ name)]),
   ("os.Rename", [.str ("idx:" ++ name ++ suffix), .str ("idx:" ++ name)]),
   ("os.OpenFile", [.str ("log:" ++ name), .int 1090, .int 420]),
   ("setupIndex", [])]

/-- `new.Replace(old)` for any two segments: the files of `new` (suffixed name) are renamed onto the paths of `old`, then the log
is re-opened under the name of `new` with the suffix `""` the code has just assigned to it -/
theorem go_Replace_any (name suffix oname osuffix : String) (failStep : Nat) :
    fsView (runG prog (osExt failStep false) 30 "Replace" (some (encSegF name suffix)) [encSegF oname osuffix] osGlobals) =
      some (decide (6 ≤ failStep), List.take (failStep + 1)
        [("close", []), ("close", []),
         ("os.Rename", [.str ("log:" ++ name ++ suffix), .str ("log:" ++ oname ++ osuffix)]),
         ("os.Rename", [.str ("idx:" ++ name ++ suffix), .str ("idx:" ++ oname ++ osuffix)]),
         ("os.OpenFile", [.str ("log:" ++ name ++ ""), .int 1090, .int 420]),
         ("setupIndex", [])]) := by
  -- Each file-system call is followed by `if err != nil { return err }`. If the next call is the one that fails, the
  -- run from here is a closed computation; if not, so is the run up to the call after it.
  rw [runG_eq rfl rfl]
  rcases failStep with _ | k
  · rfl
  rw [runBlock_take_eff 5 rfl]  -- `old.close()` done
  rcases k with _ | k
  · rfl
  rw [runBlock_take_eff 1 rfl]  -- `s.close()`
  rcases k with _ | k
  · rfl
  rw [runBlock_take_eff 1 rfl]  -- the log renamed
  rcases k with _ | k
  · rfl
  rw [runBlock_take_eff 2 rfl]  -- the index renamed
  rcases k with _ | k
  · rfl
  rw [runBlock_take_eff 4 rfl]  -- the log re-opened
  rcases k with _ | k
  · rfl
  rfl

/-- The file-system calls of `new.Replace(old)` are, IN THIS ORDER, close, close, rename of the log file (suffixed name -> plain
name), rename of the index file, re-open of the log under the plain name, `setupIndex`; a call that fails ends the sequence
there and its error is returned - in particular the index is never renamed before the log (the crash window between the two
renames is the one `open()` repairs: `Recover.replaceM`, `renameLogFirst`). -/
theorem go_Replace (name suffix : String) (failStep : Nat) :
    fsView (runG prog (osExt failStep false) 30 "Replace" (some (encSegF name suffix)) [encSegF name ""] osGlobals) =
      some (decide (6 ≤ failStep), (replaceSeq name suffix).take (failStep + 1)) := by
  have h := go_Replace_any name suffix name "" failStep
  rw [String.append_empty, String.append_empty] at h
  exact h

/-! ### writing: log first, then index -/

theorem lk_WMS : evalE.lookup' "WriteMessageSet" prog = some fn_segment_WriteMessageSet := by simp [prog, gomini]
theorem lk_write : evalE.lookup' "write" prog = some fn_segment_write := by simp [prog, gomini]
theorem lk_Write : evalE.lookup' "Write" prog = none := by simp [prog, gomini]
theorem lk_notifyWaiters : evalE.lookup' "notifyWaiters" prog = none := by simp [prog, gomini]
theorem lk_writeEntries : evalE.lookup' "writeEntries" prog = none := by simp [prog, gomini]

def encEntry (offset ts : Int) : Val := .struct [("Offset", .int offset), ("Timestamp", .int ts)]

def encSegW (closed : Bool) (position firstOffset firstWriteTime lastOffset lastWriteTime : Int) : Val :=
  .struct [("closed", .bool closed), ("writer", .struct [("kind", .str "file")]), ("Index", .struct [("kind", .str "index")]),
           ("position", .int position), ("firstOffset", .int firstOffset), ("firstWriteTime", .int firstWriteTime),
           ("lastOffset", .int lastOffset), ("lastWriteTime", .int lastWriteTime)]

/-- (error is nil?, file-system calls, segment afterwards) -/
def writeView : R Out → Option (Bool × List String × Option Val)
  | .ok o => some (match o.rets with | [v] => isNil v | _ => false, (fsCalls o.eff).map (·.1), o.recv)
  | _ => none

def wGlobals : List (String × Val) := [("ErrSegmentClosed", .str "ErrSegmentClosed")]

/-- a closed segment refuses: nothing is written, the segment is unchanged (stated on `write` itself: a callee does not see the
package-level `ErrSegmentClosed` in the embedding) -/
theorem go_write_closed (pos fo fwt lo lwt : Int) (ms : Val) (es : List Val) (failStep : Nat) :
    writeView (runG prog (osExt failStep false) 30 "write" (some (encSegW true pos fo fwt lo lwt)) [ms, .list es] wGlobals) =
      some (false, [], some (encSegW true pos fo fwt lo lwt)) := by
  rfl

/-- a failing log write: its error is returned, the index is NOT written, the segment's counters do not move -/
theorem go_WriteMessageSet_log_fails (pos fo fwt lo lwt : Int) (ms : Val) (es : List Val) :
    writeView (runG prog (osExt 0 false) 30 "WriteMessageSet" (some (encSegW false pos fo fwt lo lwt)) [ms, .list es] wGlobals) =
      some (false, ["Write"], some (encSegW false pos fo fwt lo lwt)) := by
  rfl

/-- a successful log write of a non-empty entry list (first entry `o0,t0`, last entry `oL,tL`): log, THEN index; position +=
bytes written (100 here); last offset / time from the last entry; first offset / time from the first entry iff the segment had
not been written to; the result is the index write's -/
theorem go_WriteMessageSet_ok (pos fo fwt lo lwt : Int) (ms : Val) (es : List Val) (n : Nat) (o0 t0 oL tL : Int) (indexFails : Bool)
    (hn : es.length = n + 1) (h0 : es[0]? = some (encEntry o0 t0)) (hL : es[n]? = some (encEntry oL tL)) :
    writeView (runG prog (osExt (if indexFails then 1 else 2) false) 30 "WriteMessageSet" (some (encSegW false pos fo fwt lo lwt))
        [ms, .list es] wGlobals) =
      some (!indexFails, ["Write", "writeEntries"],
        some (encSegW false (pos + 100) (if fwt = 0 then o0 else fo) (if fwt = 0 then t0 else fwt) oL tL)) := by
  -- the step that fails enters the run only through these two comparisons
  have e0 : ¬ 0 = (if indexFails then 1 else 2) := by cases indexFails <;> decide
  have e1 : (1 = if indexFails then 1 else 2) = (indexFails = true) := by cases indexFails <;> decide
  by_cases hz : fwt = 0 <;>
    simp [runG, lk_WMS, lk_write, lk_Write, lk_notifyWaiters, lk_writeEntries, fn_segment_WriteMessageSet, fn_segment_write, gomini,
      writeView, fsCalls, isFs, osExt, encSegW, wGlobals, binInt, wrapS, encEntry, hz, hn, h0, hL, e0, e1, -getElem?_pos] <;>
    cases indexFails <;> rfl

/-! ### stale files of an interrupted clean / truncate -/

def encSegP (name : String) : Val := .struct [("path", .str "dir"), ("BaseOffset", .int 7), ("maxBytes", .int 1000), ("name", .str name)]

/-- both stale files are removed - log, then index - before the suffixed segment is created; "does not exist" is fine.
(The `false` of `fsView` says nothing about an error here: `newSuffixed` ends in `return newSegment(…)`, whose pair arrives as
one value.) -/
theorem go_newSuffixed_ok (name suffix : String) (notExist : Bool) :
    fsView (runG prog (osExt (if notExist then 0 else 9) notExist) 30 "newSuffixed" (some (encSegP name)) [.str suffix] []) =
      some (false, [("os.Remove", [.str ("log:" ++ suffix)]), ("os.Remove", [.str ("idx:" ++ suffix)]),
                    ("newSegment", [.str "dir", .int 7, .int 1000, .bool false, .str suffix])]) := by
  cases notExist <;> rfl

end Liftbridge.Props.GoSegFiles
