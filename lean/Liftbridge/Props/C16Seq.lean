/-
C16, server level — "for every interleaving of any number of concurrent publishers … and server
batching settings". The partition leader's sequencer (`Model/Sequencer.lean`) cuts the arrival
sequence of the publishes into batches; which cut depends on timing, `BatchMaxTime` and
`BatchMaxMessages`. On a log with concurrency control the batch size is forced to 1 (regenerated
fact `Gen.Partition.occBatchOne`), so for EVERY arrival order, EVERY cut the settings allow and
EVERY `BatchMaxMessages` the publishers hear exactly the outcomes of `Props.C16.runPubs` on the
arrival order — and the statements of C16 follow for what the publishers hear and for the log.
-/
import Liftbridge.Model.Sequencer
import Liftbridge.Proofs.Sequencer
import Liftbridge.Props.C16

namespace Liftbridge.Props.C16Seq
open Liftbridge Liftbridge.Log Liftbridge.Log.CLog Liftbridge.Proofs.Log Liftbridge.Proofs
open Liftbridge.Sequencer Liftbridge.Proofs.Seq

/-- With concurrency control the loop's batch size is 1 whatever `BatchMaxMessages` is. -/
theorem occ_batch_limit (batchMax : Nat) : batchLimit true batchMax = 1 := batchLimit_occ batchMax

/-- For every arrival order (`bs.flatten`), every cut `bs` of it into batches the settings allow
and every `BatchMaxMessages`: the sequencer answers every publish like the single conditional
publish of `Props.C16` in arrival order, and leaves the same log. -/
theorem sequencer_is_per_message (l : CLog) (bs : List (List Msg)) (batchMax : Nat) (h : Inv l)
    (hocc : l.occ = true) (hleg : Legal l.occ batchMax bs) :
    run l bs = (C16.runPubs l bs.flatten).map (fun pr => (pr.1, answerOf pr.2)) ∧
    final l bs = C16.finalLog l bs.flatten := by
  rw [C16.runPubs_eq, C16.finalLog_eq]
  rw [hocc] at hleg
  exact run_eq batchMax bs l h hocc hleg

/-- Nobody is left without an answer: every publisher gets an acknowledgement or the
incorrect-offset error (writable log, encodable messages). -/
theorem every_publisher_answered (l : CLog) (bs : List (List Msg)) (batchMax : Nat) (h : Inv l)
    (hocc : l.occ = true) (hro : l.readonly = false) (hleg : Legal l.occ batchMax bs)
    (henc : ∀ m ∈ bs.flatten, m.body.encodable = true) :
    ∀ pr ∈ run l bs, (∃ o, pr.2 = .ack o) ∨ pr.2 = .nack "incorrect-offset" := by
  intro pr hpr
  obtain ⟨hmem, l', hinv, hocc', hro', he⟩ := mem_run h hocc hleg hpr
  have hm := henc pr.1 hmem
  rw [he, ← C16.publish_eq]
  by_cases hs : pr.1.expected = -1 ∨ pr.1.expected = l'.nextOffset
  · obtain ⟨o, ho⟩ := (C16.stored_iff l' pr.1 hinv hocc' (hro'.trans hro) hm).2 hs
    exact Or.inl ⟨o, by simp [ho, answerOf]⟩
  · have := C16.rejected_incorrect_offset l' pr.1 hinv hocc' (hro'.trans hro) hm
      (fun hc => hs (Or.inl hc)) (fun hc => hs (Or.inr hc))
    exact Or.inr (by simp [this, answerOf])

/-- Publishes that waive the check are always acknowledged. -/
theorem waived_always_acked (l : CLog) (bs : List (List Msg)) (batchMax : Nat) (h : Inv l)
    (hocc : l.occ = true) (hro : l.readonly = false) (hleg : Legal l.occ batchMax bs)
    (henc : ∀ m ∈ bs.flatten, m.body.encodable = true) :
    ∀ pr ∈ run l bs, pr.1.expected = -1 → ∃ o, pr.2 = .ack o := by
  intro pr hpr hw
  obtain ⟨hmem, l', hinv, -, hro', he⟩ := mem_run h hocc hleg hpr
  obtain ⟨o, ho⟩ := C16.waived_accepted l' pr.1 hinv (hro'.trans hro) (henc pr.1 hmem) hw
  exact ⟨o, by rw [he, ← C16.publish_eq, ho]; rfl⟩

/-- An acknowledged conditional publish was assigned exactly its expected offset. -/
theorem acked_at_expected (l : CLog) (bs : List (List Msg)) (batchMax : Nat) (h : Inv l)
    (hocc : l.occ = true) (hleg : Legal l.occ batchMax bs) :
    ∀ pr ∈ run l bs, ∀ o, pr.2 = .ack o → pr.1.expected ≠ -1 → o = pr.1.expected := by
  intro pr hpr o ho hne
  obtain ⟨-, l', hinv, hocc', -, he⟩ := mem_run h hocc hleg hpr
  rw [he] at ho
  cases hr : (Occ.pub l' pr.1).2 with
  | ok o' =>
    obtain rfl : o' = o := by simpa [hr, answerOf] using ho
    exact (C16.stored_at_expected l' pr.1 o' hinv hocc' hr).2.1 hne
  | err e =>
    simp only [hr, answerOf] at ho
    split at ho <;> cases ho
  | panic => simp [hr, answerOf] at ho

/-- The log grows by exactly the acknowledged publishes, in arrival order, each at the offset of
its acknowledgement; a publish answered with the error (or not at all) changes nothing. -/
theorem acked_are_the_log (l : CLog) (bs : List (List Msg)) (batchMax : Nat) (h : Inv l)
    (hocc : l.occ = true) (hleg : Legal l.occ batchMax bs) :
    (final l bs).abs = l.abs ++ (run l bs).filterMap (fun pr =>
      match pr.2 with
      | .ack o => some { offset := o, ts := pr.1.ts, epoch := pr.1.epoch, body := pr.1.body }
      | _ => none) := by
  rw [hocc] at hleg
  obtain ⟨h1, h2⟩ := run_eq batchMax bs l h hocc hleg
  rw [h1, h2, Occ.stored_appended _ l h, List.filterMap_map]
  congr 2
  funext p
  cases hr : p.2 with
  | ok o => simp [Occ.storedRec, hr, answerOf]
  | err e =>
    by_cases he : e = "incorrect-offset" <;> simp [Function.comp, Occ.storedRec, hr, answerOf, he]
  | panic => simp [Occ.storedRec, hr, answerOf]

/-- Of any set of publishers racing with the same expected offset `e ≠ -1` at most one is
acknowledged — for every arrival order, every cut into batches and every batch size setting. -/
theorem at_most_one_acked (l : CLog) (bs : List (List Msg)) (batchMax : Nat) (e : Int) (h : Inv l)
    (hocc : l.occ = true) (hleg : Legal l.occ batchMax bs) (he : e ≠ -1) :
    ((run l bs).filter (fun pr => isAck pr.2 && decide (pr.1.expected = e))).length ≤ 1 := by
  rw [hocc] at hleg
  rw [(run_eq batchMax bs l h hocc hleg).1, List.filter_map, List.length_map]
  have := Occ.at_most_one bs.flatten e he l h hocc
  have hf : ((fun pr : Msg × Answer => isAck pr.2 && decide (pr.1.expected = e)) ∘
      (fun pr : Msg × Res Int => (pr.1, answerOf pr.2))) = Occ.winner e := by
    funext pr
    simp [Function.comp, Occ.winner, isAck_answerOf]
  rw [hf]
  exact this

/-- Non-vacuity and the reason for the forced batch size: three racers for offset 0 plus an
unconditional publish, processed one at a time — one racer and the unconditional publish are
acknowledged, the other racers get the error. -/
example : (run (CLog.init 100 true)
    [[{ ts := 1, epoch := 1, body := ⟨none, some [1], []⟩, expected := 0 }],
     [{ ts := 2, epoch := 1, body := ⟨none, some [2], []⟩, expected := 0 }],
     [{ ts := 3, epoch := 1, body := ⟨none, some [3], []⟩, expected := -1 }],
     [{ ts := 4, epoch := 1, body := ⟨none, some [4], []⟩, expected := 0 }]]).map (·.2)
    = [.ack 0, .nack "incorrect-offset", .ack 1, .nack "incorrect-offset"] := by decide

/-- The same arrival order cut into ONE batch is not a legal cut on a log with concurrency
control … -/
example : legalBatch true 1024
    [{ ts := 3, epoch := 1, body := ⟨none, some [3], []⟩, expected := -1 },
     { ts := 4, epoch := 1, body := ⟨none, some [4], []⟩, expected := 7 }] = false := by decide

/-- … and if the loop formed it, `Append` would refuse it outright and nobody would be answered:
not even the publish that waives the check. -/
example : (run (CLog.init 100 true)
    [[{ ts := 3, epoch := 1, body := ⟨none, some [3], []⟩, expected := -1 },
      { ts := 4, epoch := 1, body := ⟨none, some [4], []⟩, expected := 7 }]]).map (·.2)
    = [.silent, .silent] := by decide

end Liftbridge.Props.C16Seq
