/-
C06 at the level of the function bodies: `Server.apply` (server/fsm.go) and the `apply…` functions it
dispatches to, translated from the code.

`Gen/GoFSM.lean` is regenerated on every run. The metadata store and the activity manager are external
calls (recorded with their arguments). For every operation code and every log entry of that kind: exactly
ONE call into the metadata store, the one the model's transition function takes for that operation, with the
fields of the entry as arguments and - for the operations that carry an epoch - the Raft INDEX of the entry
as the epoch; a failing metadata call makes `apply` return an error; an unknown operation code is an error
without any call. CreateStream first stamps every partition of the stream with the index (leader epoch and
epoch): the loop over the pointer slice is translated as `setFieldsAll` (the extractor checks in
internal.pb.go that `Stream.Partitions` is a slice of pointers).
-/
import Liftbridge.Proofs.GoCodeBase
import Liftbridge.Gen.GoFSM

namespace Liftbridge.Props.GoFSM
open Liftbridge Liftbridge.GoMini Liftbridge.GoCode
open Liftbridge.Gen.GoFSM

theorem translation_complete : unsupported = [] := rfl

/-- the operation codes: distinct values (which ones is irrelevant to the dispatch) -/
def globals : List (String × Val) :=
  [("proto.Op_CREATE_STREAM", .int 0), ("proto.Op_SHRINK_ISR", .int 1), ("proto.Op_CHANGE_LEADER", .int 2), ("proto.Op_EXPAND_ISR", .int 3),
   ("proto.Op_DELETE_STREAM", .int 4), ("proto.Op_PAUSE_STREAM", .int 5), ("proto.Op_RESUME_STREAM", .int 6), ("proto.Op_SET_STREAM_READONLY", .int 7),
   ("proto.Op_PUBLISH_ACTIVITY", .int 8), ("proto.Op_CREATE_CONSUMER_GROUP", .int 9), ("proto.Op_JOIN_CONSUMER_GROUP", .int 10),
   ("proto.Op_LEAVE_CONSUMER_GROUP", .int 11), ("proto.Op_CHANGE_CONSUMER_GROUP_COORDINATOR", .int 12), ("ErrStreamNotFound", .str "stream not found")]

/-- the metadata store: every operation answers `e` as its error (nil = success) -/
def metaExt (e : Val) : Ext := fun f _ _ =>
  if f = "metadata.AddStream" ∨ f = "metadata.ResumePartition" ∨ f = "metadata.AddConsumerGroup" then some (.tup [.str "object", e])
  else if f = "metadata.RemoveConsumerFromGroup" then some (.tup [.bool false, e])
  else if f = "metadata.GetStream" then some (.struct [("name", .str "the stream")])
  else if f = "metadata.RemoveFromISR" ∨ f = "metadata.AddToISR" ∨ f = "metadata.ChangeLeader" ∨ f = "metadata.RemoveStream" ∨
    f = "metadata.PausePartitions" ∨ f = "metadata.SetReadonly" ∨ f = "metadata.AddConsumerToGroup" ∨ f = "metadata.ChangeGroupCoordinator" then some e
  else none

def server : Val := .struct [("metadata", .struct [("kind", .str "metadata")]), ("activity", .struct [("kind", .str "activity")])]

def entry (op : Int) (field : String) (body : List (String × Val)) : Val := .struct [("Op", .int op), (field, .struct body)]

/-- (did apply return a nil error?, the external calls with their arguments) -/
def view : R Out → Option (Bool × List (String × List Val))
  | .ok o => some (match o.rets with | [_, e] => isNil e | _ => false, o.eff)
  | _ => none

def errOf : Option String → Val
  | some m => .str m
  | none => .nil

def applySwitch : List Stmt := match fn_Server_apply.body with
  | .ite _ _ t _ :: _ => t
  | _ => []

/-- the cases of `switch log.Op`, in the order of the source, with the values `globals` gives the labels -/
def applyLabels : List Int := [0, 1, 2, 3, 4, 5, 7, 6, 9, 10, 11, 12, 8]
def applyCases : List (Expr × Int × List Stmt) := switchCases applyLabels applySwitch
def applyDefault : List Stmt := switchDefault applyLabels applySwitch

theorem apply_body : fn_Server_apply.body =
    [.ite [] (.bool true) (switchOn (.sel (.var "log") "Op") applyCases applyDefault) [], .ret [.nil, .nil]] := rfl

def init (op : Int) (field : String) (body : List (String × Val)) (index : Int) (recovered : Bool) : St :=
  { env := envOf ([("s", server), ("log", entry op field body), ("index", .int index), ("recovered", .bool recovered)] ++ globals), eff := [] }

theorem apply_labels (ext : Ext) (op : Int) (field : String) (body : List (String × Val)) (index : Int) (recovered : Bool) :
    ∀ c ∈ applyCases, ∀ cb m, evalE prog ext cb (m + 2) c.1 (init op field body index recovered)
      = .ok (.int c.2.1, init op field body index recovered) := by
  -- `simp` decides an equation between string literals at once; evaluating it (`rfl`) costs twenty times as much
  simp [applyCases, applyLabels, applySwitch, fn_Server_apply, switchCases, init, globals, gomini]

theorem apply_run (ext : Ext) (op : Int) (field : String) (body : List (String × Val)) (index : Int) (recovered : Bool) :
    runG prog ext 60 "apply" (some server) [entry op field body, .int index, .bool recovered] globals =
      Out.of (some "s") (andThen (switchRun prog ext op (init op field body index recovered) applyCases applyDefault 59)
        (runBlock (exec prog ext 60) [.ret [.nil, .nil]])) := by
  rw [runG_eq (r := some "s") (ps := ["log", "index", "recovered"]) (body := fn_Server_apply.body) rfl rfl, apply_body,
    runBlock_cons_andThen, exec_ite_eq (b := true) rfl rfl]
  exact congrArg (fun r => Out.of (some "s") (andThen r _))
    (runBlock_switchOn (fun _ _ => rfl) applyCases (apply_labels ext op field body index recovered) 43)

/-- ShrinkISR: RemoveFromISR(stream, replica, partition, epoch = Raft index) -/
theorem go_apply_shrink (stream : String) (replica : String) (part : Int) (index : Int) (recovered : Bool) (fail : Option String) :
    view (runG prog (metaExt (errOf fail)) 60 "apply" (some server)
      [entry 1 "ShrinkISROp" [("Stream", .str stream), ("ReplicaToRemove", .str replica), ("Partition", .int part)], .int index, .bool recovered] globals)
      = some (fail.isNone, [("metadata.RemoveFromISR", [.str stream, .str replica, .int part, .int index])]) := by
  rw [apply_run]
  cases fail <;> rfl

/-- ChangeLeader(stream, leader, partition, epoch = Raft index) -/
theorem go_apply_changeLeader (stream : String) (leader : String) (part : Int) (index : Int) (recovered : Bool) (fail : Option String) :
    view (runG prog (metaExt (errOf fail)) 60 "apply" (some server)
      [entry 2 "ChangeLeaderOp" [("Stream", .str stream), ("Leader", .str leader), ("Partition", .int part)], .int index, .bool recovered] globals)
      = some (fail.isNone, [("metadata.ChangeLeader", [.str stream, .str leader, .int part, .int index])]) := by
  rw [apply_run]
  cases fail <;> rfl

/-- ExpandISR: AddToISR(stream, replica, partition, epoch = Raft index) -/
theorem go_apply_expand (stream : String) (replica : String) (part : Int) (index : Int) (recovered : Bool) (fail : Option String) :
    view (runG prog (metaExt (errOf fail)) 60 "apply" (some server)
      [entry 3 "ExpandISROp" [("Stream", .str stream), ("ReplicaToAdd", .str replica), ("Partition", .int part)], .int index, .bool recovered] globals)
      = some (fail.isNone, [("metadata.AddToISR", [.str stream, .str replica, .int part, .int index])]) := by
  rw [apply_run]
  cases fail <;> rfl

/-- DeleteStream: the stream is looked up, then RemoveStream(stream, recovered, epoch = Raft index) -/
theorem go_apply_delete (stream : String) (index : Int) (recovered : Bool) (fail : Option String) :
    view (runG prog (metaExt (errOf fail)) 60 "apply" (some server)
      [entry 4 "DeleteStreamOp" [("Stream", .str stream)], .int index, .bool recovered] globals)
      = some (fail.isNone, [("metadata.GetStream", [.str stream]), ("metadata.RemoveStream", [.struct [("name", .str "the stream")], .bool recovered, .int index])]) := by
  rw [apply_run]
  cases fail <;> rfl

/-- PauseStream: PausePartitions(stream, partitions, resumeAll) -/
theorem go_apply_pause (stream : String) (parts : Val) (flag : Bool) (index : Int) (recovered : Bool) (fail : Option String) :
    view (runG prog (metaExt (errOf fail)) 60 "apply" (some server)
      [entry 5 "PauseStreamOp" [("Stream", .str stream), ("Partitions", parts), ("ResumeAll", .bool flag)], .int index, .bool recovered] globals)
      = some (fail.isNone, [("metadata.PausePartitions", [.str stream, parts, .bool flag])]) := by
  rw [apply_run]
  cases fail <;> rfl

/-- SetStreamReadonly: SetReadonly(stream, partitions, readonly) -/
theorem go_apply_readonly (stream : String) (parts : Val) (flag : Bool) (index : Int) (recovered : Bool) (fail : Option String) :
    view (runG prog (metaExt (errOf fail)) 60 "apply" (some server)
      [entry 7 "SetStreamReadonlyOp" [("Stream", .str stream), ("Partitions", parts), ("Readonly", .bool flag)], .int index, .bool recovered] globals)
      = some (fail.isNone, [("metadata.SetReadonly", [.str stream, parts, .bool flag])]) := by
  rw [apply_run]
  cases fail <;> rfl

/-- CreateConsumerGroup: AddConsumerGroup(group, recovered) -/
theorem go_apply_createGroup (group : Val) (index : Int) (recovered : Bool) (fail : Option String) :
    view (runG prog (metaExt (errOf fail)) 60 "apply" (some server)
      [entry 9 "CreateConsumerGroupOp" [("ConsumerGroup", group)], .int index, .bool recovered] globals)
      = some (fail.isNone, [("metadata.AddConsumerGroup", [group, .bool recovered])]) := by
  rw [apply_run]
  cases fail <;> rfl

/-- JoinConsumerGroup: AddConsumerToGroup(group, consumer, streams, epoch = Raft index) -/
theorem go_apply_join (g : String) (c : String) (streams : Val) (index : Int) (recovered : Bool) (fail : Option String) :
    view (runG prog (metaExt (errOf fail)) 60 "apply" (some server)
      [entry 10 "JoinConsumerGroupOp" [("GroupId", .str g), ("ConsumerId", .str c), ("Streams", streams)], .int index, .bool recovered] globals)
      = some (fail.isNone, [("metadata.AddConsumerToGroup", [.str g, .str c, streams, .int index])]) := by
  rw [apply_run]
  cases fail <;> rfl

/-- LeaveConsumerGroup: RemoveConsumerFromGroup(group, consumer, epoch = Raft index) -/
theorem go_apply_leave (g : String) (c : String) (index : Int) (recovered : Bool) (fail : Option String) :
    view (runG prog (metaExt (errOf fail)) 60 "apply" (some server)
      [entry 11 "LeaveConsumerGroupOp" [("GroupId", .str g), ("ConsumerId", .str c)], .int index, .bool recovered] globals)
      = some (fail.isNone, [("metadata.RemoveConsumerFromGroup", [.str g, .str c, .int index])]) := by
  rw [apply_run]
  cases fail <;> rfl

/-- ChangeConsumerGroupCoordinator: ChangeGroupCoordinator(group, coordinator, epoch = Raft index) -/
theorem go_apply_changeCoordinator (g : String) (coord : String) (index : Int) (recovered : Bool) (fail : Option String) :
    view (runG prog (metaExt (errOf fail)) 60 "apply" (some server)
      [entry 12 "ChangeConsumerGroupCoordinatorOp" [("GroupId", .str g), ("Coordinator", .str coord)], .int index, .bool recovered] globals)
      = some (fail.isNone, [("metadata.ChangeGroupCoordinator", [.str g, .str coord, .int index])]) := by
  rw [apply_run]
  cases fail <;> rfl

/-- PublishActivity: only the activity manager hears of it (the index that was published), never the metadata store -/
theorem go_apply_publishActivity (raftIndex index : Int) (recovered : Bool) (e : Val) :
    view (runG prog (metaExt e) 60 "apply" (some server)
      [entry 8 "PublishActivityOp" [("RaftIndex", .int raftIndex)], .int index, .bool recovered] globals)
      = some (true, [("activity.SetLastPublishedRaftIndex", [.int raftIndex])]) := by
  rw [apply_run]
  rfl

/-- an operation code outside the table: an error, and nothing is called -/
theorem go_apply_unknown (op : Int) (h : op < 0 ∨ 12 < op) (body : List (String × Val)) (index : Int) (recovered : Bool) (e : Val) :
    view (runG prog (metaExt e) 60 "apply" (some server) [entry op "X" body, .int index, .bool recovered] globals) = some (false, []) := by
  have hop : op ∉ applyCases.map (·.2.1) := by
    show op ∉ applyLabels
    simp only [applyLabels, List.mem_cons, List.not_mem_nil, or_false]
    omega
  rw [apply_run, show (59 : Nat) = 46 + applyCases.length from rfl, switchRun_default applyCases hop 46]
  rfl

/-! ### CreateStream: every partition is stamped with the Raft index, then `AddStream(stream, recovered, index)` -/

theorem setFieldsAll_structs (upd : List (String × Val)) (parts : List (List (String × Val))) :
    setFieldsAll upd (parts.map Val.struct) =
      .ok (parts.map fun fs => Val.struct (upd.foldl (fun acc kv => update kv.1 kv.2 acc) fs)) := by
  induction parts with
  | nil => rfl
  | cons p ps ih => simp [setFieldsAll, ih, bind, R.bind]

/-- a partition record with leader epoch and epoch set to the index -/
def stamp (index : Int) (fs : List (String × Val)) : Val :=
  .struct (update "Epoch" (.int index) (update "LeaderEpoch" (.int index) fs))

theorem go_apply_createStream (name : String) (parts : List (List (String × Val))) (index : Int) (recovered : Bool) (fail : Option String) :
    view (runG prog (metaExt (errOf fail)) 60 "apply" (some server)
      [entry 0 "CreateStreamOp" [("Stream", .struct [("Name", .str name), ("Partitions", .list (parts.map Val.struct))])], .int index, .bool recovered] globals)
      = some (fail.isNone, [("metadata.AddStream",
          [.struct [("Name", .str name), ("Partitions", .list (parts.map (stamp index)))], .bool recovered, .int index])]) := by
  cases fail <;>
    simp [runG, fn_Server_apply, fn_Server_applyCreateStream, prog, gomini, metaExt, errOf, view, server, entry, globals, isNil, binVal, binInt, builtin,
      setFieldsAll_structs, setPath, getField, setField, update, stamp, bind, R.bind]

/-! ### ResumeStream: one `ResumePartition` per partition id, in order -/

def resumeBody : List Stmt :=
  match fn_Server_applyResumeStream.body with
  | (.forRange _ _ _ b) :: _ => b
  | _ => []

def resumeCalls (name : String) (recovered : Bool) (ids : List Int) : List (String × List Val) :=
  ids.map fun id => ("metadata.ResumePartition", [.str name, .int id, .bool recovered])

theorem resume_loop (F : Nat) (hF : 12 ≤ F) (name : String) (recovered : Bool) : ∀ (ids : List Int) (i : Nat) (st : St),
    st.env "s" = some server → st.env "streamName" = some (.str name) → st.env "recovered" = some (.bool recovered) →
    ∃ st', runRange (runBlock (exec prog (metaExt .nil) F) resumeBody) none (some "id") i (ids.map Val.int) st = .ok (.next, st') ∧
      st'.eff = st.eff ++ resumeCalls name recovered ids ∧ st'.env "s" = some server := by
  obtain ⟨n, rfl⟩ : ∃ n, F = n + 12 := ⟨F - 12, by omega⟩
  intro ids
  induction ids with
  | nil => intro i st hs _ _; exact ⟨st, rfl, (List.append_nil _).symm, hs⟩
  | cons id rest ih =>
    intro i st hs hn hr
    rw [← St.Binds.setAll (st := st) (bs := [("s", server), ("streamName", .str name), ("recovered", .bool recovered)])
      ⟨hs, hn, hr, trivial⟩]
    -- one iteration, by computation: the call is logged, `id`, `partition` and `err` are bound, the loop goes on
    obtain ⟨st', h2, e2, k4⟩ := ih (i + 1)
      ((st.setAll [("s", server), ("streamName", .str name), ("recovered", .bool recovered), ("id", .int id),
        ("partition", .str "object"), ("err", .nil)]).log "metadata.ResumePartition" [.str name, .int id, .bool recovered])
      rfl rfl rfl
    exact ⟨st', h2, e2.trans (List.append_assoc _ [_] _), k4⟩

theorem lk_apply : evalE.lookup' "apply" prog = some fn_Server_apply := by simp [prog, evalE.lookup']
theorem lk_applyResume : evalE.lookup' "applyResumeStream" prog = some fn_Server_applyResumeStream := by simp [prog, evalE.lookup']
@[simp] theorem resume_params : fn_Server_applyResumeStream.params = ["streamName", "partitionIDs", "recovered"] := rfl
@[simp] theorem resume_recv : fn_Server_applyResumeStream.recv = some "s" := rfl

/-- the body of `applyResumeStream` on its parameters -/
theorem resume_run (n : Nat) (name : String) (recovered : Bool) (ids : List Int) (E : List (String × List Val)) :
    ∃ st2, runBlock (exec prog (metaExt .nil) (n + 14)) fn_Server_applyResumeStream.body
        { env := envOf [("s", server), ("streamName", .str name), ("partitionIDs", .list (ids.map Val.int)), ("recovered", .bool recovered)], eff := E }
        = .ok (.ret [.nil], st2) ∧ st2.eff = E ++ resumeCalls name recovered ids ∧ st2.env "s" = some server := by
  obtain ⟨st', h, e, k⟩ := resume_loop (n + 13) (by omega) name recovered ids 0
    { env := envOf [("s", server), ("streamName", .str name), ("partitionIDs", .list (ids.map Val.int)), ("recovered", .bool recovered)], eff := E }
    (by simp [gomini]) (by simp [gomini]) (by simp [gomini])
  refine ⟨st', ?_, e, k⟩
  have hb : fn_Server_applyResumeStream.body = [.forRange none (some "id") (.var "partitionIDs") resumeBody, .ret [.nil]] := rfl
  rw [hb]
  simp [gomini, h]

/-- ResumeStream: `ResumePartition(stream, id, recovered)` for every partition id of the entry, in order, nothing else -/
theorem go_apply_resume (stream : String) (ids : List Int) (index : Int) (recovered : Bool) :
    view (runG prog (metaExt .nil) 60 "apply" (some server)
      [entry 6 "ResumeStreamOp" [("Stream", .str stream), ("Partitions", .list (ids.map Val.int))], .int index, .bool recovered] globals)
      = some (true, resumeCalls stream recovered ids) := by
  obtain ⟨st2, hrun, heff, henv⟩ := resume_run 35 stream recovered ids []
  simp [runG, fn_Server_apply, lk_apply, lk_applyResume, gomini, view, entry, globals, isNil, binVal, binInt, hrun, heff, henv, flowResult]

end Liftbridge.Props.GoFSM
