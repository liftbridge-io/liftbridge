/-
C08 at the level of the function body: `compactCleaner.cleanSegment` (server/commitlog/compact_cleaner.go),
translated from the code, keeps exactly what the model's `Compact.retain` keeps - for every segment content.

The segment scanner, the key table (`sync.Map` filled by
`scanKeys`), the new segment and the epoch cache being rebuilt are external objects: the scanner hands out the
messages of an arbitrary list `recs` one after the other (its answer depends on how often it was asked - the
`Ext` table sees the trace), `Load` answers from an arbitrary table `latest`, the cache's last epoch is what was
assigned last. Everything they are asked is recorded.

* `body_pass`: one pass of the loop body writes the message to the new segment exactly when
  `key == nil || offset == latestOffset || offset >= hw` (`keepP`; `latestOffset` is 0 for a key that was never
  scanned) and then assigns its epoch iff it is newer than the cache's last one; otherwise `removed` grows by one
  and nothing is written.
* `scan_loop`, `go_cleanSegment`: for EVERY list of messages (three-clause `for` over the scanner; fuel is a lower
  bound `len + 16`), key table, high watermark and initial epoch: the complete trace is `Cleaned`,
  `newSegmentScanner`, then per message the body's calls and the next `Scan`, then `IsEmpty` and - when nothing
  survived - `cleanupEmptySegment(new, old)`, else `Replace(old)`; the returned count is the number of dropped
  messages; a segment is returned iff something survived.
* `model_retain_formula`: the model's `Compact.retain` (stated through the regenerated comparison operators) is that
  same formula, with `latestFor hw segs` as the table.
(`scanSegments`, which fills the table, ranges over a channel under a label and stays outside the subset; the table is
covered by the model + harness. A single-value type assertion `latest.(*keyOffset)` is translated as the identity.)
-/
import Liftbridge.Proofs.GoCodeBase
import Liftbridge.Gen.GoCompact
import Liftbridge.Model.Compact

namespace Liftbridge.Props.GoCompact
open Liftbridge Liftbridge.GoMini Liftbridge.GoCode
open Liftbridge.Gen.GoCompact

theorem translation_complete : unsupported = [] := rfl

theorem binVal_eq_nil_nil : binVal "==" Val.nil Val.nil = .ok (.bool true) := GoMini.binVal_nil_nil "=="
theorem binVal_int (op : String) (a b : Int) : binVal op (Val.int a) (Val.int b) = binInt op a b := GoMini.binVal_int op a b

/-- a stored message as the scanner hands it out: offset, key (nil or a byte string), leader epoch -/
structure CRec where
  offset : Int
  key : Option String
  epoch : Int

def keyVal : Option String → Val
  | none => .nil
  | some k => .str k

def encMs (r : CRec) : Val :=
  .struct [("Offset", .int r.offset), ("Message", .struct [("Key", keyVal r.key)]), ("LeaderEpoch", .int r.epoch)]

/-- the retain test, with the key table as a function -/
def keepP (latest : String → Option Int) (hw : Int) (r : CRec) : Bool :=
  match r.key with
  | none => true
  | some k => decide (r.offset = (latest k).getD 0) || decide (r.offset ≥ hw)

/-- the body of the scan loop of `cleanSegment` -/
def loopBody : List Stmt :=
  match fn_compactCleaner_cleanSegment.body with
  | _ :: _ :: _ :: _ :: _ :: (.forC _ _ _ b) :: _ => b
  | _ => []

/-- the callees of the loop body: the key table, the new segment, the epoch cache being rebuilt -/
def bodyExt (latest : String → Option Int) (lastEpoch : Int) : Ext := fun f args _ =>
  if f = "Load" then (match args with
    | [_, .str k] => (match latest k with
        | some o => some (.tup [.struct [("get", .int o)], .bool true])
        | none => some (.tup [.nil, .bool false]))
    | _ => some (.tup [.nil, .bool false]))
  else if f = "Position" then some (.int 0)
  else if f = "entriesForMessageSet" then some (.str "entries")
  else if f = "LastLeaderEpoch" then some (.int lastEpoch)
  else if f = "WriteMessageSet" ∨ f = "Assign" then some .nil
  else none

theorem lk_none (f : String) (h : f ≠ "cleanSegment") : evalE.lookup' f prog = none := by
  simp [prog, evalE.lookup', h]

theorem builtin_cleanupEmptySegment (fs : List (String × Val)) (rest : List Val) :
    builtin "cleanupEmptySegment" (.struct fs :: rest) = none := by simp [builtin]

/-- the last leader epoch the cache being rebuilt holds: the epoch of the last `Assign` so far, `e0` before any -/
def lastEpochIn (e0 : Int) (eff : List (String × List Val)) : Int :=
  eff.foldl (fun acc e => if e.1 = "Assign" then (match e.2 with | [.int ep, _] => ep | _ => acc) else acc) e0

theorem lastEpochIn_append (e0 : Int) (a b : List (String × List Val)) :
    lastEpochIn e0 (a ++ b) = lastEpochIn (lastEpochIn e0 a) b :=
  List.foldl_append

theorem lastEpochIn_nil (e0 : Int) : lastEpochIn e0 [] = e0 := rfl
theorem lastEpochIn_cons (e0 : Int) (x : String × List Val) (xs : List (String × List Val)) :
    lastEpochIn e0 (x :: xs) =
      lastEpochIn (if x.1 = "Assign" then (match x.2 with | [.int ep, _] => ep | _ => e0) else e0) xs := rfl

/-- number of `Scan` calls so far = index of the next message the scanner hands out -/
def scans (eff : List (String × List Val)) : Nat := eff.countP (fun e => e.1 == "Scan")

/-- the callees of `cleanSegment`: the scanner walks `recs`, the key table is `latest`, the epoch cache being rebuilt
starts with last epoch `e0` and remembers what is assigned to it -/
def fullExt (recs : List CRec) (latest : String → Option Int) (e0 : Int) : Ext := fun f args eff =>
  if f = "Scan" then (match recs[scans eff]? with
    | some r => some (.tup [encMs r, .nil, .nil])
    | none => some (.tup [.nil, .nil, .str "EOF"]))
  else if f = "LastLeaderEpoch" then some (.int (lastEpochIn e0 eff))
  else if f = "Cleaned" then some (.tup [.struct [("kind", .str "cleaned")], .nil])
  else if f = "newSegmentScanner" then some (.struct [("kind", .str "scanner")])
  else if f = "IsEmpty" then some (.bool (eff.all fun e => e.1 != "WriteMessageSet"))
  else if f = "Replace" ∨ f = "cleanupEmptySegment" then some .nil
  else bodyExt latest 0 f args eff

/-- what one pass of the loop body does to the effect trace when the message is KEPT -/
def keptEvents (r : CRec) (lastEpoch : Int) : List (String × List Val) :=
  [("Load", [keyVal r.key]), ("Position", []), ("entriesForMessageSet", [.int 0, encMs r]),
   ("WriteMessageSet", [encMs r, .str "entries"]), ("LastLeaderEpoch", [])] ++
  (if lastEpoch < r.epoch then [("Assign", [.int r.epoch, .int r.offset])] else [])

def segV : Val := .struct [("kind", .str "segment")]
def cleanerV : Val := .struct [("kind", .str "cleaner")]
def cleanedV : Val := .struct [("kind", .str "cleaned")]
def keysV : Val := .struct [("kind", .str "keys")]
def epochsV : Val := .struct [("kind", .str "epochs")]

/-! One pass of the loop body: six statements read the message and ask the key table; then comes the retain test and, for a
message that is kept, after it has been written, the test of its epoch against the cache's. Between these points the body
runs by computation. -/

def keepTest : Expr := match loopBody with | [_, _, _, _, _, _, .ite _ c _ _] => c | _ => .nil
def keptB : List Stmt := match loopBody with | [_, _, _, _, _, _, .ite _ _ t _] => t | _ => []
def epochTest : Expr := match keptB with | [_, _, .ite _ c _ _] => c | _ => .nil
def assignB : List Stmt := match keptB with | [_, _, .ite _ _ t _] => t | _ => []

def bodyVars (r : CRec) (hw n : Int) : List (String × Val) :=
  [("ms", encMs r), ("keyOffsets", keysV), ("hw", .int hw), ("cleaned", cleanedV), ("epochCache", epochsV), ("removed", .int n)]

def testVars (r : CRec) (lo hw n : Int) : List (String × Val) :=
  [("ms", encMs r), ("key", keyVal r.key), ("offset", .int r.offset), ("latestOffset", .int lo), ("leaderEpoch", .int r.epoch),
    ("hw", .int hw), ("cleaned", cleanedV), ("epochCache", epochsV), ("removed", .int n)]

/-- `E` is the trace before the pass -/
theorem body_from_test (m : Nat) (recs : List CRec) (latest : String → Option Int) (e0 lastEpoch hw lo n : Int) (r : CRec) (st : St)
    (E : List (String × List Val)) (heff : st.eff = E ++ [("Load", [keyVal r.key])]) (hle : lastEpochIn e0 E = lastEpoch)
    (h : st.Binds (testVars r lo hw n)) :
    ∃ st', runBlock (exec prog (fullExt recs latest e0) (m + 12)) (loopBody.drop 6) st = .ok (.next, st') ∧
      (if r.key.isNone || decide (r.offset = lo) || decide (r.offset ≥ hw)
       then st'.eff = E ++ keptEvents r lastEpoch ∧ st'.env "removed" = some (.int n)
       else st'.eff = st.eff ∧ st'.env "removed" = some (.int (n + 1))) ∧
      (∀ y, y ≠ "removed" → y ≠ "entries" → y ≠ "err·2" → y ≠ "err·3" → st'.env y = st.env y) := by
  obtain ⟨off, key, ep⟩ := r
  rw [← h.setAll]
  have hc : evalE prog (fullExt recs latest e0) (runBlock (exec prog (fullExt recs latest e0) (m + 11))) (m + 11) keepTest
        (st.setAll (testVars ⟨off, key, ep⟩ lo hw n)) =
      .ok (.bool (key.isNone || decide (off = lo) || decide (off ≥ hw)), st.setAll (testVars ⟨off, key, ep⟩ lo hw n)) := by
    cases key with
    | none => rfl
    | some k => exact evalE_or_known (evalE_or_known rfl rfl) rfl
  rw [show loopBody.drop 6 = [.ite [] keepTest keptB [.opAssign "+" (.var "removed") (.int 1)]] from rfl, runBlock_single,
    exec_ite_eq rfl hc]
  cases key.isNone || decide (off = lo) || decide (off ≥ hw) <;> simp only [↓reduceIte, Bool.false_eq_true]
  · exact ⟨(st.setAll (testVars ⟨off, key, ep⟩ lo hw n)).set "removed" (.int (n + 1)), rfl, ⟨rfl, rfl⟩,
      fun y h1 _ _ _ => by simp [gomini, h1]⟩
  · -- kept: the message is written, then the cache is asked for its last epoch
    let st2 : St := ((((st.setAll (testVars ⟨off, key, ep⟩ lo hw n)).setAll [("entries", .str "entries"), ("err·2", .nil)]).log "Position" []).log
      "entriesForMessageSet" [.int 0, encMs ⟨off, key, ep⟩]).log "WriteMessageSet" [encMs ⟨off, key, ep⟩, .str "entries"]
    have h2 : runBlock (exec prog (fullExt recs latest e0) (m + 11)) (keptB.take 2) (st.setAll (testVars ⟨off, key, ep⟩ lo hw n)) =
        .ok (.next, st2) := rfl
    have hc2 : evalE prog (fullExt recs latest e0) (runBlock (exec prog (fullExt recs latest e0) (m + 10))) (m + 10) epochTest st2 =
        .ok (.bool (decide (lastEpochIn e0 st2.eff < ep)), st2.log "LastLeaderEpoch" []) := rfl
    have hle2 : lastEpochIn e0 st2.eff = lastEpoch := by
      show lastEpochIn e0 (st.eff ++ [_] ++ [_] ++ [_]) = _
      rw [heff, List.append_assoc, List.append_assoc, List.append_assoc, lastEpochIn_append, hle]; rfl
    rw [runBlock_take 2 h2, show keptB.drop 2 = [.ite [] epochTest assignB []] from rfl, runBlock_single, exec_ite_eq rfl hc2, hle2]
    by_cases he : lastEpoch < ep
    · rw [decide_eq_true he]
      refine ⟨((st2.log "LastLeaderEpoch" []).log "Assign" [.int ep, .int off]).set "err·3" .nil, rfl, ⟨?_, rfl⟩,
        fun y _ h2 h3 h4 => by simp [st2, gomini, St.setAll, h2, h3, h4]⟩
      show st.eff ++ [_] ++ [_] ++ [_] ++ [_] ++ [_] = _
      simp [heff, keptEvents, he]
    · rw [decide_eq_false he]
      refine ⟨st2.log "LastLeaderEpoch" [], rfl, ⟨?_, rfl⟩, fun y _ h2 h3 _ => by simp [st2, gomini, St.setAll, h2, h3]⟩
      show st.eff ++ [_] ++ [_] ++ [_] ++ [_] = _
      simp [heff, keptEvents, he]

/-- ONE pass of the loop body, for every message, key table, high watermark and state of the epoch cache: the message is
written to the new segment exactly when `keepP` holds (and then its epoch is assigned iff it is newer than the cache's
last one); otherwise nothing is written and `removed` grows by one -/
theorem body_pass (F : Nat) (hF : 12 ≤ F) (recs : List CRec) (latest : String → Option Int) (e0 lastEpoch hw : Int) (r : CRec) (n : Int) (st : St)
    (hle : lastEpochIn e0 st.eff = lastEpoch)
    (hms : st.env "ms" = some (encMs r)) (hko : st.env "keyOffsets" = some (.struct [("kind", .str "keys")]))
    (hhw : st.env "hw" = some (.int hw)) (hcl : st.env "cleaned" = some (.struct [("kind", .str "cleaned")]))
    (hec : st.env "epochCache" = some (.struct [("kind", .str "epochs")])) (hrm : st.env "removed" = some (.int n)) :
    ∃ st', runBlock (exec prog (fullExt recs latest e0) F) loopBody st = .ok (.next, st') ∧
      (if keepP latest hw r then st'.eff = st.eff ++ keptEvents r lastEpoch ∧ st'.env "removed" = some (.int n)
       else st'.eff = st.eff ++ [("Load", [keyVal r.key])] ∧ st'.env "removed" = some (.int (n + 1))) ∧
      (∀ y, (y = "keyOffsets" ∨ y = "hw" ∨ y = "cleaned" ∨ y = "epochCache" ∨ y = "ss" ∨ y = "seg" ∨ y = "c") → st'.env y = st.env y) := by
  obtain ⟨m, rfl⟩ : ∃ m, F = m + 12 := ⟨F - 12, by omega⟩
  rw [← St.Binds.setAll (st := st) (bs := bodyVars r hw n) ⟨hms, hko, hhw, hcl, hec, hrm, trivial⟩]
  obtain ⟨off, key, ep⟩ := r
  -- up to the retain test: the fields of the message, the key table's answer, `latestOffset` (0 unless the table has the key)
  obtain ⟨st1, lo, h1, hk, e1, b1, f1⟩ : ∃ st1 lo,
      runBlock (exec prog (fullExt recs latest e0) (m + 12)) (loopBody.take 6) (st.setAll (bodyVars ⟨off, key, ep⟩ hw n)) = .ok (.next, st1) ∧
      keepP latest hw ⟨off, key, ep⟩ = (key.isNone || decide (off = lo) || decide (off ≥ hw)) ∧
      st1.eff = st.eff ++ [("Load", [keyVal key])] ∧ st1.Binds (testVars ⟨off, key, ep⟩ lo hw n) ∧
      (∀ y, y ≠ "offset" → y ≠ "key" → y ≠ "leaderEpoch" → y ≠ "latest" → y ≠ "ok" → y ≠ "latestOffset" →
        st1.env y = (st.setAll (bodyVars ⟨off, key, ep⟩ hw n)).env y) := by
    cases key with
    | none =>
      refine ⟨((st.setAll (bodyVars ⟨off, none, ep⟩ hw n)).setAll [("offset", .int off), ("key", .nil), ("leaderEpoch", .int ep),
        ("latest", .nil), ("ok", .bool false), ("latestOffset", .int 0)]).log "Load" [.nil], 0, ?_, rfl, rfl,
        ⟨rfl, rfl, rfl, rfl, rfl, rfl, rfl, rfl, rfl, trivial⟩,
        fun y h1 h2 h3 h4 h5 h6 => by simp [gomini, St.setAll, h1, h2, h3, h4, h5, h6]⟩
      rfl
    | some k =>
      -- what the table answers depends on the key, which is symbolic: this stretch runs by rewriting
      cases hl : latest k with
      | none =>
        refine ⟨((st.setAll (bodyVars ⟨off, some k, ep⟩ hw n)).setAll [("offset", .int off), ("key", .str k), ("leaderEpoch", .int ep),
          ("latest", .nil), ("ok", .bool false), ("latestOffset", .int 0)]).log "Load" [.str k], 0, ?_, by simp [keepP, hl], rfl,
          ⟨rfl, rfl, rfl, rfl, rfl, rfl, rfl, rfl, rfl, trivial⟩,
          fun y h1 h2 h3 h4 h5 h6 => by simp [gomini, St.setAll, h1, h2, h3, h4, h5, h6]⟩
        simp [loopBody, fn_compactCleaner_cleanSegment, gomini, St.setAll, bodyVars, encMs, keyVal, keysV, bodyExt,
          fullExt, lk_none, hl]
        rfl
      | some o =>
        refine ⟨((st.setAll (bodyVars ⟨off, some k, ep⟩ hw n)).setAll [("offset", .int off), ("key", .str k), ("leaderEpoch", .int ep),
          ("latest", .struct [("get", .int o)]), ("ok", .bool true), ("latestOffset", .int 0), ("latestOffset", .int o)]).log "Load" [.str k],
          o, ?_, by simp [keepP, hl], rfl, ⟨rfl, rfl, rfl, rfl, rfl, rfl, rfl, rfl, rfl, trivial⟩,
          fun y h1 h2 h3 h4 h5 h6 => by simp [gomini, St.setAll, h1, h2, h3, h4, h5, h6]⟩
        simp [loopBody, fn_compactCleaner_cleanSegment, gomini, St.setAll, bodyVars, encMs, keyVal, keysV, bodyExt,
          fullExt, lk_none, hl]
        rfl
  obtain ⟨st', h2, hp, f2⟩ := body_from_test m recs latest e0 lastEpoch hw lo n ⟨off, key, ep⟩ st1 st.eff e1 hle b1
  refine ⟨st', by rw [runBlock_take 6 h1, h2], ?_, fun y hy => ?_⟩
  · rw [hk]
    rw [e1] at hp
    exact hp
  · rw [f2 y, f1 y] <;> rintro rfl <;> simp at hy

/-! ### the whole scan loop -/

def postB : List Stmt := match fn_compactCleaner_cleanSegment.body with
  | _ :: _ :: _ :: _ :: _ :: (.forC _ _ p _) :: _ => p
  | _ => []
def condE : Expr := match fn_compactCleaner_cleanSegment.body with
  | _ :: _ :: _ :: _ :: _ :: (.forC _ (some c) _ _) :: _ => c
  | _ => .nil

/-- messages the loop drops -/
def dropped (latest : String → Option Int) (hw : Int) : List CRec → Int
  | [] => 0
  | r :: rest => (if keepP latest hw r then 0 else 1) + dropped latest hw rest

/-- the cache's last epoch after a message went through the body -/
def nextEpoch (latest : String → Option Int) (hw : Int) (r : CRec) (le : Int) : Int :=
  if keepP latest hw r ∧ le < r.epoch then r.epoch else le

/-- the external calls of the loop from its head on: per message the body's calls, then the scanner is asked again -/
def loopEvents (latest : String → Option Int) (hw : Int) : List CRec → Int → List (String × List Val)
  | [], _ => []
  | r :: rest, le =>
    (if keepP latest hw r then keptEvents r le else [("Load", [keyVal r.key])]) ++ [("Scan", [])] ++
      loopEvents latest hw rest (nextEpoch latest hw r le)

theorem scans_append (a b : List (String × List Val)) : scans (a ++ b) = scans a + scans b :=
  List.countP_append

theorem body_events (latest : String → Option Int) (hw : Int) (r : CRec) (le : Int) :
    scans (if keepP latest hw r then keptEvents r le else [("Load", [keyVal r.key])]) = 0 ∧
    lastEpochIn le ((if keepP latest hw r then keptEvents r le else [("Load", [keyVal r.key])]) ++ [("Scan", [])]) =
      nextEpoch latest hw r le := by
  unfold nextEpoch keptEvents
  cases keepP latest hw r <;> simp only [Bool.false_eq_true, ↓reduceIte, false_and, true_and]
  · exact ⟨rfl, rfl⟩
  · by_cases he : le < r.epoch <;> simp only [he, ↓reduceIte] <;> exact ⟨rfl, rfl⟩

/-- what the state at the head of the loop looks like when `suf` is still to be scanned -/
structure Head (st : St) (suf : List CRec) (n hw : Int) : Prop where
  err : st.env "err·1" = some (match suf with | [] => Val.str "EOF" | _ :: _ => Val.nil)
  ms : st.env "ms" = some (match suf with | r :: _ => encMs r | [] => Val.nil)
  ko : st.env "keyOffsets" = some (.struct [("kind", .str "keys")])
  hw' : st.env "hw" = some (.int hw)
  cl : st.env "cleaned" = some (.struct [("kind", .str "cleaned")])
  ec : st.env "epochCache" = some (.struct [("kind", .str "epochs")])
  ss : st.env "ss" = some (.struct [("kind", .str "scanner")])
  rm : st.env "removed" = some (.int n)

/-- the init and the post statement of the loop: the scanner hands out `recs[i]` at its `i`-th call, EOF after the last one -/
theorem scan_step (m : Nat) (recs : List CRec) (latest : String → Option Int) (e0 : Int) (st : St) (o : Option CRec)
    (ho : recs[scans st.eff]? = o) (hss : st.env "ss" = some (.struct [("kind", .str "scanner")])) :
    ∃ st', runBlock (exec prog (fullExt recs latest e0) (m + 3)) postB st = .ok (.next, st') ∧ st'.eff = st.eff ++ [("Scan", [])] ∧
      st'.env "ms" = some (match (generalizing := false) o with | some r => encMs r | none => .nil) ∧
      st'.env "err·1" = some (match (generalizing := false) o with | some _ => .nil | none => .str "EOF") ∧
      ∀ y, y ≠ "ms" → y ≠ "err·1" → st'.env y = st.env y := by
  cases o with
  | none =>
    refine ⟨((st.set "ms" .nil).set "err·1" (.str "EOF")).log "Scan" [], ?_, rfl, rfl, rfl, fun y h1 h2 => by simp [gomini, h1, h2]⟩
    simp [postB, fn_compactCleaner_cleanSegment, gomini, hss, fullExt, ho, lk_none]
    rfl
  | some r =>
    refine ⟨((st.set "ms" (encMs r)).set "err·1" .nil).log "Scan" [], ?_, rfl, rfl, rfl, fun y h1 h2 => by simp [gomini, h1, h2]⟩
    simp [postB, fn_compactCleaner_cleanSegment, gomini, hss, fullExt, ho, lk_none]
    rfl

theorem scan_loop (m : Nat) (hm : 12 ≤ m) (recs : List CRec) (latest : String → Option Int) (e0 hw : Int) :
    ∀ (suf pre : List CRec) (iters : Nat) (st : St) (n : Int), recs = pre ++ suf → suf.length + 1 ≤ iters →
      scans st.eff = pre.length + 1 → Head st suf n hw →
      ∃ st', runFor (forCond prog (fullExt recs latest e0) m condE) (runBlock (exec prog (fullExt recs latest e0) m) loopBody)
            (runBlock (exec prog (fullExt recs latest e0) m) postB) iters st = .ok (.next, st') ∧
        st'.eff = st.eff ++ loopEvents latest hw suf (lastEpochIn e0 st.eff) ∧
        st'.env "removed" = some (.int (n + dropped latest hw suf)) ∧
        (∀ y, (y = "cleaned" ∨ y = "seg" ∨ y = "c") → st'.env y = st.env y) := by
  obtain ⟨m', rfl⟩ : ∃ m', m = m' + 12 := ⟨m - 12, by omega⟩
  intro suf
  induction suf with
  | nil =>
    intro pre iters st n _ hit _ hd
    obtain ⟨k, rfl⟩ : ∃ k, iters = k + 1 := ⟨iters - 1, by omega⟩
    refine ⟨st, runFor_exit (forCond_known ?_), (List.append_nil _).symm, by rw [hd.rm]; simp [dropped], fun _ _ => rfl⟩
    rw [← St.Binds.setAll (st := st) (bs := [("err·1", .str "EOF")]) ⟨hd.err, trivial⟩]
    rfl
  | cons r rest ih =>
    intro pre iters st n hrecs hit hsc hd
    obtain ⟨k, rfl⟩ : ∃ k, iters = k + 1 := ⟨iters - 1, by omega⟩
    have hcond : forCond prog (fullExt recs latest e0) (m' + 12) condE st = .ok (true, st) := by
      rw [← St.Binds.setAll (st := st) (bs := [("err·1", .nil)]) ⟨hd.err, trivial⟩]
      exact forCond_known rfl
    -- the body; what it did, in one form for both outcomes
    obtain ⟨st2, hb, hprop, f2⟩ := body_pass (m' + 12) (by omega) recs latest e0 _ hw r n st rfl hd.ms hd.ko hd.hw' hd.cl hd.ec hd.rm
    obtain ⟨e2, r2⟩ : st2.eff = st.eff ++ (if keepP latest hw r then keptEvents r (lastEpochIn e0 st.eff) else [("Load", [keyVal r.key])]) ∧
        st2.env "removed" = some (.int (n + if keepP latest hw r then 0 else 1)) := by
      cases hk : keepP latest hw r <;> simpa [hk] using hprop
    obtain ⟨b1, b2⟩ := body_events latest hw r (lastEpochIn e0 st.eff)
    -- the post statement: the scanner hands out the head of `rest`
    have hget : recs[scans st2.eff]? = rest.head? := by
      rw [e2, scans_append, b1, hsc, hrecs, List.getElem?_append_right (by omega)]
      cases rest <;> simp
    obtain ⟨st3, hp, e3, ms3, err3, f3⟩ := scan_step (m' + 9) recs latest e0 st2 _ hget ((f2 "ss" (by simp)).trans hd.ss)
    have f23 : ∀ y, (y = "keyOffsets" ∨ y = "hw" ∨ y = "cleaned" ∨ y = "epochCache" ∨ y = "ss" ∨ y = "seg" ∨ y = "c") → st3.env y = st.env y :=
      fun y hy => (f3 y (by rcases hy with rfl | rfl | rfl | rfl | rfl | rfl | rfl <;> decide)
        (by rcases hy with rfl | rfl | rfl | rfl | rfl | rfl | rfl <;> decide)).trans (f2 y hy)
    have hd3 : Head st3 rest (n + if keepP latest hw r then 0 else 1) hw :=
      ⟨err3.trans (by cases rest <;> rfl), ms3.trans (by cases rest <;> rfl),
       (f23 _ (by simp)).trans hd.ko, (f23 _ (by simp)).trans hd.hw', (f23 _ (by simp)).trans hd.cl, (f23 _ (by simp)).trans hd.ec,
       (f23 _ (by simp)).trans hd.ss, (f3 _ (by decide) (by decide)).trans r2⟩
    obtain ⟨st', hrun, heff', hrm', f'⟩ := ih (pre ++ [r]) k st3 _ (by simp [hrecs]) (by simp at hit ⊢; omega)
      (by rw [e3, e2, scans_append, scans_append, b1, hsc]; simp [scans]) hd3
    refine ⟨st', (runFor_step hcond hb hp).trans hrun, ?_, ?_, fun y hy => (f' y hy).trans (f23 y (by rcases hy with rfl | rfl | rfl <;> simp))⟩
    · have hle3 : lastEpochIn e0 st3.eff = nextEpoch latest hw r (lastEpochIn e0 st.eff) := by
        rw [e3, e2, List.append_assoc, lastEpochIn_append, b2]
      rw [heff', hle3, e3, e2]
      simp [loopEvents, List.append_assoc]
    · rw [hrm']; simp only [dropped]; congr 2; omega

/-! ### the whole function -/

/-- no message of the segment survives -/
def noneKept (latest : String → Option Int) (hw : Int) (recs : List CRec) : Bool := recs.all fun r => !keepP latest hw r

theorem no_write_iff (latest : String → Option Int) (hw : Int) : ∀ (recs : List CRec) (le : Int),
    (loopEvents latest hw recs le).all (fun e => e.1 != "WriteMessageSet") = noneKept latest hw recs
  | [], _ => rfl
  | r :: rest, le => by
    have ih := no_write_iff latest hw rest (nextEpoch latest hw r le)
    cases hk : keepP latest hw r
    · simp only [loopEvents, hk, Bool.false_eq_true, ↓reduceIte, List.all_append, ih, noneKept, List.all_cons]; rfl
    · simp [loopEvents, noneKept, hk, keptEvents]

/-- (segment returned?, removed count, error nil?, the complete trace of external calls) -/
def view : R Out → Option (Bool × Val × Bool × List (String × List Val))
  | .ok o => (match o.rets with
      | [seg, removed, e] => some (!isNil seg, removed, isNil e, o.eff)
      | _ => none)
  | _ => none

theorem clean_params : fn_compactCleaner_cleanSegment.params = ["seg", "keyOffsets", "hw", "epochCache"] := rfl
theorem clean_recv : fn_compactCleaner_cleanSegment.recv = some "c" := rfl

/-- `cleanSegment` for EVERY segment content, key table, high watermark and state of the epoch cache being rebuilt: the new
segment receives exactly the messages `keepP` keeps, in order (`loopEvents`: one `WriteMessageSet` per kept message, an
`Assign(epoch, offset)` exactly when the message's epoch is newer than the cache's last one); `removed` is the number of the
others; a segment of which nothing survives is removed together with the empty new one, otherwise it is replaced -/
theorem go_cleanSegment (F : Nat) (recs : List CRec) (hF : recs.length + 16 ≤ F) (latest : String → Option Int) (e0 hw : Int) :
    view (runG prog (fullExt recs latest e0) F "cleanSegment" (some cleanerV) [segV, keysV, .int hw, epochsV] []) =
      some (!noneKept latest hw recs, .int (dropped latest hw recs), true,
        [("Cleaned", []), ("newSegmentScanner", [segV]), ("Scan", [])] ++ loopEvents latest hw recs e0 ++ [("IsEmpty", [])] ++
          (if noneKept latest hw recs then [("cleanupEmptySegment", [cleanedV, segV])] else [("Replace", [segV])])) := by
  obtain ⟨k, rfl⟩ : ∃ k, F = k + 16 := ⟨F - 16, by omega⟩
  rw [runG_eq rfl rfl]
  refine Ends.view ?_
  -- the loop: its init statement is the first `Scan`
  refine Ends.forC_init_at 5 (ce := condE) (post := postB) (lbody := loopBody) rfl rfl
    (scan_step (k + 12) recs latest e0 _ recs.head? (by cases recs <;> rfl) (by rfl)) fun st1 ⟨ei, ms1, err1, fi⟩ => ?_
  refine Ends.andThen (scan_loop (k + 15) (by omega) recs latest e0 hw recs [] (k + 15) st1 0 rfl (by omega) (by rw [ei]; rfl)
    ⟨err1.trans (by cases recs <;> rfl), ms1.trans (by cases recs <;> rfl), fi _ (by decide) (by decide), fi _ (by decide) (by decide),
     fi _ (by decide) (by decide), fi _ (by decide) (by decide), fi _ (by decide) (by decide), fi _ (by decide) (by decide)⟩)
    fun st2 ⟨e2, r2, f2⟩ => ?_
  -- the state after the loop
  have heff2 : st2.eff = [("Cleaned", []), ("newSegmentScanner", [segV]), ("Scan", [])] ++ loopEvents latest hw recs e0 := by
    rw [e2, ei]; rfl
  have hempty : (st2.eff.all fun e => e.1 != "WriteMessageSet") = noneKept latest hw recs := by
    rw [heff2, List.all_append, no_write_iff]; rfl
  have hcl2 : st2.env "cleaned" = some cleanedV := (f2 _ (by simp)).trans (fi _ (by decide) (by decide))
  have hsg2 : st2.env "seg" = some segV := (f2 _ (by simp)).trans (fi _ (by decide) (by decide))
  have hrm2 : st2.env "removed" = some (.int (dropped latest hw recs)) := by rw [r2, Int.zero_add]
  -- the new segment is asked whether it is empty
  cases hnk : noneKept latest hw recs <;>
    simp [gomini, hcl2, hsg2, hrm2, fullExt, hempty, hnk, cleanedV, segV, lk_none, builtin_cleanupEmptySegment] <;>
    simp [Out.of, view, heff2, gomini, isNil, segV]

/-- the model's retain test is the same formula (its comparison operators are regenerated from the code) -/
theorem model_retain_formula (hw : Int) (segs : List Log.Seg) (r : Log.Rec) :
    Compact.retain hw segs r = (match r.body.key with
      | none => true
      | some k => decide (r.offset = (Compact.latestFor hw segs k).getD 0) || decide (r.offset ≥ hw)) := by
  unfold Compact.retain
  cases r.body.key <;> simp [Gen.Compact.retainLatestCmp, Gen.Compact.retainHWCmp, Cmp.evalInt]

/-- non-vacuity: a three-message segment (a superseded key, a keyless message, the latest of its key) -/
example : (loopEvents (fun k => if k = "a" then some 2 else none) 10
      [⟨0, some "a", 1⟩, ⟨1, none, 1⟩, ⟨2, some "a", 2⟩] 0).filter (fun e => e.1 = "WriteMessageSet" ∨ e.1 = "Assign") =
    [("WriteMessageSet", [encMs ⟨1, none, 1⟩, .str "entries"]), ("Assign", [.int 1, .int 1]),
     ("WriteMessageSet", [encMs ⟨2, some "a", 2⟩, .str "entries"]), ("Assign", [.int 2, .int 2])] := by
  simp [loopEvents, keepP, keptEvents, nextEpoch, encMs, keyVal]

end Liftbridge.Props.GoCompact
