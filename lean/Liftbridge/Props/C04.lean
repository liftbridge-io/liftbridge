/-
C04 — Acknowledgements mean what the ack policy says.

Model: `Liftbridge/Model/Protocol.lean` (the replication protocol of one partition as the code
is: `publishStep` = one iteration of `messageProcessingLoop`, `commitStep` = one iteration of
`commitLoop`, acks are appended to `State.acks`). Layering (IronFleet style): the theorems below
are about single steps of that model and hold in EVERY state (no reachability needed); they
say what the leader CHECKS before it sends an ack. The property itself (`C04_asStated`) is
about what the replicas really STORE; it is false on the current code (`C04_asStated_false`,
witness found by `Search/Protocol.lean`, replayed on real commit logs by the harness), because
the leader's view `isrOff` is not tied to the replicas' logs across leadership terms
(`isrOff_unsound_across_terms`). `C04_partial` states what does hold: an ALL ack implies every
ISR member stores the message provided the leader's view is exact.
A global induction over reachable states is NOT done (see DESIGN §4 C02 step 4).
-/
import Liftbridge.Model.Protocol
import Liftbridge.Proofs.Protocol
import Liftbridge.Proofs.ProtocolInv
import Liftbridge.Props.C16

namespace Liftbridge.Props.C04
open Liftbridge Liftbridge.Log Liftbridge.Log.CLog Liftbridge.Protocol Liftbridge.Proofs.Log Liftbridge.Proofs.Protocol

/-! ### what the leader checks (every state, every step) -/

/-- ALL policy: at a commit step an ack is sent for a queued entry only if its offset is at most
the minimum of the offsets the leader has recorded for the members of its ISR view — hence at
most the recorded offset of EVERY member — and that view has at least `minISR` members. -/
theorem ack_all_step (c : Cfg) (st st' : State) (l : Sid) (h : step c st (.commit l) = some st')
    (a : Ack) (ha : a ∈ newAcks st st') :
    ∃ sv, st.get l = some sv ∧ a.policy = .all ∧ a ∈ sv.queue ∧
      a.offset ≤ goMin (sv.isrOff.map (·.2)) ∧ c.minISR ≤ sv.isrOff.length ∧
      ∀ r v, lookup sv.isrOff r = some v → a.offset ≤ v := by
  cases Steps.of_step h with
  | commit sv hsv =>
    replace ha : a ∈ (commitStep c sv).2 := by simpa [newAcks] using ha
    exact ⟨sv, hsv, commitStep_acks c sv ha⟩

/-- LEADER policy: a positive ack published by a publish step is a LEADER-policy ack of a message
of that batch, with its correlation id, and the leader's log holds exactly that message at the
acknowledged offset at the moment the ack is sent. -/
theorem ack_leader_step (c : Cfg) (st st' : State) (l : Sid) (b : List PubMsg)
    (h : step c st (.publish l b) = some st') (hinv : ∀ sv, st.get l = some sv → Inv sv.log)
    (a : Ack) (ha : a ∈ newAcks st st') (hok : a.err = .ok) :
    a.policy = .leader ∧ a.by_ = l ∧ (∃ m ∈ b, a.cid = m.cid ∧ a.mid = m.mid ∧ m.policy = .leader) ∧
    ∃ sv', st'.get l = some sv' ∧ ∃ r ∈ sv'.log.abs, r.offset = a.offset ∧ r.body = bodyOf a.mid := by
  cases Steps.of_step h with
  | publish sv sv' as hsv hp =>
    replace ha : a ∈ as := by simpa [newAcks] using ha
    obtain ⟨log, offs, he, hlog, h1⟩ := publishStep_ack_ok hp ha hok
    have hsp := pending_spec c l sv.leaderEpoch (screen l sv.leaderEpoch b).1 offs
    have hpol := hsp.1 a h1
    obtain ⟨_, m, o, hz, hcid, hmid, hmp, hoff, hby, _⟩ := hsp.2 a (List.mem_append_left _ h1)
    obtain ⟨_, _, rs, habs, hoffs, hrs⟩ := append_full (hinv sv hsv) he
    rw [List.map_map] at hrs
    -- the record appended for `m`
    obtain ⟨r, hr, hro, hrm⟩ := exists_of_mem_zip_map hoffs hrs hz
    refine ⟨hpol, hby, ⟨m, screen_sub (List.of_mem_zip hz).1, hcid, hmid, hmp ▸ hpol⟩, sv', get_set_self sv' (get_lt hsv), r, ?_, by rw [hro, hoff], ?_⟩
    · rw [hlog, habs]; exact List.mem_append_right _ hr
    · rw [hmid]; exact congrArg (·.2.2) hrm

/-- NONE policy: no step ever publishes a positive ack for it (LEADER acks come from the publish
step, ALL acks from the commit step, nothing else writes to the ack stream). -/
theorem ack_none_never (c : Cfg) (st st' : State) (s : Step) (h : step c st s = some st')
    (a : Ack) (ha : a ∈ newAcks st st') (hok : a.err = .ok) : a.policy ≠ .none := by
  intro hnone
  cases Steps.of_step h with
  | publish sv sv' as hsv hp =>
    replace ha : a ∈ as := by simpa [newAcks] using ha
    obtain ⟨_, offs, _, _, h1⟩ := publishStep_ack_ok hp ha hok
    have := (pending_spec c _ sv.leaderEpoch _ offs).1 a h1
    rw [hnone] at this; cases this
  | commit sv =>
    replace ha : a ∈ (commitStep c sv).2 := by simpa [newAcks] using ha
    have := (commitStep_acks c sv ha).1
    rw [hnone] at this; cases this
  | _ => exact absurd (show a ∈ st.acks.drop st.acks.length from ha) (by simp)

/-- Every ack a publish step builds — sent at once (LEADER) or queued for the commit loop (ALL,
and LEADER/NONE entries that are only dequeued) — is positive and carries the correlation id,
policy and identity of one accepted message of the batch together with the offset `Append`
assigned to that message. -/
theorem ack_carries_offset_and_correlation (c : Cfg) (me : Sid) (epoch : Nat) (b : List PubMsg) (offs : List Int) :
    ∀ a ∈ (pending c me epoch (screen me epoch b).1 offs).1 ++ (pending c me epoch (screen me epoch b).1 offs).2,
      a.err = .ok ∧ ∃ m o, (m, o) ∈ (screen me epoch b).1.zip offs ∧ m ∈ b ∧
        a.cid = m.cid ∧ a.mid = m.mid ∧ a.policy = m.policy ∧ a.offset = o := by
  intro a hmem
  obtain ⟨h1, m, o, hz, h2, h3, h4, h5, _⟩ := (pending_spec c me epoch _ offs).2 a hmem
  exact ⟨h1, m, o, hz, screen_sub (List.of_mem_zip hz).1, h2, h3, h4, h5⟩

/-- A rejected message is negatively acknowledged and never stored: the messages refused for
size or sealing never reach `Append` (the records appended are exactly the accepted ones), and
when `Append` refuses the expected offset the log keeps exactly its records (C16
`rejected_unchanged`). -/
theorem nack_not_stored (c : Cfg) (me : Sid) (sv sv' : Srv) (b : List PubMsg) (acks : List Ack)
    (hinv : Inv sv.log) (h : publishStep c me sv b = some (sv', acks)) :
    (∀ a ∈ acks, a.err ≠ .ok →
      (∃ m ∈ b, (m.sealFails ∨ m.tooLarge) ∧ a.mid = m.mid ∧ a.cid = m.cid) ∨
      (a.err = .incorrectOffset ∧ sv'.log.abs = sv.log.abs)) ∧
    (sv'.log.abs = sv.log.abs ∨
      ∃ rs, sv'.log.abs = sv.log.abs ++ rs ∧
        rs.map (·.body) = (b.filter (fun m => !m.sealFails && !m.tooLarge)).map (fun m => bodyOf m.mid)) := by
  rw [← screen_ok me sv.leaderEpoch]
  rcases publishStep_cases h with ⟨_, rfl, rfl⟩ | ⟨e, _, rfl, hacks⟩ | ⟨log, offs, _, _, he, hlog, rfl, rfl⟩
  · exact ⟨fun a ha _ => Or.inl (screen_nacks me _ b (published_sub ha)).2, Or.inl rfl⟩
  · refine ⟨fun a ha _ => ?_, Or.inl (abs_checkSplitIfWritable _)⟩
    rcases hacks a ha with h1 | ⟨h1, _⟩
    · exact Or.inl (screen_nacks me sv.leaderEpoch b h1).2
    · exact Or.inr ⟨h1, abs_checkSplitIfWritable _⟩
  · refine ⟨fun a ha herr => ?_, ?_⟩
    · rcases List.mem_append.mp (published_sub ha) with h1 | h1
      · exact Or.inl (screen_nacks me sv.leaderEpoch b h1).2
      · exact absurd ((pending_spec c me sv.leaderEpoch _ offs).2 a (List.mem_append_left _ h1)).1 herr
    · obtain ⟨_, _, rs, habs, _, hrs⟩ := append_full hinv he
      refine Or.inr ⟨rs, by rcases hlog with rfl | rfl <;> simp only [abs_setHW, habs], ?_⟩
      simpa [Function.comp_def, toMsg] using congrArg (List.map (fun t : Int × Nat × Payload => t.2.2)) hrs

/-- The single-message conditional publish of C16 is this step: a publish refused by the log
leaves the records and the next offset unchanged. -/
theorem nack_incorrect_offset_unchanged (l : CLog) (m : CLog.Msg) (e : String) (h : Inv l)
    (hp : (C16.publish l m).2 = .err e) :
    (C16.publish l m).1.abs = l.abs ∧ (C16.publish l m).1.nextOffset = l.nextOffset :=
  C16.rejected_unchanged l m e h hp

/-- C04 as stated: in every reachable state, every step publishes only acks that are justified by
what the replicas really store (`ackProblems`: ALL ⇒ every member of the leader's ISR view stores
that message at that offset and the view is at least `minISR` big; LEADER ⇒ the leader stores it;
NONE ⇒ never; offset/identity match), and no negatively acknowledged message is stored anywhere. -/
def C04_asStated (c : Cfg) : Prop :=
  ∀ pre post s, Reachable c pre → step c pre s = some post →
    ackViolations c pre post = [] ∧ nackedStored post = []

/-- Search witness `stale-isr-offsets-across-terms` (corpus/C04): server 0 leads, its followers
report offset 0, server 2 leads for a while, server 0 leads again and commits its next message
with the offsets of its FIRST term. -/
def staleIsrWitness : List IStep :=
  [.raftCommit (.create 0), .applyNext 0, .publish 0 [{ mid := 0, cid := 100, policy := .all }], .commit 0,
   .applyNext 1, .offServe 0 0, .reconcile 1 0, .fetch 1, .serve 0 0, .applyResp 1 0, .fetch 1, .serve 0 0,
   .applyResp 1 0, .commit 0, .applyNext 2, .offServe 0 0, .reconcile 2 0, .electDecision 2,
   .raftCommit (.changeLeader 2), .applyNext 2, .applyNext 0, .offServe 2 0, .reconcile 0 0, .electDecision 0,
   .raftCommit (.changeLeader 0), .applyNext 0, .publish 0 [{ mid := 1, cid := 101, policy := .all }],
   .applyNext 2, .offServe 0 0, .reconcile 2 0, .fetch 2, .serve 0 0, .applyResp 2 0, .fetch 2, .serve 0 0,
   .applyResp 2 0]

/-- The protocol with `becomeLeader` as it was before repair fixes/C04-isr-offsets-reset.diff (the
model of the code as it is follows the source through `Gen.Protocol.becomeLeaderResetsOffsets`). -/
def legacy : Cfg := { fixes := { legacyIsr := true } }

/-- The last step of the witness (the commit loop of server 0) sends an ALL ack for message 1 at
offset 0 although server 1 — a member of the ISR — stores message 0 there. -/
theorem staleIsr_violates :
    ackViolationsAfter legacy staleIsrWitness (.commit 0) = some ["all-ack-not-stored-by-isr"] := by
  decide +kernel

/-- A computed ack violation after a path of the model refutes C04 as stated for that configuration. -/
theorem not_asStated_of_witness {c : Cfg} {is : List IStep} {i : IStep} {k : String} {v : List String}
    (h : ackViolationsAfter c is i = some (k :: v)) : ¬ C04_asStated c := by
  intro hall
  obtain ⟨pre, post, s, hr, hs, hv⟩ := witness_reaches h
  rw [(hall pre post s hr hs).1] at hv
  cases hv

/-- C04 as stated does not hold for the protocol with the stale offsets … -/
theorem C04_asStated_false_legacy : ¬ C04_asStated legacy :=
  not_asStated_of_witness staleIsr_violates

/-- Search witness `epoch-start-minus-one-sentinel` (corpus/C04), up to the commit that sends the
unjustified ack: a leader elected with an empty log, a follower that keeps its old message at
offset 0 and reports it. Independent of the stale-offset defect. -/
def sentinelWitness : List IStep :=
  [.raftCommit (.create 0), .applyNext 0, .publish 0 [{ mid := 0, cid := 100, policy := .all }], .commit 0,
   .applyNext 1, .offServe 0 0, .reconcile 1 0, .fetch 1, .serve 0 0, .applyResp 1 0, .applyNext 2, .offServe 0 0,
   .reconcile 2 0, .electDecision 2, .raftCommit (.changeLeader 2), .applyNext 2,
   .publish 2 [{ mid := 1, cid := 101, policy := .all }], .commit 2, .applyNext 0, .offServe 2 0, .reconcile 0 0,
   .fetch 0, .serve 2 0, .applyResp 0 0, .commit 2, .applyNext 1, .offServe 2 0, .reconcile 1 0, .fetch 1, .serve 2 0,
   .applyResp 1 0]

theorem sentinel_violates :
    ackViolationsAfter {} sentinelWitness (.commit 2) = some ["all-ack-not-stored-by-isr"] ∧
    ackViolationsAfter { fixes := { isrReset := true } } sentinelWitness (.commit 2) = some ["all-ack-not-stored-by-isr"] ∧
    ackViolationsAfter legacy sentinelWitness (.commit 2) = some ["all-ack-not-stored-by-isr"] := by
  decide +kernel

/-- … nor for the protocol as the source has it now, with or without that repair (an ALL ack for a
message where an ISR member holds a DIFFERENT record: the C04 face of the epoch-boundary defects). -/
theorem C04_asStated_false : ¬ C04_asStated {} :=
  not_asStated_of_witness sentinel_violates.1

/-- The same run with `partition.isr` offsets forgotten on becoming leader (repair `isrReset`)
sends no unjustified ack: the witness is caused by the stale offsets and nothing else. -/
theorem staleIsr_repaired :
    replayLenient { fixes := { isrReset := true } } (init { fixes := { isrReset := true } }) [] []
      (staleIsrWitness ++ [.commit 0]) = [] := by
  decide +kernel

/-- The leader's view `isrOff` is NOT tied to the replicas' logs across leadership terms: after
the prefix of the witness up to server 0's second `becomeLeader`, server 0 still records offset
0 for itself and for server 1 although its own log is empty again. -/
theorem isrOff_unsound_across_terms :
    ((irun legacy (init legacy) (staleIsrWitness.take 26)).bind fun st => (st.get 0).map fun sv =>
      (sv.role, sv.leaderEpoch, lookup sv.isrOff 0, lookup sv.isrOff 1, sv.log.newest)) =
    some (.leader, 3, some 0, some 0, -1) := by
  decide +kernel

/-- Within a leadership term the leader's view is tied to the replicas' logs: `TermInv` (every
recorded offset `isrOff r = v` is at most the newest offset of replica `r`'s real log; requests in
flight report at most their sender's newest offset; responses carry sorted records; logs are
well-formed) holds initially (`termInv_init`) and is preserved by every step that neither changes a
role nor truncates a log. `becomeLeader` on a partition object that led before does not
re-establish it (`isrOff_unsound_across_terms`). -/
theorem isrOff_sound_within_term (c : Cfg) (steps : List Step) (st st' : State) (J : TermInv st)
    (hin : ∀ s ∈ steps, InTerm s) (h : run c st steps = some st') :
    TermInv st' ∧ ∀ l sv, st'.get l = some sv → ∀ r v, lookup sv.isrOff r = some v →
      ∃ sr, st'.get r = some sr ∧ v ≤ sr.log.newest := by
  have J' := termInv_run c steps st st' J hin h
  exact ⟨J', J'.offs⟩

/-- What does hold (the strongest variant): if the leader's view is EXACT for an ALL ack — every
member `r` of its ISR view with recorded offset `v` stores, at every offset up to `v`, the record
the leader stores there — and the leader stores the acknowledged message at the acknowledged
offset (true for every queue entry, `ack_carries_offset_and_correlation` + `ack_leader_step`'s
storage clause), then every member of the ISR stores that message at that offset and the ISR has
at least `minISR` members. The excluded case is exactly `isrOff_unsound_across_terms`. -/
theorem C04_partial (c : Cfg) (st st' : State) (l : Sid) (h : step c st (.commit l) = some st')
    (a : Ack) (ha : a ∈ newAcks st st') (sv : Srv) (hsv : st.get l = some sv)
    (hstored : ∃ r, recAt sv.log a.offset = some r ∧ Rec.mid r = a.mid)
    (hexact : ∀ r v, lookup sv.isrOff r = some v → ∃ sr, st.get r = some sr ∧
      ∀ o, o ≤ v → recAt sr.log o = recAt sv.log o) :
    c.minISR ≤ sv.isrOff.length ∧
    ∀ r v, lookup sv.isrOff r = some v → ∃ sr, st.get r = some sr ∧
      ∃ rec, recAt sr.log a.offset = some rec ∧ Rec.mid rec = a.mid := by
  obtain ⟨sv0, hsv0, _, _, _, hmin, hle⟩ := ack_all_step c st st' l h a ha
  cases hsv.symm.trans hsv0
  refine ⟨hmin, fun r v hr => ?_⟩
  obtain ⟨sr, hsr, hex⟩ := hexact r v hr
  obtain ⟨rec, hrec, hmid⟩ := hstored
  exact ⟨sr, hsr, rec, by rw [hex a.offset (hle r v hr)]; exact hrec, hmid⟩

/-- A leader with ISR offsets 0:3, 1:2, 2:5 and queued ALL acks at offsets 1, 2, 3 commits up to
offset 2 and acks exactly the first two. -/
example : ((commitStep { minISR := 2 }
    { log := CLog.init 1024 false, role := .leader, commitCheck := 1, isrOff := [(0, 3), (1, 2), (2, 5)],
      queue := [{ cid := 1, policy := .all, offset := 1, err := .ok, mid := 1, by_ := 0, epoch := 1 },
                { cid := 2, policy := .all, offset := 2, err := .ok, mid := 2, by_ := 0, epoch := 1 },
                { cid := 3, policy := .all, offset := 3, err := .ok, mid := 3, by_ := 0, epoch := 1 }] }).2.map (·.offset))
    = [1, 2] := by decide

/-- Below the minimum ISR size nothing is acknowledged. -/
example : (commitStep { minISR := 2 }
    { log := CLog.init 1024 false, role := .leader, commitCheck := 1, isrOff := [(0, 3)],
      queue := [{ cid := 1, policy := .all, offset := 1, err := .ok, mid := 1, by_ := 0, epoch := 1 }] }).2 = [] := by
  decide

/-- Replication factor 1 fast path: a LEADER-policy message is acked at once, the HW moves without
the commit queue, nothing is queued. -/
example : ((publishStep { n := 1, minISR := 1 } 0
    { log := CLog.init 1024 false, role := .leader, leaderEpoch := 1, isrOff := [(0, -1)] }
    [{ mid := 7, cid := 107, policy := .leader }]).map fun r => (r.1.log.hw, r.1.queue.length, r.2.map (·.offset)))
    = some (0, 0, [0]) := by decide +kernel

end Liftbridge.Props.C04
