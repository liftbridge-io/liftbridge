/-
C05 at the level of the function bodies: the two decisions `segment.setupIndex` (server/commitlog/segment.go)
takes about an index it found on disk, translated from the code.

`Gen/GoRecover.lean` holds `segment.indexMatchesLog` and `segment.trimLog`. The log file is an external
object: `ReadAt` (does a message header start at that position?), the header found there (`Offset()`,
`Size()` of the bytes read) and `Truncate` are external calls whose answers are parameters and whose
occurrences are recorded.

* `go_indexMatchesLog`: true exactly when there is no last entry, or the entry ends inside the log AND a header
  can be read at its position AND that header carries the entry's offset AND its size + 28 (the header) is the
  entry's size - the model's `Recover.lastMatches` (a whole record with the same offset and size at `e.pos`).
* `go_trimLog`: with `stop` = 0 for an empty index and `Position + Size` of the last entry otherwise: a log that
  ends at or before `stop` is left alone (no call at all); a longer one is cut back with exactly one
  `Truncate(stop)` and the segment's write position becomes `stop` - the tail of the model's `Recover.setupFinM`.
  A failing `Truncate` is an error and the position stays.
(`setupIndex` itself fills two records through pointers - `ReadEntryAtFileOffset(&firstEntry, 0)` - which the
embedding cannot express: it stays outside, its structure is covered by the model + crash harness only.)
-/
import Liftbridge.Proofs.GoCodeBase
import Liftbridge.Gen.GoRecover

namespace Liftbridge.Props.GoRecover
open Liftbridge Liftbridge.GoMini Liftbridge.GoCode
open Liftbridge.Gen.GoRecover


theorem translation_complete : unsupported = [] := rfl

theorem binVal_eq_nil_nil : binVal "==" Val.nil Val.nil = .ok (.bool true) := GoMini.binVal_nil_nil "=="
theorem binVal_int (op : String) (a b : Int) : binVal op (Val.int a) (Val.int b) = binInt op a b := GoMini.binVal_int op a b

/-- the segment: its write position (= size of the log file) and its log file object -/
def encSeg (position : Nat) : Val := .struct [("position", .int position), ("log", .struct [("kind", .str "file")])]

/-- an index entry -/
def encEntry (offset : Int) (pos size : Nat) : Val := .struct [("Offset", .int offset), ("Position", .int pos), ("Size", .int size)]

/-- the log file: can 28 bytes be read at the asked position, and which offset / size does the header found there carry -/
def logExt (readable : Bool) (hOffset : Int) (hSize : Nat) (truncErr : Option String) : Ext := fun f _ _ =>
  if f = "ReadAt" then some (.tup [.int 28, if readable then .nil else .str "EOF"])
  else if f = "Offset" then some (.int hOffset)
  else if f = "Size" then some (.int hSize)
  else if f = "Truncate" then some (match truncErr with | some e => .str e | none => .nil)
  else none

def boolOf : R Out → Option Bool
  | .ok o => (match o.rets with | [.bool b] => some b | _ => none)
  | _ => none

/-- an empty index matches any log -/
theorem go_indexMatchesLog_empty (position : Nat) (ext : Ext) :
    boolOf (runG prog ext 30 "indexMatchesLog" (some (encSeg position)) [.nil] []) = some true := by
  rfl

/-- a last entry matches iff it ends inside the log, a header is readable at its position, and that header has the
entry's offset and (with its 28 header bytes) the entry's size -/
theorem go_indexMatchesLog (position : Nat) (offset : Int) (pos size : Nat) (hs : size < 2 ^ 31)
    (readable : Bool) (hOffset : Int) (hSize : Nat) :
    boolOf (runG prog (logExt readable hOffset hSize none) 30 "indexMatchesLog" (some (encSeg position)) [encEntry offset pos size] []) =
      some (decide (pos + size ≤ position) && readable && decide (hOffset = offset) && decide (hSize + 28 = size)) := by
  have hw := wrapS64_nat size (by omega)
  by_cases h1 : pos + size ≤ position
  · have h1' : ¬ ((position : Int) < (pos : Int) + (size : Int)) := by omega
    cases readable <;>
      simp [runG, fn_segment_indexMatchesLog, prog, gomini, encSeg, encEntry, boolOf, binInt, logExt, hw, h1, h1']
    by_cases h2 : hOffset = offset <;> by_cases h3 : hSize + 28 = size <;> simp [h2, h3] <;> omega
  · have h1' : ((position : Int) < (pos : Int) + (size : Int)) := by omega
    simp [runG, fn_segment_indexMatchesLog, prog, gomini, encSeg, encEntry, boolOf, binInt, hw, h1, h1']

/-- (nil error?, the calls on the log file, the segment's write position afterwards) -/
def trimView : R Out → Option (Bool × List (String × List Val) × Option Val)
  | .ok o => some (match o.rets with | [e] => isNil e | _ => false, o.eff,
      match o.recv with | some (.struct fs) => lookup "position" fs | _ => none)
  | _ => none

/-- where the log has to end: after the last indexed message (0 for an empty index) -/
def stopOf : Option (Int × Nat × Nat) → Nat
  | none => 0
  | some (_, pos, size) => pos + size

def encLast : Option (Int × Nat × Nat) → Val
  | none => .nil
  | some (o, pos, size) => encEntry o pos size

/-- a log that ends at or before the last indexed message is left alone; a longer one is cut back with ONE `Truncate(stop)`
and the write position follows - unless the truncation fails, which is an error and leaves the position -/
theorem go_trimLog (position : Nat) (last : Option (Int × Nat × Nat)) (hs : ∀ o p sz, last = some (o, p, sz) → sz < 2 ^ 31)
    (truncErr : Option String) :
    trimView (runG prog (logExt true 0 0 truncErr) 30 "trimLog" (some (encSeg position)) [encLast last] []) =
      some (if position ≤ stopOf last then (true, [], some (.int position))
        else match truncErr with
          | none => (true, [("Truncate", [.int (stopOf last)])], some (.int (stopOf last)))
          | some _ => (false, [("Truncate", [.int (stopOf last)])], some (.int position))) := by
  cases last with
  | none =>
    by_cases h : position ≤ 0
    · obtain rfl : position = 0 := by omega
      rfl
    · have h2 : position ≠ 0 := by omega
      cases truncErr <;>
        simp [runG, fn_segment_trimLog, prog, gomini, encSeg, encLast, trimView, stopOf, binInt, logExt, isNil,
          wrapS, h, h2]
  | some e =>
    obtain ⟨o, pos, size⟩ := e
    have hw := wrapS64_nat size (by have := hs o pos size rfl; omega)
    by_cases h : position ≤ pos + size
    · have h2 : ((position : Int) ≤ (pos : Int) + (size : Int)) := by omega
      simp [runG, fn_segment_trimLog, prog, gomini, encSeg, encLast, encEntry, trimView, stopOf, binInt, isNil, hw, h, h2]
    · have h2 : ¬ ((position : Int) ≤ (pos : Int) + (size : Int)) := by omega
      cases truncErr <;>
        simp [runG, fn_segment_trimLog, prog, gomini, encSeg, encLast, encEntry, trimView, stopOf, binInt, logExt,
          isNil, hw, h, h2]

end Liftbridge.Props.GoRecover
