/-
C06 — Cluster metadata is a deterministic, restart-stable state machine.

Theorems about `Liftbridge.Metadata` (model of server/fsm.go `apply` / `Snapshot` / `Restore` /
`finishedRecovery` and the metadata.go / stream.go / partition.go / groups.go mutators they call) for
EVERY history of create / delete / pause / resume / read-only / ISR-shrink / ISR-expand /
leader-change / consumer-group operations that passes the propose-time checks (`Valid`), EVERY
position of the snapshot and EVERY crash point — by a simulation between the live server and the
replaying server (`Proofs.Metadata.Sim`) kept by every log entry, established by `Restore ∘ Snapshot`
and discharged by `finishedRecovery`.  Only property statements here; lemmas are in
`Liftbridge/Proofs/Metadata.lean`.

A history is split as `pre ++ suf` (snapshot after `pre`, `suf` replayed; `pre = []` is the restart
without snapshot) or `pre ++ mid ++ post` (additionally: the server crashed after `pre ++ mid`, which
fixes what is on its disk).  Log entry `j` (0-based) carries Raft index `j + 1`.

The model carries four behavioural switches (`Cfg`, regenerated from the source: `Cfg.current`), one
per repair proposed below, so the same theorems speak about the code as found, about every partially
repaired tree and about the fully repaired one.

The full-strength statement `replay_split_asStated cfg` (ALL observable fields: paused / read-only
flags as kept at run time and as reported, consumer-group epochs included) is
  * FALSE whenever one of the four defects is in the code — `decide`d witnesses, each replayed on the
    real server by the harness:
      `paused-flag-survives-resume`       (`…_false_paused`)      fixes/C06-clear-paused.diff
      `readonly-flag-lost-on-restore`     (`…_false_readonly`)    fixes/C06-restore-readonly.diff
      `group-epoch-differs-after-replay`  (`…_false_groupEpoch`)  two root causes:
           replayed deletes tell the groups only at the end    fixes/C12-streamdeleted-sync.diff
           empty subscriber heaps bump the epoch               fixes/C06-group-epoch-empty-heap.diff
  * a THEOREM once all four repairs are in (`replay_split_allRepaired`);
  * in between: `replay_split_partial` (everything but the group epochs, for histories without
    `resume` / `readonly on` before the snapshot point or with the two flag repairs),
    `replay_from_scratch` (no snapshot: holds for the code as found).
-/
import Liftbridge.Model.Metadata
import Liftbridge.Proofs.Metadata
import Liftbridge.Proofs.MetadataGroups

namespace Liftbridge.Props.C06
open Liftbridge Liftbridge.Metadata Liftbridge.Proofs.Metadata

/-! ### Ties to the source that the model relies on without evaluating them (a change breaks the
build of this file and thereby the check; the extractor reports the same as `lost`). -/

/-- Every op of `enum Op` is either dispatched by `Server.apply` to the function the model mirrors
or is one of the two ops that are never written to the Raft log. -/
theorem dispatch_complete :
    Gen.Metadata.opEnum.all (fun op =>
      (Gen.Metadata.dispatch.map (·.1)).contains op ||
        ["REPORT_LEADER", "REPORT_CONSUMER_GROUP_COORDINATOR"].contains op) = true ∧
    Gen.Metadata.dispatch =
      [("CREATE_STREAM", "s.applyCreateStream"), ("SHRINK_ISR", "s.applyShrinkISR"),
       ("CHANGE_LEADER", "s.applyChangePartitionLeader"), ("EXPAND_ISR", "s.applyExpandISR"),
       ("DELETE_STREAM", "s.applyDeleteStream"), ("PAUSE_STREAM", "s.applyPauseStream"),
       ("SET_STREAM_READONLY", "s.applySetStreamReadonly"), ("RESUME_STREAM", "s.applyResumeStream"),
       ("CREATE_CONSUMER_GROUP", "s.applyCreateConsumerGroup"), ("JOIN_CONSUMER_GROUP", "s.applyJoinConsumerGroup"),
       ("LEAVE_CONSUMER_GROUP", "s.applyLeaveConsumerGroup"),
       ("CHANGE_CONSUMER_GROUP_COORDINATOR", "s.applyChangeConsumerGroupCoordinator"),
       ("PUBLISH_ACTIVITY", "s.activity.SetLastPublishedRaftIndex")] := by
  decide

/-- What a snapshot carries: the protobuf messages have exactly the fields the model knows
(`PartP`, `StreamP`, `GroupP`, `Snap`; `subject/stream/group/replicationFactor/config` are immutable
after creation and not modelled), and `Snapshot()` fills in exactly these. -/
theorem snapshot_fields :
    Gen.Metadata.protoPartitionFields =
      ["subject", "stream", "id", "group", "replicationFactor", "replicas", "leader", "isr", "leaderEpoch",
       "epoch", "paused", "readonly"] ∧
    Gen.Metadata.protoStreamFields = ["name", "subject", "partitions", "config", "creationTimestamp"] ∧
    Gen.Metadata.protoConsumerGroupFields = ["id", "members", "coordinator", "epoch"] ∧
    Gen.Metadata.protoConsumerFields = ["id", "streams"] ∧
    Gen.Metadata.protoSnapshotFields = ["streams", "groups"] ∧
    Gen.Metadata.snapshotStreamFields = ["Name", "Subject", "Config", "Partitions", "CreationTimestamp"] ∧
    Gen.Metadata.snapshotGroupFields = ["Id", "Coordinator", "Epoch", "Members"] := by
  decide

/-- `Members[].Streams` of a snapshot come from `consumerGroup.GetMembers`, which lists every member
with its SUBSCRIPTION set (`consumer.streams`, the model's `Group.members`) — whether or not the
member currently holds a partition of each stream (`snapGroup` writes exactly `g.members`). -/
theorem snapshot_member_streams_are_subscriptions :
    Gen.Metadata.getMembersRanges = ["c.members", "member.streams"] ∧
    ∀ g : Metadata.Group, (Metadata.snapGroup g).members = g.members := by
  exact ⟨by decide, fun _ => rfl⟩

/-- Shape of the recovery code: a replayed delete only tombstones (no group notification), a
replayed create un-tombstones (Close + removeStream), `finishedRecovery` purges and starts,
`Restore` = `Reset` + create(recovered, epoch 0) + createGroup(recovered). -/
theorem recovery_shape :
    Gen.Metadata.removeStreamCalls = ["stream.Tombstone", "m.deleteStream", "stream.GetPartitions"] ∧
    Gen.Metadata.addStreamCalls =
      ["existing.IsTombstoned", "existing.Close", "m.removeStream", "m.addPartition", "m.removeStream"] ∧
    Gen.Metadata.finishedRecoveryCalls =
      ["stream.IsTombstoned", "s.metadata.RemoveTombstonedStream", "partition.StartRecovered", "group.StartRecovered"] ∧
    Gen.Metadata.restoreCalls =
      ["s.metadata.Reset()", "s.applyCreateStream(stream,true,0)", "s.applyCreateConsumerGroup(group,true)"] := by
  decide

/-! ### (1) determinism -/

/-- **Determinism.** The state after a history is a function of the history (the model has no other
input: no clock, no map iteration order, no goroutine timing).  The substance of this clause is the
correspondence: the harness applies every history to two fresh real servers and compares them with
each other and with this function after every op. -/
theorem deterministic (cfg : Cfg) (ops₁ ops₂ : List Op) (h : ops₁ = ops₂) : run cfg ops₁ = run cfg ops₂ := by
  rw [h]

/-- `Server.apply` fails on no op that the propose-time checks accepted (`Server.Apply` would panic). -/
theorem valid_op_applies (cfg : Cfg) (s : State) (i : Nat) (h : Inv cfg s i) (op : Op) (hp : pre s op = true) :
    applyErr s op (i + 1) false = none := by
  -- the index of a new entry is above every group epoch
  have hlt : ∀ g ∈ s.groups, Cmp.lt.evalNat (i + 1) g.epoch = false := fun g hg => by
    have := h.ep g hg
    simp [Cmp.evalNat]; omega
  cases op with
  | create sp =>
    simp only [pre, Bool.and_eq_true, Bool.not_eq_true', decide_eq_true_eq] at hp
    have hnone : findStream s.streams sp.name = none :=
      List.find?_eq_none.2 fun st hst hn => by
        have := hasStream_iff.2 (List.mem_map.2 ⟨st, hst, of_decide_eq_true hn⟩)
        rw [hp.2] at this; cases this
    simp [applyErr, addStreamErr, hp.1.1.1, hp.1.1.2, hnone]
  | delete n => simp only [pre] at hp; simp [applyErr, hp]
  | pause n ids | resume n ids | readonly n ids =>
    simp only [pre, Bool.and_eq_true] at hp; simp [applyErr, hp.1, hp.2]
  | shrink n pid r | expand n pid r =>
    simp only [pre] at hp
    simp only [applyErr]
    split at hp
    · next p hpp =>
      have : r ∈ p.replicas := by simpa using hp
      simp [hpp, this]
    · cases hp
  | leader n pid l =>
    -- not stale means above the partition epoch, hence above the leader epoch
    obtain ⟨st, hst, q, hq, e⟩ := getPart_of_hasPart hp
    have hle := (h.sync st hst q hq).le
    simp only [applyErr, e]
    by_cases hs : staleLeader q (i + 1) = true
    · simp [hs]
    · have h1 : ¬ q.epoch ≥ i + 1 := by simpa [staleLeader, Gen.Metadata.leaderEpochGuard, Cmp.evalNat] using hs
      have : leaderRefused q (i + 1) = false := by
        simp [leaderRefused, Gen.Metadata.setLeaderGuard, Cmp.evalNat]; omega
      simp [hs, this]
  | group gp =>
    simp only [pre, Bool.and_eq_true, Bool.not_eq_true'] at hp
    simp [applyErr, hp.1.1.1]
  | join gid cid ss =>
    simp only [pre] at hp
    simp only [applyErr]
    split at hp
    · next g hg => simp [hg, Gen.Groups.epochAddCmp, hlt g (List.mem_of_find?_eq_some hg)]
    · cases hp
  | leave gid cid =>
    simp only [pre] at hp
    simp only [applyErr]
    split at hp
    · next g hg => simp [hg, Gen.Groups.epochRemoveCmp, hlt g (List.mem_of_find?_eq_some hg), hp]
    · cases hp
  | coord gid c =>
    obtain ⟨g, hg, e⟩ := findGroup_of_hasGroup hp
    simp [applyErr, e, Gen.Metadata.setCoordinatorGuard, hlt g hg]
  | activity k => rfl
  | unknown => simp [pre] at hp

/-- The invariant of the live server after a valid history whose ops all keep the run-time and the
protobuf flags in step (`OpOK`: automatic for the repaired code). -/
theorem live_invariant (cfg : Cfg) (ops : List Op) (hv : Valid cfg ops) (hok : ∀ op ∈ ops, OpOK cfg op) :
    Inv cfg (run cfg ops) ops.length := by
  exact inv_run_init cfg ops hv hok

/-- On the repaired code every op is `OpOK`. -/
theorem opOK_repaired (cfg : Cfg) (h1 : cfg.clearPaused = true) (h2 : cfg.restoreReadonly = true) (op : Op) :
    OpOK cfg op := ⟨Or.inl h1, Or.inl h2⟩

/-! ### (2) restart from any snapshot + replay split -/

/-- **The full-strength statement** for a given behaviour of the code: for every valid history, every
split into a snapshotted prefix and a replayed suffix, and whatever is on disk, the restarted server
shows ALL the observable metadata of the live server. -/
def replay_split_asStated (cfg : Cfg) : Prop :=
  ∀ (pre suf : List Op), Valid cfg (pre ++ suf) → ∀ (d : List String),
    obs (replay cfg (run cfg pre) d pre.length suf) = obs (run cfg (pre ++ suf))

def sA : StreamP := { name := "a", subject := "sa", ctime := 11, parts := [{ id := 0, replicas := ["b", "c", "d"], isr := ["b", "c", "d"], leader := "b" }] }
def sS : StreamP := { name := "s", subject := "ss", ctime := 22, parts := [{ id := 0, replicas := ["b", "c", "d"], isr := ["b", "c", "d"], leader := "b" }] }

/-- F-C06-a: `create a; pause a; resume a`, snapshot, restart: the partition comes back PAUSED
(`Pause` sets the protobuf flag, `ResumePartition` never clears it, `addPartition` re-pauses). -/
def witnessPaused : List Op := [.create sA, .pause "a" [] false, .resume "a" [0]]

/-- `create a; readonly a on`, snapshot, restart: the partition's new commit log is writable. -/
def witnessReadonly : List Op := [.create sA, .readonly "a" [] true]

/-- `create a; group g{m1:a}; delete a; create s` replayed from scratch: the group hears of the
deletion at the END of the replay (`RemoveTombstonedStream(stream, last index)`) and ends with epoch 4,
the live server has epoch 3. -/
def witnessGroupEpoch : List Op :=
  [.create sA, .group { id := "g", coordinator := "x", epoch := 0, members := [("m1", ["a"])] }, .delete "a", .create sS]

/-- `create a; group g{m1:-}; join g m2{a}; leave g m2`, snapshot, `delete a`: the live group still
has an (empty) subscriber heap for `a` and bumps its epoch, the restored group has none. -/
def witnessEmptyHeapPre : List Op :=
  [.create sA, .group { id := "g", coordinator := "x", epoch := 0, members := [("m1", [])] }, .join "g" "m2" ["a"], .leave "g" "m2"]

/-- The witnesses pass the propose-time checks whatever the switches are. -/
theorem witnesses_valid (cfg : Cfg) : Valid cfg witnessPaused ∧ Valid cfg witnessReadonly ∧
    Valid cfg witnessGroupEpoch ∧ Valid cfg (witnessEmptyHeapPre ++ [.delete "a"]) := by
  cases cfg with | mk a b c d => cases a <;> cases b <;> cases c <;> cases d <;> decide

/-- `replay_split_asStated` is false as long as `ResumePartition` leaves the protobuf `Paused` flag
set or `newPartition` ignores the protobuf `Readonly` flag — whatever the other switches are. -/
theorem replay_split_asStated_false_flags (cfg : Cfg)
    (hc : cfg.clearPaused = false ∨ cfg.restoreReadonly = false) : ¬ replay_split_asStated cfg := by
  intro h
  rcases hc with hc | hc
  · have := h witnessPaused [] (witnesses_valid cfg).1 []
    revert this
    cases cfg with | mk a b c d =>
      simp only at hc; subst hc
      cases b <;> cases c <;> cases d <;> decide
  · have := h witnessReadonly [] (witnesses_valid cfg).2.1 []
    revert this
    cases cfg with | mk a b c d =>
      simp only at hc; subst hc
      cases a <;> cases c <;> cases d <;> decide

/-- **`replay_split_asStated` is false on the code as found: the paused flag.** -/
theorem replay_split_asStated_false_paused : ¬ replay_split_asStated Cfg.asFound :=
  replay_split_asStated_false_flags _ (Or.inl rfl)

/-- **… and the read-only flag.** -/
theorem replay_split_asStated_false_readonly : ¬ replay_split_asStated Cfg.asFound :=
  replay_split_asStated_false_flags _ (Or.inr rfl)

/-- **… and the consumer-group epoch**, as long as either of its two root causes is in the code:
a replayed delete that does not tell the groups (`notifyOnTombstone = false`), or an empty subscriber
heap that bumps the epoch (`emptyHeapNoEpoch = false`) — whatever the other switches are. -/
theorem replay_split_asStated_false_groupEpoch (cfg : Cfg)
    (hc : cfg.notifyOnTombstone = false ∨ cfg.emptyHeapNoEpoch = false) : ¬ replay_split_asStated cfg := by
  intro h
  rcases hc with hc | hc
  · have := h [] witnessGroupEpoch (witnesses_valid cfg).2.2.1 []
    revert this
    cases cfg with | mk a b c d =>
      simp only at hc; subst hc
      cases a <;> cases b <;> cases d <;> decide
  · have := h witnessEmptyHeapPre [.delete "a"] (witnesses_valid cfg).2.2.2 []
    revert this
    cases cfg with | mk a b c d =>
      simp only at hc; subst hc
      cases a <;> cases b <;> cases c <;> decide

/-- The group-epoch witnesses are gone on the fully repaired code. -/
theorem witnesses_allRepaired :
    obs (replay Cfg.allRepaired init [] 0 witnessGroupEpoch) = obs (run Cfg.allRepaired witnessGroupEpoch) ∧
    obs (replay Cfg.allRepaired (run Cfg.allRepaired witnessEmptyHeapPre) [] 4 [.delete "a"]) =
      obs (run Cfg.allRepaired (witnessEmptyHeapPre ++ [.delete "a"])) := by
  decide

/-- The two flag defects are gone on the repaired code (same witnesses). -/
theorem witnesses_repaired :
    obs (replay Cfg.repaired (run Cfg.repaired witnessPaused) [] 3 []) = obs (run Cfg.repaired witnessPaused) ∧
    obs (replay Cfg.repaired (run Cfg.repaired witnessReadonly) [] 2 []) = obs (run Cfg.repaired witnessReadonly) := by
  decide

/-- **Restart stability (strongest true variant).**  For EVERY valid history `pre ++ suf`, whatever
the crashed server left on disk: a server that restores the snapshot taken after `pre`, replays `suf`
in recovery mode and finishes recovery shows the same streams, partitions, replicas, leaders, ISRs,
partition and leader epochs, paused and read-only flags (run-time AND as reported by FetchMetadata),
consumer groups, coordinators and members with their subscriptions as the live server —
everything in `obs` except the consumer-group epochs (`replay_split_asStated_false_groupEpoch`).
Excluding hypothesis: every op BEFORE THE SNAPSHOT keeps the run-time and protobuf flags in step
(`OpOK`): on the repaired code that is every op; on the code as found it excludes `resume` and
`readonly on` before the snapshot point (`replay_split_asStated_false_paused/_readonly`). -/
theorem replay_split_partial (cfg : Cfg) (pre suf : List Op) (hv : Valid cfg (pre ++ suf))
    (hok : ∀ op ∈ pre, OpOK cfg op) (d : List String) :
    obsNoGroupEpoch (replay cfg (run cfg pre) d pre.length suf) = obsNoGroupEpoch (run cfg (pre ++ suf)) := by
  exact sim_finish cfg (runFrom_sim_restore (sim_restore cfg) (sim_step cfg) pre suf hv hok d) _ (Nat.le_refl _)

/-- The same with the split given as a position `k` in the log. -/
theorem replay_split_partial_at (cfg : Cfg) (ops : List Op) (k : Nat) (hk : k ≤ ops.length) (hv : Valid cfg ops)
    (hok : ∀ op ∈ ops.take k, OpOK cfg op) (d : List String) :
    obsNoGroupEpoch (replay cfg (run cfg (ops.take k)) d k (ops.drop k)) = obsNoGroupEpoch (run cfg ops) := by
  have := replay_split_partial cfg (ops.take k) (ops.drop k) (by rwa [List.take_append_drop]) hok d
  rwa [List.take_append_drop, List.length_take, Nat.min_eq_left hk] at this

/-- **On the repaired code** (fixes/C06-clear-paused.diff + fixes/C06-restore-readonly.diff) the
restart-stability statement holds for every valid history and every split, group epochs aside. -/
theorem replay_split_repaired (pre suf : List Op) (hv : Valid Cfg.repaired (pre ++ suf)) (d : List String) :
    obsNoGroupEpoch (replay Cfg.repaired (run Cfg.repaired pre) d pre.length suf) =
      obsNoGroupEpoch (run Cfg.repaired (pre ++ suf)) :=
  replay_split_partial Cfg.repaired pre suf hv (fun op _ => opOK_repaired _ rfl rfl op) d

/-- **The full-strength statement holds on the fully repaired code.**  With the four repairs
(fixes/C06-clear-paused.diff, fixes/C06-restore-readonly.diff, fixes/C12-streamdeleted-sync.diff,
fixes/C06-group-epoch-empty-heap.diff) `replay_split_asStated` is a theorem: for every valid history,
every snapshot position and whatever is on disk, the restarted server shows ALL observable metadata of
the live server — consumer-group epochs included.  Together with `replay_split_asStated_false_flags` and
`…_false_groupEpoch`: each of the four repairs is necessary, all four are sufficient. -/
theorem replay_split_allRepaired (cfg : Cfg) (h1 : cfg.clearPaused = true) (h2 : cfg.restoreReadonly = true)
    (h3 : cfg.notifyOnTombstone = true) (h4 : cfg.emptyHeapNoEpoch = true) : replay_split_asStated cfg := by
  intro pre suf hv d
  exact simE_finish cfg ⟨h3, h4⟩ (runFrom_sim_restore (simE_restore cfg) (simE_step cfg ⟨h3, h4⟩) pre suf hv
    (fun op _ => opOK_repaired cfg h1 h2 op) d) _ (Nat.le_refl _)

/-- Restoring a snapshot (nothing replayed) loses nothing observable. -/
theorem restore_snapshot_obs (cfg : Cfg) (ops : List Op) (hv : Valid cfg ops) (hok : ∀ op ∈ ops, OpOK cfg op)
    (d : List String) :
    obsNoGroupEpoch (restore cfg { disk := d } (snapshot (run cfg ops))) = obsNoGroupEpoch (run cfg ops) := by
  have hinv := live_invariant cfg ops hv hok
  have hsim := sim_restore cfg d hinv
  rw [obsNoGroupEpoch_eq, obsNoGroupEpoch_eq, hsim.streams, hsim.groups, tombNames_restore cfg d _ hinv.nodup]

/-! ### (3) restart without a snapshot -/

/-- **Replay from scratch** — for the code AS FOUND and repaired alike (no hypothesis on `cfg`):
a server that lost its snapshots and replays the whole valid log in recovery mode (deletes only
tombstone, creates un-tombstone, purge at the end) shows what the live server shows, group epochs
aside. -/
theorem replay_from_scratch (cfg : Cfg) (ops : List Op) (hv : Valid cfg ops) (d : List String) :
    obsNoGroupEpoch (replay cfg init d 0 ops) = obsNoGroupEpoch (run cfg ops) :=
  replay_split_partial cfg [] ops hv (fun _ h => by cases h) d

/-! ### (4), (5) data directories -/

/-- **No data loss.** Snapshot after `pre`, whatever (`d0`) is on disk at restart, `suf` replayed:
a stream that exists at the end of the log has its data directory after recovery, and if the
directory was there at restart it is there after EVERY replayed entry (never deleted and re-created).
No hypothesis on the flag switches and none on validity. -/
theorem replay_no_data_loss (cfg : Cfg) (pre suf : List Op) (d0 : List String) (x : String)
    (hx : x ∈ names (run cfg (pre ++ suf))) :
    x ∈ (replay cfg (run cfg pre) d0 pre.length suf).disk ∧
    (x ∈ d0 → ∀ a b, suf = a ++ b →
      x ∈ (runFrom cfg true (restore cfg { disk := d0 } (snapshot (run cfg pre))) pre.length a).disk) := by
  have hR := fun a => rinv_run cfg d0 a _ pre.length (rinv_restore cfg d0 (snapshot (run cfg pre)))
  rw [← names_replay cfg pre suf d0] at hx
  exact ⟨mem_disk_finish.2 ⟨(hR suf).covers x (names_sub_allNames hx), live_not_tomb (hR suf).nodup hx⟩,
    fun hd a b _ => (hR a).keeps x hd⟩

/-- **No resurrection.** Snapshot after `pre`, crash after `pre ++ mid` (so the disk holds what the
live server had then), log `pre ++ mid ++ post` replayed: a stream that does not exist at the end of
the log is not in the metadata after recovery and its data directory is gone. -/
theorem replay_no_resurrection (cfg : Cfg) (pre mid post : List Op) (x : String)
    (hx : x ∉ names (run cfg (pre ++ mid ++ post))) :
    x ∉ names (replay cfg (run cfg pre) (run cfg (pre ++ mid)).disk pre.length (mid ++ post)) ∧
    x ∉ (replay cfg (run cfg pre) (run cfg (pre ++ mid)).disk pre.length (mid ++ post)).disk := by
  have hLj : LInv (run cfg (pre ++ mid)) := linv_run cfg (pre ++ mid) init 0 linv_init
  generalize hd : (run cfg (pre ++ mid)).disk = d0
  have hR := rinv_run cfg d0 (mid ++ post) _ pre.length (rinv_restore cfg d0 (snapshot (run cfg pre)))
  rw [List.append_assoc, ← names_replay cfg pre (mid ++ post) d0] at hx
  refine ⟨by rw [replay, names_finish]; exact hx, fun hdisk => ?_⟩
  obtain ⟨hdisk, hnt⟩ := mem_disk_finish.1 hdisk
  -- a directory found at restart belongs to a stream of the crashed server, whose name the replay keeps
  have hall : x ∈ allNames (runFrom cfg true (restore cfg { disk := d0 } (snapshot (run cfg pre))) pre.length (mid ++ post)) := by
    refine (hR.bound x hdisk).elim (fun h1 => ?_) id
    have h2 := hLj.disk x (hd ▸ h1)
    rw [← names_eq_allNames hLj.noTomb, ← names_replay cfg pre mid d0] at h2
    rw [runFrom_append]
    exact allNames_mono_run cfg post _ _ (names_sub_allNames h2)
  exact (mem_allNames.1 hall).elim hx hnt

/-! ### the consumer groups of this model are those of C12 -/

open Liftbridge.Proofs.MetadataGroups in
/-- **The group component is the projection of the C12 model** (Model/Groups.lean, which also
carries partition assignments and heap contents): join, leave, stream-deleted and construction from a
protobuf of the C12 model, seen through `Refines` (members with subscriptions, heap keys, epoch), are
the operations used here — for every partition-count function. Assignments cannot influence anything
C06 observes. -/
theorem group_component_is_projection (parts : String → Nat) :
    (∀ (lg : Group) (g g' : Groups.Group) (id : String) (streams : List String) (e : Nat), Refines lg g →
      Groups.join parts g id streams e = .ok g' → Refines { addMember lg (id, streams) with epoch := e } g') ∧
    (∀ (lg : Group) (g g' : Groups.Group) (id : String) (e : Nat), Refines lg g →
      Groups.leave parts g id e = .ok g' →
      Refines { lg with members := lg.members.filter (fun m => decide (m.1 ≠ id)), epoch := e } g') ∧
    (∀ (cfg : Cfg) (lg : Group) (g : Groups.Group) (s : String) (e : Nat),
      cfg.emptyHeapNoEpoch = Gen.Groups.emptyHeapKeepsEpoch →
      Proofs.Groups.Inv parts g → Refines lg g →
      Refines (notifyGroup cfg s e lg) (Groups.applyOp parts g (.deleted s e))) ∧
    (∀ (gp : GroupP) (r : Bool), (gp.members.map (·.1)).Nodup →
      Refines (mkGroup gp r) (gp.members.foldl (fun g m => Groups.addMember parts m.1 m.2 g) (Groups.Group.new gp.epoch))) :=
  ⟨fun _ _ _ id streams e h hok => join_refines parts id streams e h hok,
   fun _ _ _ id e h hok => leave_refines parts id e h hok,
   fun cfg _ _ s e hc hinv h => deleted_refines parts cfg hc s e hinv h,
   fun gp r hnd => mkGroup_refines parts gp r hnd⟩

/-! ### a snapshot installed on a running server (Restore resets, then re-adds) -/

/-- `metadataAPI.Reset` forgets every stream and every consumer group (regenerated list of the
fields it re-makes) and resets the failover table. -/
theorem reset_forgets_everything (s : State) :
    (resetState s).streams = [] ∧ (resetState s).groups = [] ∧ Gen.Metadata.resetFailovers = true := by
  have h1 : "m.streams" ∈ Gen.Metadata.resetClears := by decide
  have h2 : "m.consumerGroups" ∈ Gen.Metadata.resetClears := by decide
  exact ⟨by simp [resetState, h1], by simp [resetState, h2], by decide⟩

/-- Installing a snapshot on a server in ANY state `s` is restoring it on a freshly started server
with the same data directory: nothing of the previous metadata survives `Restore`. -/
theorem install_is_restore (cfg : Cfg) (s : State) (snap : Snap) :
    install cfg s snap = restore cfg { disk := s.disk, lastPublished := s.lastPublished } snap := by
  have h := reset_forgets_everything s
  simp only [resetState] at h
  simp only [install, restore, resetState, h.1, h.2.1]

/-- Two servers with the same data directory that install the same snapshot end in the same state,
whatever each of them had applied before. -/
theorem install_discards_prior_state (cfg : Cfg) (s1 s2 : State) (snap : Snap)
    (hd : s1.disk = s2.disk) (hl : s1.lastPublished = s2.lastPublished) :
    install cfg s1 snap = install cfg s2 snap := by
  rw [install_is_restore, install_is_restore, hd, hl]

/-- An install never fails on a group id the server knew before (it would on a server whose `Reset`
keeps the consumer groups registered). -/
theorem install_never_refuses_known_group (s : State) (snap : Snap) : installErr s snap = none := by
  have h := (reset_forgets_everything s).2.1
  simp [installErr, h]

/-- non-vacuity: a server that knows a group installs a snapshot carrying the same group -/
example : let s := run Cfg.asFound [.create sA, .group { id := "g", coordinator := "x", epoch := 0, members := [("m1", ["a"])] }]
    (install Cfg.asFound s (snapshot s)).groups.map (·.id) = ["g"] ∧ s.groups.map (·.id) = ["g"] := by decide

/-! ### non-vacuity and recorded observations -/

/-- `Valid` is satisfiable by a history that uses every kind of op, deletes and re-creates a stream
and empties and re-creates a group. -/
example : Valid Cfg.asFound
    [.create sA, .create sS, .pause "a" [0] true, .readonly "s" [] true, .shrink "a" 0 "c", .expand "a" 0 "c",
     .leader "a" 0 "c", .group { id := "g", coordinator := "x", epoch := 0, members := [("m1", ["a", "s"])] },
     .join "g" "m2" ["s"], .resume "a" [0], .delete "a", .create sA, .leave "g" "m1", .leave "g" "m2",
     .group { id := "g", coordinator := "y", epoch := 0, members := [("m1", ["a"])] }, .coord "g" "z", .activity 3] := by
  decide

/-- A replay in which a deleted stream is re-created keeps the directory through the whole replay
(un-tombstone) while the live server had deleted and re-created it. -/
example : (runFrom Cfg.asFound true ({ disk := ["a"] } : State) 0 [.create sA, .delete "a"]).disk = ["a"] ∧
    (run Cfg.asFound [.create sA, .delete "a"]).disk = [] := by decide

/-- Observation (not claimed as a violation of C06: `resumeAll` is not among the listed fields):
`stream.resumeAll` is not part of the snapshot, a restart forgets it. -/
example :
    (run Cfg.asFound [.create sA, .pause "a" [] true]).streams.map (·.resumeAll) = [true] ∧
    (restore Cfg.asFound {} (snapshot (run Cfg.asFound [.create sA, .pause "a" [] true]))).streams.map (·.resumeAll) = [false] := by
  decide

/-- Observation: partitions restored from a snapshot stay in recovery mode until `finishedRecovery`
runs; `Server.Apply` calls it only when at least one log entry is replayed (the consequence on a
real server is C18's harness tag `activity-stalled-after-snapshot-restart`). -/
example :
    ((restore Cfg.asFound {} (snapshot (run Cfg.asFound [.create sA]))).streams.map fun st => st.parts.map (·.recovered)) = [[true]] ∧
    ((finish Cfg.asFound (restore Cfg.asFound {} (snapshot (run Cfg.asFound [.create sA]))) 1).streams.map fun st => st.parts.map (·.recovered)) = [[false]] := by
  decide

end Liftbridge.Props.C06
