/-
C17 at the level of the function bodies: `LocalEncryptionHandler.Read`, `decryptData` and `Seal`
(server/encryption/localkey_handler.go), translated from the code, ARE the framing model `Liftbridge.Seal`
that the C17 theorems are about - for every byte string and every behaviour of the cryptographic
primitives.

The primitives (key wrap / unwrap, AES key set-up, GCM
open, `encryptData`) are external calls answered from a `Seal.Crypto` record - the same parameter the
model takes; nothing is assumed about them.

* `go_decryptData`, `go_Read`: same value, same refusals, same panics (none, after the length guards) as
  `Seal.decryptDataWith true` / `Seal.read`, for EVERY stored byte string.
* `go_Seal`: the three `copy` calls into the `make`d buffer produce exactly `Seal.frame wrapped ct`.
-/
import Liftbridge.Proofs.GoCodeBase
import Liftbridge.Gen.GoSeal
import Liftbridge.Model.Seal

namespace Liftbridge.Props.GoSeal
open Liftbridge Liftbridge.GoMini Liftbridge.GoCode
open Liftbridge.Gen.GoSeal

theorem builtin_aes_NewCipher (v : List Val) : builtin "aes.NewCipher" [.list v] = none := by simp [builtin]
theorem builtin_cipher_NewGCM (v : List (String × Val)) : builtin "cipher.NewGCM" [.struct v] = none := by simp [builtin]

theorem translation_complete : unsupported = [] := rfl

/-- a byte slice -/
def encB (b : Bytes) : Val := .list (b.map fun x => .int (x.toNat : Int))

def decByte : Val → Option UInt8
  | .int n => some (UInt8.ofNat n.toNat)
  | _ => none

def decB : Val → Option Bytes
  | .list vs => vs.mapM decByte
  | _ => none

@[simp] theorem decB_map (b : Bytes) : decB (.list (b.map fun x => .int (x.toNat : Int))) = some b := by
  simp only [decB]
  induction b with
  | nil => rfl
  | cons x xs ih =>
    simp only [List.map_cons, List.mapM_cons, decByte, ih, Int.toNat_natCast]
    simp [UInt8.ofNat_toNat]

@[simp] theorem decB_encB (b : Bytes) : decB (encB b) = some b := decB_map b

/-- the primitives, answered from the model's `Crypto` parameter. A cipher block / GCM object carries its key. -/
def cryptoExt (c : Seal.Crypto) : Ext := fun f args _ =>
  match f, args with
  | "unwrapDEK", [_, w] => (match (decB w).bind c.unwrap with
      | some dek => some (.tup [encB dek, .nil])
      | none => some (.tup [.nil, .str "unwrap"]))
  | "aes.NewCipher", [k] => (match decB k with
      | some dek => if c.keyOk dek then some (.tup [.struct [("key", k)], .nil]) else some (.tup [.nil, .str "cipher"])
      | none => none)
  | "cipher.NewGCM", [.struct [("key", k)]] => some (.tup [.struct [("NonceSize", .int c.nonceSize), ("key", k)], .nil])
  | "Open", [.struct [("NonceSize", _), ("key", k)], _, nonce, ct, _] =>
      (match decB k, decB nonce, decB ct with
       | some dek, some n, some x => (match c.aeadOpen dek n x with
          | some p => some (.tup [encB p, .nil])
          | none => some (.tup [.nil, .str "open"]))
       | _, _, _ => none)
  | _, _ => none

def handler : Val := .struct [("defaultDEK", .nil)]

/-- the outcome as the model states it: a value, a refusal (the error text is not compared), a panic -/
inductive Outcome
  | value (p : Bytes)
  | refused
  | panics
  deriving DecidableEq, Repr

/-- `none`: the run left the subset / returned something that is no byte slice (never, by the theorems) -/
def view : R Out → Option Outcome
  | .ok o => (match o.rets with
      | [v, e] => if isNil e then (decB v).map .value else some .refused
      | _ => none)
  | .panic => some .panics
  | .stuck _ => none

def viewRes : Res Bytes → Outcome
  | .ok p => .value p
  | .err _ => .refused
  | .panic => .panics

/-- slices of an encoded byte slice are encoded slices -/
theorem enc_take_drop (b : Bytes) (h l : Nat) :
    Val.list (((b.map fun x => Val.int (x.toNat : Int)).take h).drop l) = encB ((b.take h).drop l) := by
  simp [encB, List.map_take, List.map_drop]

theorem enc_drop (b : Bytes) (l : Nat) :
    Val.list ((b.map fun x => Val.int (x.toNat : Int)).drop l) = encB (b.drop l) := by
  simp [encB, List.map_drop]

@[simp] theorem lk_Seal : evalE.lookup' "Seal" prog = some fn_LocalEncryptionHandler_Seal := by simp [prog, gomini]
@[simp] theorem lk_Read : evalE.lookup' "Read" prog = some fn_LocalEncryptionHandler_Read := by simp [prog, gomini]
@[simp] theorem lk_decryptData : evalE.lookup' "decryptData" prog = some fn_LocalEncryptionHandler_decryptData := by simp [prog, gomini]
@[simp] theorem lk_other (f : String) (h : f ∉ ["Seal", "Read", "decryptData"]) : evalE.lookup' f prog = none := by
  simp at h
  simp [prog, gomini, h]

theorem wrapS64_byte (k : UInt8) : wrapS 64 ((k.toNat : Nat) : Int) = (k.toNat : Int) := by
  have hlt : k.toNat < 256 := UInt8.toNat_lt k
  unfold wrapS
  have h1 : (((k.toNat : Nat) : Int) % (2 ^ 64 : Int)) = (k.toNat : Int) := by
    apply Int.emod_eq_of_lt <;> omega
  simp only [h1]
  split <;> omega

section read
/- what a run of `Read` / `decryptData` unfolds besides the interpreter: the encoding, the primitives, the model's guards and slicing -/
attribute [local simp] view viewRes handler isNil encB cryptoExt builtin_int builtin_aes_NewCipher builtin_cipher_NewGCM builtin_errors_New binInt
  Gen.Seal.guardEmpty Gen.Seal.guardKeyBeyond Gen.Seal.guardNonceShort Gen.Seal.keyEndOffset Gen.Seal.wrappedLo Cmp.evalNat
  index slice sliceFrom Res.bind

/-- the pair `(value, error)` that a Go function returns stands for a model result (the error text is not compared) -/
def Returns (v e : Val) : Res Bytes → Prop
  | .ok p => v = encB p ∧ e = .nil
  | .err _ => v = .nil ∧ ∃ s, e = .str s
  | .panic => False

theorem decryptData_body (c : Seal.Crypto) (n : Nat) (dek ed : Bytes) (eff : List (String × List Val)) :
    match runBlock (exec prog (cryptoExt c) (n + 8)) fn_LocalEncryptionHandler_decryptData.body
        { env := envOf [("handler", handler), ("dek", encB dek), ("encryptedData", encB ed)], eff := eff } with
    | .ok (.ret [v, e], st') => st'.env "handler" = some handler ∧ Returns v e (Seal.decryptDataWith true c dek ed)
    | _ => False := by
  unfold Seal.decryptDataWith Seal.splitNonce
  cases hk : c.keyOk dek
  · simp [fn_LocalEncryptionHandler_decryptData, gomini, hk, Returns]
  · by_cases hn : ed.length < c.nonceSize
    · simp [fn_LocalEncryptionHandler_decryptData, gomini, hk, hn, Returns]
    · have hn' : c.nonceSize ≤ ed.length := by omega
      cases ho : c.aeadOpen dek (ed.take c.nonceSize) (ed.drop c.nonceSize) <;>
        simp [fn_LocalEncryptionHandler_decryptData, gomini, ← List.map_take, ← List.map_drop, hk, hn, hn', ho, Returns]

/-- `decryptData` = the model's `decryptDataWith true` for every key and every byte string -/
theorem go_decryptData (c : Seal.Crypto) (dek ed : Bytes) :
    view (runG prog (cryptoExt c) 40 "decryptData" (some handler) [encB dek, encB ed] []) =
      some (viewRes (Seal.decryptDataWith true c dek ed)) := by
  have h := decryptData_body c 32 dek ed []
  split at h
  next v e st' hrun =>
    rw [runG_method rfl rfl rfl hrun]
    cases hm : Seal.decryptDataWith true c dek ed <;> simp [hm, Returns] at h
    · obtain ⟨-, rfl, rfl⟩ := h; simp
    · obtain ⟨-, rfl, s, rfl⟩ := h; simp
  next => exact h.elim

/-- `Read` = the model's `read` for every stored byte string -/
theorem go_Read (c : Seal.Crypto) (b : Bytes) :
    view (runG prog (cryptoExt c) 60 "Read" (some handler) [encB b] []) = some (viewRes (Seal.read c b)) := by
  unfold Seal.read Seal.readWith Seal.splitKey
  cases b with
  | nil => rfl
  | cons k rest =>
    have hw := wrapS64_byte k
    by_cases hk : rest.length + 1 < k.toNat + 1
    · have hk' : (rest.length : Int) < (k.toNat : Int) := by omega
      simp [runG, fn_LocalEncryptionHandler_Read, gomini, hw, hk, hk']
    · -- the key fits: the slices are in range
      have hk' : ¬ (rest.length : Int) < (k.toNat : Int) := by omega
      have hk2 : (k.toNat : Int) ≤ (rest.length : Int) := by omega
      have hk3 : k.toNat ≤ rest.length := by omega
      have h1 : (1 : Int) ≤ (k.toNat : Int) + 1 := by omega
      have h0 : (0 : Int) ≤ (k.toNat : Int) + 1 := by omega
      cases hu : c.unwrap (rest.take k.toNat) with
      | none => simp [runG, fn_LocalEncryptionHandler_Read, gomini, ← List.map_take, ← List.map_drop, hw, hk, hk', hk2, hk3, h1, h0, hu]
      | some dek =>
        -- the call of `decryptData` on the unwrapped key and `rest.drop k`: `decryptData_body` says what it returns
        have h := decryptData_body c 51 dek (rest.drop k.toNat) [("unwrapDEK", [encB (rest.take k.toNat)])]
        have sig : fn_LocalEncryptionHandler_decryptData.recv = some "handler" ∧
          fn_LocalEncryptionHandler_decryptData.params = ["dek", "encryptedData"] := ⟨rfl, rfl⟩
        split at h
        next v e st' hrun =>
          simp only [Nat.reduceAdd, encB, handler] at hrun
          cases hm : Seal.decryptDataWith true c dek (rest.drop k.toNat) <;> simp [hm, Returns] at h
          · obtain ⟨hh, rfl, rfl⟩ := h
            simp [runG, fn_LocalEncryptionHandler_Read, gomini, ← List.map_take, ← List.map_drop, hw, hk, hk', hk2, hk3, h1, h0, hu, sig, hrun, hh, hm]
          · obtain ⟨hh, rfl, s, rfl⟩ := h
            simp [runG, fn_LocalEncryptionHandler_Read, gomini, ← List.map_take, ← List.map_drop, hw, hk, hk', hk2, hk3, h1, h0, hu, sig, hrun, hh, hm]
        next => exact h.elim

end read

theorem ofNat_mod (n : Nat) : UInt8.ofNat (n % 256) = UInt8.ofNat n := by
  apply UInt8.toNat_inj.mp
  simp

/-- the assembled buffer decodes to the model's frame -/
theorem decB_frame (n : Nat) (w ct : Bytes) :
    decB (.list (.int (wrapU 8 (n : Int)) :: ((w.map fun x => Val.int (x.toNat : Int)) ++ (ct.map fun x => Val.int (x.toNat : Int))))) =
      some (UInt8.ofNat n :: (w ++ ct)) := by
  rw [← List.map_append]
  have h := decB_map (w ++ ct)
  simp only [decB] at h ⊢
  have hb : (wrapU 8 (n : Int)).toNat = n % 256 := by
    unfold wrapU
    omega
  simp only [List.mapM_cons, decByte, h, hb, ofNat_mod]
  rfl

/-- `encryptData` (key set-up + GCM seal with a fresh nonce) answers `er`, `wrapDEK` answers `wr`; the arguments
they are called with are in the effect trace -/
def sealExt (er : Res Bytes) (wr : Option Bytes) : Ext := fun f _ _ =>
  if f = "encryptData" then (match er with
      | .ok ct => some (.tup [encB ct, .nil])
      | _ => some (.tup [.nil, .str "cipher"]))
  else if f = "wrapDEK" then (match wr with
      | some w => some (.tup [encB w, .nil])
      | none => some (.tup [.nil, .str "wrap"]))
  else none

def handlerWith (dek : Bytes) : Val := .struct [("defaultDEK", encB dek)]

/-- outcome and the external calls with their arguments -/
def viewE : R Out → Option (Outcome × List (String × List Val))
  | .ok o => (match o.rets with
      | [v, e] => if isNil e then (decB v).map fun p => (.value p, o.eff) else some (.refused, o.eff)
      | _ => none)
  | .panic => some (.panics, [])
  | .stuck _ => none

attribute [local simp] sealExt viewE handlerWith isNil encB

/-- `Seal` with a data key in place: encrypt THIS plaintext under THIS key, wrap THIS key, and return exactly
`Seal.frame wrapped ciphertext` (the three `copy` calls into the `make`d buffer) - or the first refusal -/
theorem go_Seal (dek data : Bytes) (er : Res Bytes) (wr : Option Bytes) :
    viewE (runG prog (sealExt er wr) 60 "Seal" (some (handlerWith dek)) [encB data] []) =
      some (match er, wr with
        | .ok ct, some w => (.value (Seal.frame w ct), [("encryptData", [encB dek, encB data]), ("wrapDEK", [encB dek])])
        | .ok _, none => (.refused, [("encryptData", [encB dek, encB data]), ("wrapDEK", [encB dek])])
        | _, _ => (.refused, [("encryptData", [encB dek, encB data])])) := by
  cases er with
  | ok ct =>
    cases wr with
    | none => simp [runG, fn_LocalEncryptionHandler_Seal, gomini]
    | some w =>
      -- the buffer has room for the three copies, and each fills its window exactly
      have hsz : ¬ ((1 : Int) + (w.length : Int) + (ct.length : Int) < 0) := by omega
      have htn : ((1 : Int) + (w.length : Int) + (ct.length : Int)).toNat = 1 + w.length + ct.length := by omega
      have h1 : (1 : Int) ≤ 1 + (w.length : Int) + (ct.length : Int) := by omega
      have h2 : 1 + w.length + ct.length - 1 = w.length + ct.length := by omega
      have h3 : (1 : Int) ≤ (w.length : Int) + 1 := by omega
      have h4 : (w.length : Int) ≤ (w.length : Int) + (ct.length : Int) := by omega
      have hl1 : ∀ l : Bytes, List.take l.length (List.map (fun x : UInt8 => Val.int (x.toNat : Int)) l) = List.map (fun x : UInt8 => Val.int (x.toNat : Int)) l :=
        fun l => List.take_of_length_le (by rw [List.length_map]; exact Nat.le_refl _)
      have hl2 : ∀ x : Val, List.drop (1 + w.length) (x :: List.replicate (w.length + ct.length) Val.nil) = List.replicate ct.length Val.nil := by
        intro x
        rw [Nat.add_comm 1, List.drop_succ_cons, List.drop_replicate]
        congr 1; omega
      have h5 : (0 : Int) ≤ (w.length : Int) + 1 := by omega
      have h6 : ((w.length : Int) + (ct.length : Int) + 1 - ((w.length : Int) + 1)).toNat = ct.length := by omega
      have hl4 : ∀ x : Val, List.drop (w.length + 1 + ct.length)
          (x :: (List.map (fun x : UInt8 => Val.int (x.toNat : Int)) w ++ List.replicate ct.length Val.nil)) = [] := by
        intro x
        apply List.drop_eq_nil_of_le
        simp; omega
      simp [runG, fn_LocalEncryptionHandler_Seal, gomini, binInt, Seal.frame, decB_frame,
        hsz, htn, h1, h2, h3, h4, hl1, hl2, h5, h6, hl4]
  | _ => simp [runG, fn_LocalEncryptionHandler_Seal, gomini]

/-- … which is the model's `sealData` when the two primitives answer as the model's `Crypto` does -/
theorem go_Seal_model (c : Seal.Crypto) (dek nonce data : Bytes) :
    (viewE (runG prog (sealExt (Seal.encryptData c dek nonce data) (c.wrap dek)) 60 "Seal" (some (handlerWith dek)) [encB data] [])).map (·.1) =
      some (viewRes (Seal.sealData c dek nonce data)) := by
  rw [go_Seal]
  unfold Seal.sealData Seal.encryptData
  cases c.keyOk dek <;> cases c.wrap dek <;> rfl

/-- non-vacuity: a stored value produced by the translated `Seal` is read back by the translated `Read` with a toy
"crypto" (identity wrap, ciphertext = nonce ++ plaintext) -/
def toy : Seal.Crypto :=
  { wrap := some, unwrap := some, keyOk := fun _ => true, nonceSize := 2,
    aeadSeal := fun _ _ p => p, aeadOpen := fun _ _ x => some x }

example : view (runG prog (cryptoExt toy) 60 "Read" (some handler) [encB (Seal.frame [7, 8] ([1, 2] ++ [9, 9, 9]))] []) =
    some (.value [9, 9, 9]) := by
  rw [go_Read]; rfl

end Liftbridge.Props.GoSeal
