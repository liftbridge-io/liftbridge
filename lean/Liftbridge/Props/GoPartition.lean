/-
Follower log reconciliation of the hand-written protocol model IS the translated Go code.

`Gen/GoPartition.lean` holds the bodies of `partition.truncateUncommitted` and
`partition.truncateToHW` (server/partition.go). `go_truncateUncommitted` states, for every way the
(at most three) leader-offset requests can come back and every log, which truncation the body
performs: `Truncate(answer + 1)` for the first answer that is not a timeout, and the high-watermark
fallback (`truncateToHW`: nothing when the log ends at the HW, else `Truncate(hw + 1)`) when a
request fails or all three time out - never a truncation computed from a value no leader sent. These
are the two branches the protocol model takes in its `reconcile` / `reconcileFail` steps
(`Protocol.reconcileTruncate`, `Protocol.truncateToHW`); `model_agrees` ties the constants.
-/
import Liftbridge.Proofs.GoPartition
import Liftbridge.Gen.Protocol

namespace Liftbridge.Props.GoPartition
open Liftbridge Liftbridge.GoMini Liftbridge.GoCode
open Liftbridge.Gen.GoPartition Liftbridge.GoPartitionEnv
attribute [local gomini] runFor_succ

theorem translation_complete : unsupported = [] := rfl

theorem builtin_time_Sleep (d : Int) : builtin "time.Sleep" [.int d] = none := by simp [builtin, convert]

/-- nothing when the log ends at the high watermark, else `Truncate(hw + 1)` -/
theorem truncateToHW_body (reply : Nat → Reply) (n : Nat) (le newest hw : Int) (eff : List (String × List Val)) :
    runBlock (exec prog (reqExt reply) (n + 6)) fn_partition_truncateToHW.body { env := envOf [("p", encP le newest hw)], eff := eff } =
      .ok (.ret [.nil],
        { env := ((({ env := envOf [("p", encP le newest hw)], eff := eff } : St).set "newestOffset" (.int newest)).set "hw" (.int hw)).env,
          eff := eff ++ if newest = hw then [] else [("Truncate", [.int (hw + 1)])] }) := by
  by_cases hh : newest = hw <;> simp [fn_partition_truncateToHW, gomini, lk, encP, reqExt, binInt, hh] <;> rfl

theorem sig_truncateToHW : fn_partition_truncateToHW.recv = some "p" ∧ fn_partition_truncateToHW.params = [] := ⟨rfl, rfl⟩

theorem go_truncateUncommitted (reply : Nat → Reply) (le newest hw : Int) :
    truncationsOf (runG prog (reqExt reply) 30 "truncateUncommitted" (some (encP le newest hw)) [] globals) =
      some (match decision reply with
        | some o => [[.int (o + 1)]]
        | none => if newest = hw then [] else [[.int (hw + 1)]]) := by
  have hb := truncateToHW_body reply
  simp only [encP] at hb
  -- the replies the retry loop gets to see
  rcases h0 : reply 0 with o | _ | _
  case' timeout =>
    rcases h1 : reply 1 with o | _ | _
    case' timeout => rcases h2 : reply 2 with o | _ | _
  all_goals
    simp [runG, lk, fn_partition_truncateUncommitted, sig_truncateToHW, gomini, encP, globals, reqExt, encReply, binInt, builtin_time_Sleep,
      errTimeout, decision, truncationsOf, truncations, *]
  -- where the loop ended with an error, the `Truncate` calls are those of the fallback
  all_goals split <;> simp

/-! ### the in-sync set and its persisted form

`RemoveFromISR` / `AddToISR` keep two representations of the in-sync set: the map `p.isr` the leader
commits by, and the protobuf list `p.Isr`, which is what a partition rebuilt from the protobuf (pause /
resume, snapshot restore) - and therefore a later election - sees. For every partition state: after
the call the persisted list is EXACTLY the key set of the map after the change. -/

theorem go_RemoveFromISR (rs m : List (String × Val)) (persisted : List Val) (below : Bool) (minISR : Int) (leading : Bool)
    (r : String) (v0 : Val) (hr : lookup r rs = some v0) :
    isrView (run prog noExt 30 "RemoveFromISR" (some (encPart rs m persisted below minISR leading)) [.str r]) =
      some (some (.struct (eraseKey r m)), some (.list ((eraseKey r m).map fun e => .str e.1)), [.nil]) := by
  have hl := isr_loop 23 "replica·1" (by decide)
    [("replicas", .struct rs), ("isr", .struct (eraseKey r m)), ("Isr", .list persisted), ("belowMinISR", .bool below),
     ("minISR", .int minISR), ("isLeading", .bool leading)] (eraseKey r m) []
  simp [run, runG, lk, fn_partition_RemoveFromISR, fn_partition_inReplicas, gomini, encPart, hr]
  rw [hl _ (by simp [gomini])]
  -- the length of the in-sync set is compared with the minimum only while the partition is not yet marked as below it
  cases below
  · cases leading <;> by_cases h : ((eraseKey r m).length : Int) < minISR <;>
      simp [gomini, isrSt_p, isrSt_eff, binInt, h, isrView, fieldOf]
  · cases leading <;> simp [gomini, isrSt_p, isrSt_eff, isrView, fieldOf]

theorem go_AddToISR (rs m : List (String × Val)) (persisted : List Val) (below : Bool) (minISR : Int) (leading : Bool)
    (r : String) (v0 : Val) (hr : lookup r rs = some v0) :
    isrView (run prog noExt 30 "AddToISR" (some (encPart rs m persisted below minISR leading)) [.str r]) =
      some (some (.struct (update r (.struct [("offset", .int (-1))]) m)),
            some (.list ((update r (.struct [("offset", .int (-1))]) m).map fun e => .str e.1)), [.nil]) := by
  have hl := isr_loop 23 "replica" (by decide)
    [("replicas", .struct rs), ("isr", .struct (update r (.struct [("offset", .int (-1))]) m)), ("Isr", .list persisted), ("belowMinISR", .bool below),
     ("minISR", .int minISR), ("isLeading", .bool leading)] (update r (.struct [("offset", .int (-1))]) m) []
  simp [run, runG, lk, fn_partition_AddToISR, fn_partition_inReplicas, gomini, encPart, hr]
  rw [hl _ (by simp [gomini])]
  -- the length is compared with the minimum only while the partition is marked as below it
  cases below
  · simp [gomini, isrSt_p, isrSt_eff, isrView, fieldOf]
  · by_cases h : ((update r (.struct [("offset", .int (-1))]) m).length : Int) ≥ minISR <;>
      simp [gomini, isrSt_p, isrSt_eff, binInt, h, isrView, fieldOf]

/-- a replica the partition does not have is refused and nothing changes -/
theorem go_RemoveFromISR_not_replica (rs m : List (String × Val)) (persisted : List Val) (below : Bool) (minISR : Int) (leading : Bool)
    (r : String) (hr : lookup r rs = none) :
    isrView (run prog noExt 30 "RemoveFromISR" (some (encPart rs m persisted below minISR leading)) [.str r]) =
      some (some (.struct m), some (.list persisted), [.str "error: %s not a replica"]) := by
  simp [run, runG, lk, fn_partition_RemoveFromISR, fn_partition_inReplicas, gomini, encPart, hr, isrView, fieldOf]

/-- the constants of the protocol model's two reconciliation branches are the ones of the code:
`Truncate(lastOffset + 1)`, `newestOffset == hw ⇒ nothing`, `Truncate(hw + 1)`, and the fallback exists -/
theorem model_agrees : Gen.Protocol.truncAddend = 1 ∧ Gen.Protocol.truncHWAddend = 1 ∧
    Gen.Protocol.truncHWEqCmp = .eq ∧ Gen.Protocol.hwFallback = true := by decide

/-- non-vacuity: two timeouts, then the leader answers 7 → `Truncate(8)`; a failed request on a log
that ends above its HW → `Truncate(hw + 1)` -/
example : decision (fun k => if k < 2 then .timeout else .ok 7) = some 7 ∧ decision (fun _ => .fail) = none := by decide

end Liftbridge.Props.GoPartition
