/-
C02 — Committed messages survive leader changes; replicas never diverge below the HW.

Model: `Liftbridge/Model/Protocol.lean` (the replication protocol of one partition AS THE CODE IS)
on top of the commit-log model `Liftbridge/Model/Log.lean`. Layering (IronFleet style, DESIGN §4):

 1. the leader-epoch cache keeps its order invariant under every mutator and its binary-search
    lookups meet their specification (`assign_keeps_order` … `lastOffsetFor_spec`);
 2. the commit log records an epoch boundary in TWO ways — `NewLeaderEpoch` the last offset of the
    old epoch (`elected_convention`), `append` the first offset of the new one
    (`replicated_convention`) — which are inconsistent (`conventions_inconsistent`);
 3. the follower's `Truncate(answer + 1)` leaves a prefix of the leader's log under the elected
    convention (`C02_partial`, the KIP-101 lemma, with every hypothesis it needs spelled out) and
    keeps a divergent record under the replicated one (`truncate_replicated_keeps_divergent`) or
    when the recorded start offset is the sentinel -1 (`truncate_sentinel_keeps_divergent`);
 4. a global induction over all reachable states of the protocol is NOT done. The full statement
    is `C02_asStated`; it is FALSE for the code as it is (`C02_asStated_false`): the explicit-state
    search `Search/Protocol.lean` finds violating runs for eight distinct root causes, each
    replayed here by kernel evaluation (`*_violates`), each disappearing under the single repair
    of its root cause (`witnesses_repaired`), and each replayed on real commit logs by the harness.
 5. who may be elected, and which fetches count (sections 5 and 6 below): `replicator.tick` re-admits a
    replica to the ISR only if it was CAUGHT UP (its fetch offset reached the leader's log end) within
    max lag time — `expand_only_caught_up`, through the regenerated decision `Gen.Protocol.tickOutOfSync`
    (connective and both comparison operators), the regenerated (outOfSync, inISR) action table and the
    regenerated refresh rule of `lastCaughtUp`; within a term such a replica really stores the log up to
    that offset (`isr_reentry_sound_within_term`); the controller elects from its ISR only, which grows
    only by committed expand proposals, which only `tick` makes. A follower's fetch carries the term it
    follows (regenerated struct literal of `sendReplicationRequest`), that term is never 0, and a leader
    of another term ignores it entirely (`stale_term_fetch_never_counts`, through the regenerated
    rejection rule of `handleReplicationRequest`).
-/
import Liftbridge.Model.Protocol
import Liftbridge.Proofs.Epochs
import Liftbridge.Proofs.Reconcile
import Liftbridge.Proofs.Protocol
import Liftbridge.Proofs.ProtocolInv
import Liftbridge.Proofs.ProtocolIsr
import Liftbridge.Props.C04

namespace Liftbridge.Props.C02
open Liftbridge Liftbridge.Log Liftbridge.Log.CLog Liftbridge.Protocol
open Liftbridge.Proofs.Log Liftbridge.Proofs.Epochs Liftbridge.Proofs.Reconcile Liftbridge.Proofs.Protocol

/-! ### 1. the leader-epoch cache -/

/-- `assign` keeps the cache strictly increasing in epoch and non-decreasing in start offset. -/
theorem assign_keeps_order (c : Epochs) (e : Nat) (o : Int) (h : EpochsOK c) : EpochsOK (c.assign e o) :=
  assign_ok h e o

/-- `ClearLatest` (truncation) keeps it. -/
theorem clearLatest_keeps_order (c : Epochs) (o : Int) (h : EpochsOK c) : EpochsOK (c.clearLatest o) :=
  clearLatest_ok h o

/-- `ClearEarliest` (log open, retention) keeps it. -/
theorem clearEarliest_keeps_order (c : Epochs) (o : Int) (h : EpochsOK c) : EpochsOK (c.clearEarliest o) :=
  clearEarliest_ok h o

/-- On an ordered cache the literal `sort.Search` of `findEpoch` finds the first entry with an
epoch `≥ e` … -/
theorem findEpoch_spec (c : Epochs) (e : Nat) (h : EpochsOK c) :
    c.findEpoch e = c.find? (fun x => decide (e ≤ x.1)) :=
  Proofs.Epochs.findEpoch_spec h e

/-- … so `LastOffsetForLeaderEpoch(e)` of the cache is the start offset recorded for the first
epoch greater than `e`, or the sentinel -1. -/
theorem lastOffsetFor_spec (c : Epochs) (e : Nat) (h : EpochsOK c) :
    c.lastOffsetFor e = match c.find? (fun x => decide (e < x.1)) with
      | some x => x.2
      | none => -1 :=
  Proofs.Epochs.lastOffsetFor_spec h e

/-! ### 2. two conventions for one boundary -/

/-- `NewLeaderEpoch(e)` (election) on a log holding only older epochs records `(e, newest)`: the LAST
offset of the epochs before `e`. -/
theorem elected_convention (l : CLog) (e : Nat) (h : Inv l)
    (hold : ∀ r ∈ l.abs, r.epoch < e) (he : l.epochs.latestEpoch < e) (ho : l.epochs.latestOffset ≤ l.newest)
    (hempty : l.abs = [] → l.newest = -1) :
    (l.newLeaderEpoch e).epochs = l.epochs ++ [(e, l.newest)] ∧ l.newest = lastOffLT l.abs e :=
  newLeaderEpoch_elected h hold he ho hempty

/-- Appending the first record of a newer epoch `e` (replication, or a recovered leader's first
append) records `(e, that record's offset)`: the FIRST offset of epoch `e`. -/
theorem replicated_convention (l l' : CLog) (r : Rec) (offs : List Int) (h : Inv l)
    (hold : ∀ x ∈ l.abs, x.epoch < r.epoch) (he : l.epochs.latestEpoch < r.epoch)
    (ho : l.epochs.latestOffset ≤ r.offset) (ha : l.appendSet [r] = .ok (l', offs)) :
    l'.epochs = l.epochs ++ [(r.epoch, r.offset)] ∧ firstOffGE l'.abs r.epoch = some r.offset :=
  appendSet_replicated h hold he ho ha

def recOf (o : Int) (e mid : Nat) : Rec := { offset := o, ts := (mid : Int) + 1, epoch := e, body := bodyOf mid }

def okLog : Res (CLog × List Int) → CLog
  | .ok (l, _) => l
  | _ => CLog.init 1024 false

/-- A leader that was elected for epoch 1 and then wrote message 0 … -/
def electedLog : CLog :=
  okLog (((CLog.init 1024 false).newLeaderEpoch 1).append [{ ts := 1, epoch := 1, body := bodyOf 0 }])

/-- … and a follower that replicated that very record. -/
def replicatedLog : CLog := okLog ((CLog.init 1024 false).appendSet [recOf 0 1 0])

/-- The two conventions are inconsistent: two logs with IDENTICAL records whose caches differ
(`1@-1` against `1@0`); each satisfies its own convention and violates the other. -/
theorem conventions_inconsistent :
    electedLog.abs = replicatedLog.abs ∧ electedLog.epochs = [(1, -1)] ∧ replicatedLog.epochs = [(1, 0)] ∧
    CacheInvElected electedLog ∧ ¬ CacheInvReplicated electedLog ∧
    CacheInvReplicated replicatedLog ∧ ¬ CacheInvElected replicatedLog := by
  decide +kernel

/-! ### 3. what `Truncate(answer + 1)` does -/

/-- KIP-101, one round, for the ELECTED convention (the strongest true variant of C02 that is
proved): follower log `F = P ++ SF`, leader log `L = P ++ SL` with common prefix `P`; `e` bounds
the epochs of `P` (the follower asks for its last epoch). If (a) whenever the follower has a
suffix of its own the leader's suffix consists of later epochs only, (b) the leader's cache is
ordered and follows the elected convention, (c) it has an entry `p` for the first epoch after `e`
with no records of epochs in between, and (d) the recorded start offset is not the sentinel -1,
then the reconciled follower log is a prefix of the leader's log. -/
theorem C02_partial (F L : CLog) (P SF SL : List Rec) (e : Nat) (p : Nat × Int) (hF : Inv F)
    (hFabs : F.abs = P ++ SF) (hLabs : L.abs = P ++ SL)
    (hPe : ∀ r ∈ P, r.epoch ≤ e) (hdiv : SF ≠ [] → ∀ r ∈ SL, e < r.epoch)
    (hok : EpochsOK L.epochs) (hinv : CacheInvElected L)
    (hp : L.epochs.find? (fun x => decide (e < x.1)) = some p)
    (hgap : ∀ r ∈ L.abs, r.epoch ≤ e ∨ p.1 ≤ r.epoch) (hsent : p.2 ≠ -1) :
    (F.truncate (L.lastOffsetForLeaderEpoch e + 1)).abs <+: L.abs :=
  reconcile_elected_prefix hF hFabs hLabs hPe hdiv hok hinv hp hgap hsent

/-- The follower of the witnesses: message 0 (epoch 1) replicated, message 1 (epoch 1) its own. -/
def followerLog : CLog := okLog ((CLog.init 1024 false).appendSet [recOf 0 1 0, recOf 1 1 1])

/-- A leader of epoch 3 that learned epoch 2 BY REPLICATION (message 2 at offset 1): cache
`1@0, 2@1, 3@1`. -/
def leaderByReplication : CLog :=
  (okLog ((okLog ((CLog.init 1024 false).appendSet [recOf 0 1 0])).appendSet [recOf 1 2 2])).newLeaderEpoch 3

/-- The same records with the boundary of epoch 2 recorded the elected way (`2@0`). -/
def leaderByElection : CLog :=
  { leaderByReplication with epochs := [(1, -1), (2, 0), (3, 1)] }

/-- Under the replicated convention the answer for epoch 1 is 1, the follower truncates to 2 and
KEEPS its own message at offset 1 where the leader holds another one; with the elected entry the
answer is 0 and the result is a prefix of the leader's log. -/
theorem truncate_replicated_keeps_divergent :
    leaderByReplication.lastOffsetForLeaderEpoch 1 = 1 ∧
    ¬ ((followerLog.truncate (leaderByReplication.lastOffsetForLeaderEpoch 1 + 1)).abs <+: leaderByReplication.abs) ∧
    leaderByElection.abs = leaderByReplication.abs ∧ leaderByElection.lastOffsetForLeaderEpoch 1 = 0 ∧
    (followerLog.truncate (leaderByElection.lastOffsetForLeaderEpoch 1 + 1)).abs <+: leaderByElection.abs := by
  decide +kernel

/-- A leader elected for epoch 2 with an EMPTY log (cache `2@-1`) that then wrote message 2. -/
def leaderFromEmpty : CLog :=
  okLog (((CLog.init 1024 false).newLeaderEpoch 2).append [{ ts := 3, epoch := 2, body := bodyOf 2 }])

/-- A follower holding one uncommitted message of epoch 1. -/
def followerOne : CLog := okLog ((CLog.init 1024 false).appendSet [recOf 0 1 0])

/-- The recorded start offset -1 is taken for 'no later epoch': the answer is the log end 0, the
follower keeps its epoch-1 message at offset 0 where the leader holds the epoch-2 message —
hypothesis (d) of `C02_partial` cannot be dropped. -/
theorem truncate_sentinel_keeps_divergent :
    leaderFromEmpty.epochs = [(2, -1)] ∧ CacheInvElected leaderFromEmpty ∧
    leaderFromEmpty.lastOffsetForLeaderEpoch 1 = 0 ∧
    ¬ ((followerOne.truncate (leaderFromEmpty.lastOffsetForLeaderEpoch 1 + 1)).abs <+: leaderFromEmpty.abs) := by
  decide +kernel

/-- The facts about partition.go / replicator.go / commitlog.go the model's glue relies on, as
regenerated from the source on every run: the only assignment to a replica offset is the max-only
update and replica objects are only created by newPartition, AddToISR (-1) and becomeLeader's
missing-self case (-1) — so the offsets survive across this server's terms — OR (after repair
fixes/C04-isr-offsets-reset.diff) there is one more setter, which becomeLeader applies to every
ISR member; `NewLeaderEpoch`
assigns `(epoch, NewestOffset()+0)`, `append` assigns `(entry.LeaderEpoch, entry.Offset)`; the
follower asks for `LastLeaderEpoch()`, the leader answers `LastOffsetForLeaderEpoch(req.LeaderEpoch)`,
the follower truncates to answer+1 and falls back to HW+1; the HW is adopted before the data is
appended; the commit loop sets the HW to the minimum; a recovered leader skips `NewLeaderEpoch`. -/
theorem glue_facts :
    ((Gen.Protocol.offsetAssignSites = ["replica.updateLatestOffset"] ∧ Gen.Protocol.becomeLeaderResetsOffsets = false) ∨
     (Gen.Protocol.offsetAssignSites = ["replica.resetLatestOffset", "replica.updateLatestOffset"] ∧
      Gen.Protocol.becomeLeaderResetsOffsets = true)) ∧
    Gen.Protocol.updateOffsetCmp = .gt ∧
    Gen.Protocol.replicaLiteralSites = ["Server.newPartition:offset", "partition.AddToISR:-1", "partition.becomeLeader:-1"] ∧
    Gen.Protocol.electedAssignEpochArg = "epoch" ∧ Gen.Protocol.electedAssignAddend = 0 ∧
    Gen.Protocol.replicatedAssignEpochArg = "entry.LeaderEpoch" ∧ Gen.Protocol.replicatedAssignOffsetArg = "entry.Offset" ∧
    Gen.Protocol.reconcileUsesLastLeaderEpoch = true ∧ Gen.Protocol.reconcileEpochArg = "leaderEpoch" ∧
    Gen.Protocol.offsetAnswerArg = "req.LeaderEpoch" ∧ Gen.Protocol.truncAddend = 1 ∧
    Gen.Protocol.hwFallback = true ∧ Gen.Protocol.truncHWAddend = 1 ∧ Gen.Protocol.hwBeforeAppend = true ∧
    Gen.Protocol.commitSetsHW = "minLatest" ∧ Gen.Protocol.serveUpdatesOffsetArg = "req.Offset" ∧
    Gen.Protocol.becomeLeaderOwnOffsetArg = "p.log.NewestOffset()" ∧ Gen.Protocol.recoveredSkipsNewEpoch = true :=
  ⟨by decide, rfl, rfl, rfl, rfl, rfl, rfl, rfl, rfl, rfl, rfl, rfl, rfl, rfl, rfl, rfl, rfl, rfl⟩

/-! ### 4. the full statement and its negation -/

/-- C02 as stated, over every run of the protocol model from the initial state (`g` = the ghost
history of records that were committed in the sense of the property: at or below the HW of a
leader while every member of the ISR stored them): (a) no committed record is missing or
different in the log of a server that leads in a later epoch; (b) no two replicas hold different
records at an offset at or below both of their HWs. -/
def C02_asStated (c : Cfg) : Prop :=
  ∀ steps st g, grun c (init c) [] steps = some (st, g) → lostCommitted st g = [] ∧ divergedBelowHW st = []

/-- Search witness `epoch-boundary-off-by-one` (corpus/C02): F-C02-a as in DESIGN §6: server 0 leads epoch 1 and crashes with an unreplicated message; server 1 leads epoch 2 (elected: records 2@-1), server 2 learns epoch 2 BY REPLICATION (records 2@0, the first offset), is elected for epoch 3 and answers server 0's reconciliation request one too high: server 0 keeps its epoch-1 message at offset 0 where the others hold the epoch-2 message. -/
def epochBoundaryWitness : List IStep :=
  [.raftCommit (.create 0), .applyNext 0, .publish 0 [{ mid := 0, cid := 100, policy := .all }], .commit 0, .applyNext 1, .offServe 0 0, .reconcile 1 0, .applyNext 2, .offServe 0 0, .reconcile 2 0, .crash 0, .electDecision 1, .raftCommit (.changeLeader 1), .applyNext 1, .publish 1 [{ mid := 1, cid := 101, policy := .all }], .commit 1, .applyNext 2, .offServe 1 0, .reconcile 2 0, .fetch 2, .serve 1 0, .applyResp 2 0, .electDecision 2, .raftCommit (.changeLeader 2), .applyNext 2, .restart 0 3, .offServe 2 0, .reconcile 0 0, .fetch 0, .serve 2 0, .applyResp 0 0, .commit 2, .applyNext 1, .offServe 2 0, .reconcile 1 0, .fetch 1, .serve 2 0, .applyResp 1 0, .commit 2, .fetch 0, .serve 2 0, .applyResp 0 0]

/-- Search witness `epoch-boundary-recovered-leader` (corpus/C02): same root cause, other route: a leader elected while down restarts with `recovered` set, skips `NewLeaderEpoch`, and its cache learns the epoch from its own first `append` (first offset). -/
def recoveredLeaderWitness : List IStep :=
  [.raftCommit (.create 0), .applyNext 0, .publish 0 [{ mid := 0, cid := 100, policy := .all }], .commit 0, .applyNext 1, .offServe 0 0, .reconcile 1 0, .fetch 1, .serve 0 0, .applyResp 1 0, .crash 2, .electDecision 2, .raftCommit (.changeLeader 2), .restart 2 2, .publish 2 [{ mid := 1, cid := 101, policy := .all }], .commit 2, .applyNext 0, .offServe 2 0, .reconcile 0 0, .fetch 0, .serve 2 0, .applyResp 0 0, .commit 2, .applyNext 1, .offServe 2 0, .reconcile 1 0, .fetch 1, .serve 2 0, .applyResp 1 0, .commit 2, .fetch 0, .serve 2 0, .applyResp 0 0]

/-- Search witness `epoch-start-minus-one-sentinel` (corpus/C02): a leader elected with an empty log records its epoch at offset -1; `LastOffsetForLeaderEpoch` reads that -1 as 'no later epoch' and answers the log end. -/
def sentinelWitness : List IStep :=
  [.raftCommit (.create 0), .applyNext 0, .publish 0 [{ mid := 0, cid := 100, policy := .all }], .commit 0, .applyNext 1, .offServe 0 0, .reconcile 1 0, .fetch 1, .serve 0 0, .applyResp 1 0, .applyNext 2, .offServe 0 0, .reconcile 2 0, .electDecision 2, .raftCommit (.changeLeader 2), .applyNext 2, .publish 2 [{ mid := 1, cid := 101, policy := .all }], .commit 2, .applyNext 0, .offServe 2 0, .reconcile 0 0, .fetch 0, .serve 2 0, .applyResp 0 0, .commit 2, .applyNext 1, .offServe 2 0, .reconcile 1 0, .fetch 1, .serve 2 0, .applyResp 1 0, .commit 2, .fetch 0, .serve 2 0, .applyResp 0 0]

/-- Search witness `isr-reentry-stale-caught-up` (corpus/C02): F-C02-c: a replica re-enters the ISR on a stale 'caught up' flag, is elected and lacks a committed message. -/
def isrReentryWitness : List IStep :=
  [.raftCommit (.create 0), .applyNext 0, .shrinkDecision 0 1, .raftCommit (.shrink 1), .applyNext 0, .commit 0, .applyNext 1, .offServe 0 0, .reconcile 1 0, .applyNext 1, .fetch 1, .serve 0 0, .applyResp 1 0, .publish 0 [{ mid := 0, cid := 100, policy := .all }], .commit 0, .applyNext 2, .offServe 0 0, .reconcile 2 0, .fetch 2, .serve 0 0, .applyResp 2 0, .fetch 2, .serve 0 0, .applyResp 2 0, .commit 0, .expandDecision 0 1, .raftCommit (.expand 1), .applyNext 1, .electDecision 1, .raftCommit (.changeLeader 1), .applyNext 1]

/-- Search witness `hw-fallback-truncation` (corpus/C02): F-C02-d: followers apply the leader change before the new leader does, the leader-offset RPC finds nobody, they truncate to their own (lagging) HW; one of them is elected next. -/
def hwFallbackWitness : List IStep :=
  [.raftCommit (.create 0), .applyNext 0, .publish 0 [{ mid := 0, cid := 100, policy := .all }], .commit 0, .applyNext 1, .offServe 0 0, .reconcile 1 0, .fetch 1, .serve 0 0, .applyResp 1 0, .fetch 1, .serve 0 0, .applyResp 1 0, .commit 0, .applyNext 2, .offServe 0 0, .reconcile 2 0, .fetch 2, .serve 0 0, .applyResp 2 0, .fetch 2, .serve 0 0, .applyResp 2 0, .commit 0, .electDecision 1, .raftCommit (.changeLeader 1), .applyNext 0, .reconcileFail 0, .applyNext 2, .reconcileFail 2, .electDecision 2, .raftCommit (.changeLeader 2), .applyNext 2]

/-- Search witness `reconcile-answered-by-stale-leader` (corpus/C02): the leader-offset request of a follower of the NEW leader is answered by the deposed leader, which still leads in its own view. -/
def staleLeaderWitness : List IStep :=
  [.raftCommit (.create 0), .applyNext 0, .publish 0 [{ mid := 0, cid := 100, policy := .all }], .commit 0, .applyNext 1, .offServe 0 0, .reconcile 1 0, .fetch 1, .serve 0 0, .applyResp 1 0, .applyNext 2, .offServe 0 0, .reconcile 2 0, .electDecision 2, .raftCommit (.changeLeader 2), .applyNext 1, .offServe 0 0, .reconcile 1 0, .applyNext 2, .applyNext 0, .offServe 2 0, .reconcile 0 0, .fetch 1, .serve 2 0, .applyResp 1 0, .commit 2, .publish 2 [{ mid := 1, cid := 101, policy := .all }], .commit 2, .fetch 0, .serve 2 0, .applyResp 0 0, .fetch 0, .serve 2 0, .applyResp 0 0, .commit 2, .fetch 1, .serve 2 0, .applyResp 1 0]

/-- Search witness `reconcile-epoch-unknown-to-leader` (corpus/C02): one-round reconciliation: the leader (elected while down, restarted) never saw the follower's last epoch and answers its log end. -/
def unknownEpochWitness : List IStep :=
  [.raftCommit (.create 0), .applyNext 0, .publish 0 [{ mid := 0, cid := 100, policy := .all }], .commit 0, .shrinkDecision 0 1, .raftCommit (.shrink 1), .applyNext 2, .offServe 0 0, .reconcile 2 0, .crash 0, .applyNext 2, .electDecision 2, .raftCommit (.changeLeader 2), .applyNext 2, .publish 2 [{ mid := 1, cid := 101, policy := .all }], .commit 2, .electDecision 0, .raftCommit (.changeLeader 0), .restart 0 4, .applyNext 2, .offServe 0 0, .reconcile 2 0, .fetch 2, .serve 0 0, .applyResp 2 0, .commit 0, .fetch 2, .serve 0 0, .applyResp 2 0]

/-- Search witness `check-then-propose-race` (corpus/C02): F-C07-c seen from C02: a ChangeLeader proposed before, committed after, a ShrinkISR of the same replica. -/
def proposeRaceWitness : List IStep :=
  [.raftCommit (.create 0), .applyNext 0, .publish 0 [{ mid := 0, cid := 100, policy := .all }], .commit 0, .shrinkDecision 0 1, .applyNext 1, .offServe 0 0, .reconcile 1 0, .applyNext 2, .offServe 0 0, .reconcile 2 0, .fetch 2, .serve 0 0, .applyResp 2 0, .fetch 2, .serve 0 0, .applyResp 2 0, .commit 0, .electDecision 1, .raftCommit (.shrink 1), .applyNext 0, .commit 0, .applyNext 1, .raftCommit (.changeLeader 1), .applyNext 1]

/-- The epoch-boundary witness ends in a state where two replicas differ below both HWs. -/
theorem epochBoundary_violates : unsafeCount {} epochBoundaryWitness = some (0, 1) := by decide +kernel
theorem recoveredLeader_violates : unsafeCount {} recoveredLeaderWitness = some (0, 1) := by decide +kernel
theorem sentinel_violates : unsafeCount {} sentinelWitness = some (0, 1) := by decide +kernel
/-- … a committed record is missing in the log of the later leader. -/
theorem isrReentry_violates : unsafeCount {} isrReentryWitness = some (1, 0) := by decide +kernel
theorem hwFallback_violates : unsafeCount {} hwFallbackWitness = some (1, 0) := by decide +kernel
theorem staleLeader_violates : unsafeCount {} staleLeaderWitness = some (0, 1) := by decide +kernel
theorem unknownEpoch_violates : unsafeCount {} unknownEpochWitness = some (0, 1) := by decide +kernel
theorem proposeRace_violates : unsafeCount {} proposeRaceWitness = some (1, 0) := by decide +kernel

/-- A path of the model that ends with a lost committed record or with a divergence below both HWs
refutes C02 as stated for that configuration. -/
theorem not_asStated_of_witness {c : Cfg} {is : List IStep} {n m : Nat} (h : unsafeCount c is = some (n, m))
    (hnm : n ≠ 0 ∨ m ≠ 0) : ¬ C02_asStated c := by
  intro hall
  simp only [unsafeCount, Option.map_eq_some_iff, Prod.mk.injEq] at h
  obtain ⟨⟨st, g⟩, hrun, rfl, rfl⟩ := h
  obtain ⟨steps, hsteps⟩ := igrun_grun c _ _ _ _ hrun
  obtain ⟨h1, h2⟩ := hall steps st g hsteps
  simp [h1, h2] at hnm

/-- C02 as stated does not hold for the protocol as it is. -/
theorem C02_asStated_false : ¬ C02_asStated {} :=
  not_asStated_of_witness epochBoundary_violates (Or.inr (by decide))

/-- Attribution: the same runs, replayed leniently (steps that a repair disables are skipped) in
the model variant with the SINGLE repair of the respective root cause, show no violation. -/
theorem witnesses_repaired :
    (let c : Cfg := { fixes := { epochBoundary := true } }; replayLenient c (init c) [] [] epochBoundaryWitness = []) ∧
    (let c : Cfg := { fixes := { epochBoundary := true } }; replayLenient c (init c) [] [] recoveredLeaderWitness = []) ∧
    (let c : Cfg := { fixes := { sentinel := true } }; replayLenient c (init c) [] [] sentinelWitness = []) ∧
    (let c : Cfg := { fixes := { expandNow := true } }; replayLenient c (init c) [] [] isrReentryWitness = []) ∧
    (let c : Cfg := { fixes := { noFallback := true } }; replayLenient c (init c) [] [] hwFallbackWitness = []) ∧
    (let c : Cfg := { fixes := { fenceOffset := true } }; replayLenient c (init c) [] [] staleLeaderWitness = []) ∧
    (let c : Cfg := { fixes := { kip101 := true } }; replayLenient c (init c) [] [] unknownEpochWitness = []) ∧
    (let c : Cfg := { fixes := { atomicPropose := true } }; replayLenient c (init c) [] [] proposeRaceWitness = []) := by
  decide +kernel

/-- Within a leadership term the leader's view is sound: if every recorded offset `isrOff r = v`
is at most the newest offset of replica `r`'s log (and the in-flight requests, responses and the
logs are well-formed: `TermInv`), this stays so after every step that neither changes a role nor
truncates a log (publish, fetch, serve, apply, commit, message loss, ISR decisions, proposals and
Raft commits). It holds initially (`termInv_init`); `becomeLeader` of a server that led before
does NOT re-establish it (C04 `isrOff_unsound_across_terms`), nor does a HW-fallback truncation. -/
theorem leader_view_sound_within_term (c : Cfg) (steps : List Step) (st st' : State) (J : TermInv st)
    (hin : ∀ s ∈ steps, InTerm s) (h : run c st steps = some st') :
    TermInv st' ∧ ∀ l sv, st'.get l = some sv → ∀ r v, lookup sv.isrOff r = some v →
      ∃ sr, st'.get r = some sr ∧ v ≤ sr.log.newest :=
  C04.isrOff_sound_within_term c steps st st' J hin h

/-! ### 5. ISR membership as `replicator.tick` decides it -/

/-- The facts about replicator.go / partition.go sections 5 and 6 rely on, as regenerated on every
run: `outOfSync := lastSeenElapsed > maxLagTime || lastCaughtUpElapsed > maxLagTime` (both elapsed
times measured from `r.lastSeen` / `r.lastCaughtUp`); `tick` calls `shrinkISR()` exactly for
(outOfSync, inISR) and `expandISR()` exactly for (¬outOfSync, ¬inISR); `r.lastSeen` is set by every
request (and at start), `r.lastCaughtUp` only by `r.caughtUp` (and at start), which `start` calls only
under `if req.Offset >= latest` with `latest = r.partition.log.NewestOffset()`; the follower's request
carries ReplicaID, Offset = `p.log.NewestOffset()` and LeaderEpoch = the epoch its replication loop was
started for; the leader drops a request iff `req.LeaderEpoch != 0 && req.LeaderEpoch != p.LeaderEpoch`. -/
theorem isr_glue_facts :
    Gen.Protocol.tickOutOfSync = .or (.atom 0 .gt) (.atom 1 .gt) ∧
    Gen.Protocol.tickElapsedSrc = ["lastCaughtUpElapsed=now.Sub(r.lastCaughtUp)", "lastSeenElapsed=now.Sub(r.lastSeen)", "now=time.Now()"] ∧
    Gen.Protocol.tickShrinkWhen = [(true, true)] ∧ Gen.Protocol.tickExpandWhen = [(false, false)] ∧
    Gen.Protocol.timerAssignSites = ["replicator.caughtUp:r.lastCaughtUp=req.received@", "replicator.start:r.lastCaughtUp=now@",
      "replicator.start:r.lastSeen=now@", "replicator.start:r.lastSeen=req.received@"] ∧
    Gen.Protocol.caughtUpGuarded = true ∧ Gen.Protocol.caughtUpCmp = .ge ∧
    Gen.Protocol.fetchFields = ["LeaderEpoch=leaderEpoch", "Offset=p.log.NewestOffset()", "ReplicaID=p.srv.config.Clustering.ServerID"] ∧
    Gen.Protocol.fetchCarriesEpoch = true ∧ Gen.Protocol.fetchOffsetIsNewest = true ∧
    Gen.Protocol.replReqReject = .and (.atom 0 .ne) (.atom 1 .ne) :=
  ⟨rfl, rfl, rfl, rfl, rfl, rfl, rfl, rfl, rfl, rfl, rfl⟩

/-- What `tick` computes: a replica is out of sync iff it was not SEEN or was not CAUGHT UP within
max lag time (the model evaluates the regenerated decision; this is its reading). -/
theorem tick_out_of_sync_rule (sv : Srv) (r : Sid) :
    outOfSync sv r = (!sv.seen.contains r || (lookup sv.caughtUp r).isNone) :=
  outOfSync_eq sv r

/-- The "caught up" flag of replica `src` is refreshed by a fetch only if the fetch offset reached
the leader's log end (`req.Offset >= latest`). -/
theorem caught_up_only_at_log_end (c : Cfg) (sv : Srv) (src : Sid) (off : Int) (ep rid : Nat) (x : Sid) (w : Int)
    (h : lookup (serveStep c sv src off ep rid).1.caughtUp x = some w) :
    lookup sv.caughtUp x = some w ∨ (x = src ∧ w = off ∧ sv.log.newest ≤ off) := by
  rcases serveStep_cases c sv src off ep rid with e | ⟨_, cu, _, e, hcu, _⟩ <;> rw [e] at h
  · exact Or.inl h
  · exact hcu x w h

/-- ISR re-entry: a leader's `tick` proposes `ExpandISR r` only for a replica outside its ISR that
is recorded as CAUGHT UP within max lag time — being seen (alive, fetching) is not enough —, at
some offset `v`; with the repair `expandNow` that offset covers the leader's HW. -/
theorem expand_only_caught_up (c : Cfg) (st st' : State) (l r : Sid)
    (h : step c st (.expandDecision l r) = some st') :
    ∃ sv v, st.get l = some sv ∧ isLeaderUp sv = true ∧ (keys sv.isrOff).contains r = false ∧
      lookup sv.caughtUp r = some v ∧ (c.fixes.expandNow = true → sv.log.hw ≤ v) := by
  cases Steps.of_step h with
  | expandDecision sv hsv hl ht hnow =>
    obtain ⟨⟨v, hv⟩, _, hin⟩ := tickExpands_caughtUp ht
    exact ⟨sv, v, hsv, hl, hin, hv, fun hf => by simpa [hv] using hnow hf⟩

/-- … and within a leadership term (`TermInv`, steps that neither change roles nor truncate) that
replica REALLY stores its log up to the offset at which it was seen caught up; with the repair
`expandNow` (known finding isr-reentry-stale-caught-up) up to the leader's HW, i.e. every committed
offset. -/
theorem isr_reentry_sound_within_term (c : Cfg) (steps : List Step) (st st' st'' : State) (J : TermInv st)
    (hin : ∀ s ∈ steps, InTerm s) (h : run c st steps = some st') (l r : Sid)
    (hx : step c st' (.expandDecision l r) = some st'') :
    ∃ sv v sr, st'.get l = some sv ∧ lookup sv.caughtUp r = some v ∧ st'.get r = some sr ∧ v ≤ sr.log.newest ∧
      (c.fixes.expandNow = true → sv.log.hw ≤ sr.log.newest) := by
  obtain ⟨sv, v, h1, _, _, h4, h5⟩ := expand_only_caught_up c st' st'' l r hx
  obtain ⟨sr, hsr, hle⟩ := (termInv_run c steps st st' J hin h).cu l sv h1 r v h4
  exact ⟨sv, v, sr, h1, h4, hsr, hle, fun hf => Int.le_trans (h5 hf) hle⟩

/-- The controller elects a member of ITS ISR other than the current leader … -/
theorem elected_from_isr (c : Cfg) (st st' : State) (cand : Sid) (h : step c st (.electDecision cand) = some st') :
    cand ∈ (metaView c.n st.committed).isr ∧ cand ≠ (metaView c.n st.committed).leader := by
  cases Steps.of_step h with
  | electDecision hne hin => exact ⟨hin, hne⟩

/-- … that ISR gains a member only by a committed `ExpandISR` of that member (or at creation) … -/
theorem isr_member_was_expanded (n : Nat) (ops : List MetaOp) (op : MetaOp) (r : Sid)
    (h : r ∈ (metaView n (ops ++ [op])).isr) :
    r ∈ (metaView n ops).isr ∨ op = .expand r ∨ ∃ l, op = .create l := by
  unfold metaView at h ⊢
  rw [metaFrom_append] at h
  cases op with
  | create l => exact Or.inr (Or.inr ⟨l, rfl⟩)
  | shrink x => exact Or.inl (List.mem_filter.mp h).1
  | expand x => exact (mem_sInsert h).imp_right fun h => Or.inl (congrArg MetaOp.expand h.symm)
  | changeLeader l => exact Or.inl h

/-- … and an `ExpandISR r` proposal is only ever made by a leader's `tick` (`expand_only_caught_up`). -/
theorem expand_proposed_only_by_tick (c : Cfg) (st st' : State) (s : Step) (r : Sid) (h : step c st s = some st')
    (hm : MetaOp.expand r ∈ st'.proposed) : MetaOp.expand r ∈ st.proposed ∨ ∃ l, s = .expandDecision l r := by
  -- the steps that propose append one op; a Raft commit only takes one away
  have last : ∀ {op}, MetaOp.expand r ∈ st.proposed ++ [op] → MetaOp.expand r ∈ st.proposed ∨ op = .expand r :=
    fun h => (List.mem_append.mp h).imp_right fun h => (List.mem_singleton.mp h).symm
  cases Steps.of_step h with
  | shrinkDecision | electDecision => exact (last hm).imp_right (by intro h; cases h)
  | expandDecision => exact (last hm).imp_right fun h => ⟨_, by cases h; rfl⟩
  | raftCommit => exact Or.inl (mem_removeFirst hm)
  | _ => exact Or.inl hm

/-- Guard scenario `isr-reentry-not-caught-up` (corpus/C02/guards): replica 1 is removed from the
ISR, the leader commits message 0 with the remaining ISR, replica 1 fetches from behind (offset -1)
and the response is lost — it is seen, not caught up. -/
def notCaughtUpScenario : List IStep :=
  [.raftCommit (.create 0), .applyNext 0, .applyNext 1, .offServe 0 0, .reconcile 1 0, .applyNext 2, .offServe 0 0, .reconcile 2 0, .shrinkDecision 0 1, .raftCommit (.shrink 1), .applyNext 0, .commit 0, .publish 0 [{ mid := 0, cid := 100, policy := .all }], .fetch 2, .serve 0 0, .applyResp 2 0, .fetch 2, .serve 0 0, .applyResp 2 0, .commit 0, .commit 0, .fetch 1, .serve 0 0, .drop 0]

/-- In that state the leader has SEEN replica 1 within max lag time, has committed offset 0, and
its `tick` does not propose the re-entry of replica 1 (kernel evaluation of the regenerated rule). -/
theorem notCaughtUp_not_readmitted :
    (irun {} (init {}) notCaughtUpScenario).map (fun st =>
      ((st.get 0).map fun sv => (sv.seen.contains 1, lookup sv.caughtUp 1, sv.log.hw), (istep {} st (.expandDecision 0 1)).isSome)) =
    some (some (true, none, 0), false) := by
  decide +kernel

/-! ### 6. fetches of another term never count -/

/-- A follower's fetch carries its newest offset and the leader epoch it follows. -/
theorem fetch_carries_term (c : Cfg) (st st' : State) (f : Sid) (h : step c st (.fetch f) = some st') :
    ∃ sv, st.get f = some sv ∧ sv.role = .follower ∧
      st'.net = st.net ++ [.replReq f sv.log.newest sv.leaderEpoch (sv.rid + 1)] := by
  cases Steps.of_step h with
  | fetch sv hsv hr => exact ⟨sv, hsv, hr, rfl⟩

/-- A fetch naming another non-zero leader epoch changes nothing on the leader — not the recorded
ISR offset, not the commit-check signal, not the "seen"/"caught up" flags — and is not answered. -/
theorem other_term_fetch_ignored (c : Cfg) (sv : Srv) (src : Sid) (off : Int) (ep rid : Nat)
    (h0 : ep ≠ 0) (hne : ep ≠ sv.leaderEpoch) : serveStep c sv src off ep rid = (sv, []) := by
  unfold serveStep
  rw [if_pos ((rejectFetch_iff ep sv.leaderEpoch).mpr ⟨h0, hne⟩)]

/-- In every reachable state a server that follows (or leads, or reconciles) has a positive leader
epoch: the epoch is the index of a Raft entry. (Invariant over ALL steps, including crash, restart
with replay, elections and reconciliation.) So the zero-epoch escape of the term fence is never
taken by a fetch of the model's followers. -/
theorem follower_epoch_pos (c : Cfg) (st : State) (hr : Reachable c st) (s : Sid) (sv : Srv)
    (h : st.get s = some sv) (hrole : sv.role ≠ .idle) : 1 ≤ sv.leaderEpoch :=
  let g := epInv_reachable hr s sv h
  g.2 (g.1 hrole)

/-- A fetch sent in one term never contributes to a commit of a leader of ANOTHER term: whenever
the request `m` a reachable follower sends is served by a server whose leader epoch differs from
the one the follower follows — however much later, whatever happened in between — that server's
state (recorded ISR offsets, commit-check signal, flags, HW) is unchanged, nothing is acknowledged
and nothing is answered. -/
theorem stale_term_fetch_never_counts (c : Cfg) (st st1 : State) (f : Sid) (hr : Reachable c st)
    (hf : step c st (.fetch f) = some st1) :
    ∃ sv m, st.get f = some sv ∧ st1.net = st.net ++ [m] ∧
      ∀ (st2 st3 : State) (l : Sid) (lv : Srv), st2.get l = some lv → lv.leaderEpoch ≠ sv.leaderEpoch →
        step c st2 (.serve l m) = some st3 →
        st3.get l = some lv ∧ st3.acks = st2.acks ∧ st3.net = removeFirst st2.net m := by
  obtain ⟨sv, h1, h2, hnet⟩ := fetch_carries_term c st st1 f hf
  have hpos := follower_epoch_pos c st hr f sv h1 (by rw [h2]; decide)
  refine ⟨sv, _, h1, hnet, ?_⟩
  intro st2 st3 l lv hl hne hs
  cases Steps.of_step hs with
  | serve lv' _ _ _ _ hl' =>
    cases hl.symm.trans hl'
    rw [other_term_fetch_ignored c lv f _ _ _ (by omega) (Ne.symm hne)]
    exact ⟨get_set_self lv (get_lt hl), rfl, List.append_nil _⟩

/-- Guard scenario `stale-term-fetch-commits` (corpus/C02/guards): server 0 leads epoch 1, message 0
is committed everywhere, message 1 reaches replica 2 only; server 0 crashes, server 1 is elected
(epoch 2), drops server 0 from the ISR and receives message 2 (ALL) at offset 1; the last fetch of
replica 2's OLD replication loop (epoch 1, offset 1) is served by the new leader. -/
def staleFetchScenario : List IStep :=
  [.raftCommit (.create 0), .applyNext 0, .applyNext 1, .offServe 0 0, .reconcile 1 0, .applyNext 2, .offServe 0 0, .reconcile 2 0, .publish 0 [{ mid := 0, cid := 100, policy := .all }], .fetch 1, .serve 0 0, .applyResp 1 0, .fetch 2, .serve 0 0, .applyResp 2 0, .fetch 1, .serve 0 0, .applyResp 1 0, .fetch 2, .serve 0 0, .applyResp 2 0, .commit 0, .commit 0, .commit 0, .publish 0 [{ mid := 1, cid := 101, policy := .all }], .fetch 2, .serve 0 0, .applyResp 2 0, .crash 0, .electDecision 1, .raftCommit (.changeLeader 1), .applyNext 1, .shrinkDecision 1 0, .raftCommit (.shrink 0), .applyNext 1, .commit 1, .publish 1 [{ mid := 2, cid := 102, policy := .all }], .commit 1, .fetch 2, .serve 1 0]

/-- After it the new leader still records offset -1 for replica 2, no commit check is signalled,
its HW has not moved, message 2 is not acknowledged and no C02 / C04 monitor fires (kernel
evaluation through the regenerated fetch fields and rejection rule). -/
theorem staleFetch_not_counted :
    ((irun {} (init {}) staleFetchScenario).map fun st =>
      ((st.get 1).map fun sv => [(sv.leaderEpoch : Int), (lookup sv.isrOff 2).getD 99, sv.commitCheck, sv.log.hw],
       st.net.length, st.acks.map fun a => a.mid)) = some (some [2, -1, 0, -1], 0, [0]) ∧
    replayViol {} staleFetchScenario = some [] := by
  -- one evaluation for both conjuncts: the kernel meets the same `istep` terms in both runs and evaluates them once
  decide +kernel

/-- `expand_only_caught_up` is not vacuous: the expand proposal of the known-finding witness is enabled. -/
example : ((irun {} (init {}) (isrReentryWitness.take 25)).bind fun st => istep {} st (.expandDecision 0 1)).isSome = true := by
  decide +kernel

/-- `stale_term_fetch_never_counts` is not vacuous: the stale fetch of the guard scenario is sent by a
reachable follower of epoch 1 and served by the leader of epoch 2. -/
example : ((irun {} (init {}) (staleFetchScenario.take 38)).map fun st =>
    ((st.get 2).map fun sv => (sv.role, sv.leaderEpoch), (st.get 1).map fun sv => (sv.role, sv.leaderEpoch))) =
    some (some (.follower, 1), some (.leader, 2)) := by
  decide +kernel

example : EpochsOK ([(1, -1), (2, 0), (3, 1)] : Epochs) := by
  unfold EpochsOK; decide

example : (Epochs.lastOffsetFor [(1, -1), (2, 0), (3, 1)] 1, Epochs.lastOffsetFor [(1, -1), (2, 0), (3, 1)] 3) = (0, -1) := by
  decide +kernel

/-- The hypotheses of `C02_partial` are satisfiable: the elected leader of the example above. -/
example : (followerLog.truncate (leaderByElection.lastOffsetForLeaderEpoch 1 + 1)).abs = [recOf 0 1 0] := by
  decide +kernel

/-- `TermInv` holds initially (`termInv_init`: for every positive segment size; here the default). -/
example : TermInv (init {}) := termInv_init {} (by decide)

end Liftbridge.Props.C02
