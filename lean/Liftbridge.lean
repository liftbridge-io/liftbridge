import Liftbridge.Base
import Liftbridge.Cmp
import Liftbridge.BExp
import Liftbridge.Model.Envelope
import Liftbridge.Model.Log
import Liftbridge.Model.Retention
import Liftbridge.Model.Compact
import Liftbridge.Model.Subscribe
import Liftbridge.Model.Sequencer
import Liftbridge.Model.TelemetryCfg
import Liftbridge.Model.Authz
import Liftbridge.Model.Groups
import Liftbridge.Model.Seal
import Liftbridge.Model.SealSite
import Liftbridge.Model.SealPipe
import Liftbridge.Model.GroupSub
import Liftbridge.Model.Activity
import Liftbridge.Model.Failover
import Liftbridge.Model.Metadata
import Liftbridge.Model.Recover
import Liftbridge.Model.Protocol
import Liftbridge.Model.Codec
import Liftbridge.Model.Cursors
import Liftbridge.Model.HWReader
import Liftbridge.Props.C01
import Liftbridge.Props.C02
import Liftbridge.Props.C03
import Liftbridge.Props.C04
import Liftbridge.Props.C04Pipeline
import Liftbridge.Props.C05
import Liftbridge.Props.C06
import Liftbridge.Props.C07
import Liftbridge.Props.C08
import Liftbridge.Props.C09
import Liftbridge.Props.C10
import Liftbridge.Props.C11
import Liftbridge.Props.C11Keys
import Liftbridge.Props.C12
import Liftbridge.Props.C13
import Liftbridge.Props.C14
import Liftbridge.Props.C15
import Liftbridge.Props.C16
import Liftbridge.Props.C16Seq
import Liftbridge.Props.C17
import Liftbridge.Props.C17Pipe
import Liftbridge.Props.C18
import Liftbridge.Props.C19
import Liftbridge.Props.CleanRace
import Liftbridge.Props.Codec
import Liftbridge.Props.GoAck
import Liftbridge.Props.GoActivity
import Liftbridge.Props.GoAppend
import Liftbridge.Props.GoAppendTop
import Liftbridge.Props.GoAuthz
import Liftbridge.Props.GoCommit
import Liftbridge.Props.GoCompact
import Liftbridge.Props.GoCompactAux
import Liftbridge.Props.GoCursors
import Liftbridge.Props.GoElect
import Liftbridge.Props.GoEnvelope
import Liftbridge.Props.GoEpochCache
import Liftbridge.Props.GoFSM
import Liftbridge.Props.GoFailover
import Liftbridge.Props.GoFence
import Liftbridge.Props.GoGroupSub
import Liftbridge.Props.GoGroups
import Liftbridge.Props.GoHW
import Liftbridge.Props.GoHWPos
import Liftbridge.Props.GoLogEpoch
import Liftbridge.Props.GoMessageSet
import Liftbridge.Props.GoMetaApply
import Liftbridge.Props.GoNatsMsg
import Liftbridge.Props.GoPartition
import Liftbridge.Props.GoReaderNew
import Liftbridge.Props.GoRecover
import Liftbridge.Props.GoReplication
import Liftbridge.Props.GoRetention
import Liftbridge.Props.GoRevScan
import Liftbridge.Props.GoSeal
import Liftbridge.Props.GoSegFiles
import Liftbridge.Props.GoSegments
import Liftbridge.Props.GoSplit
import Liftbridge.Props.GoStreamConfig
import Liftbridge.Props.GoSubEntry
import Liftbridge.Props.GoSubscribe
import Liftbridge.Props.GoTelemetry
import Liftbridge.Props.GoTimestamps
import Liftbridge.Props.GoTruncate
-- no Props module imports this one; it is imported here so that `lake build` checks it
import Liftbridge.Proofs.LogInvNote
import Liftbridge.Search.Protocol
